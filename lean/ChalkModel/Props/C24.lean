/-
  C24 — parsing and lowering never crash (lowering part; the LALRPOP-generated parser has no
  executable model and is covered by the differential/fuzz run only).

  Model: `ChalkModel/Resolve.lean` (name resolution + lowering of chalk-integration as a total
  function into `ok | err kind | panic site`, every unwrap / indexing / panic! of lowering.rs,
  lowering/env.rs, lowering/program_lowerer.rs being a named `panic` outcome; table in that file).

  * `lower_no_panic`, `lower_goal_no_panic`: FULL strength, for the code as repaired in /repo
    (F6 c9a5508, F6b 82a1542): for every program AST, and for every goal AST against every
    successfully lowered program, the outcome is `ok` or an error, never one of the panic sites.
  * `legacy_panics_F6*`: the same statements are FALSE of the code before the repairs (witnesses
    are the minimal inputs of known_findings.json, also replayed on the real code from corpus/C24).
  Out of the model's reach: native stack exhaustion on deeply nested input (finding F6d, open).
-/
import ChalkModel.Lemmas.ResolveLemmas

namespace Chalk.Resolve

/-- Lowering a program never panics: for every AST the result of `Program::lower` (as repaired)
    is `Ok` or one of the `RustIrError`s. -/
theorem lower_no_panic : ∀ (ast : AProgram) (s : Site), lowerProgram .fixed ast ≠ .panic s :=
  fun ast => lowerProgram_noPanic ast

/-- Lowering a goal against any successfully lowered program never panics. -/
theorem lower_goal_no_panic : ∀ (ast : AProgram) (prog : Lowered) (g : AGoal) (s : Site),
    lowerProgram .fixed ast = .ok prog → lowerGoalTop .fixed prog g ≠ .panic s :=
  fun _ _ g s h => lowerGoalTop_noPanic (lowerProgram_wf h) g s

/-- Both entry points as the harness drives them: no component of the outcome is a panic. -/
theorem lower_both_no_panic : ∀ (ast : AProgram) (g : Option AGoal) (s : Site),
    (lowerBoth .fixed ast g).1 ≠ .panic s ∧ (lowerBoth .fixed ast g).2 ≠ some (.panic s) := by
  intro ast g s
  cases h : lowerProgram .fixed ast with
  | ok prog =>
    cases g with
    | none => simp [lowerBoth, h, Outcome.void]
    | some g =>
      have := lower_goal_no_panic ast prog g s h
      simp [lowerBoth, h]
      exact this
  | err e => cases g <;> simp [lowerBoth, h, Outcome.void]
  | panic s' => exact absurd h (lower_no_panic ast s')

/-- totality, positively: every program lowers to `ok` or to an error kind -/
theorem lower_total (ast : AProgram) :
    (∃ prog, lowerProgram .fixed ast = .ok prog) ∨ (∃ e, lowerProgram .fixed ast = .err e) := by
  cases h : lowerProgram .fixed ast with
  | ok prog => exact Or.inl ⟨prog, rfl⟩
  | err e => exact Or.inr ⟨e, rfl⟩
  | panic s => exact absurd h (lower_no_panic ast s)

/-! ### The defects, on the model of the code before the repairs -/

def sS : AItem := .adt "S" [] false .nil [] none
def sFoo : AItem := .trait "Foo" [] false [] []
def sBar : AItem := .trait "Bar" [] false [] []
def sE : AItem := .foreign "E"
def applied (n : String) : ATy := .apply n (.cons (.id "S") .nil)

/-- F6, goal position: `trait Foo{} trait Bar{} struct S{}`, goal `Foo<S>: Bar` -/
def f6Program : AProgram := [sFoo, sBar, sS]
def f6Goal : AGoal := .leaf (.domain (.holds (.implemented ⟨applied "Foo", "Bar", .nil⟩)))

theorem legacy_panics_F6_goal :
    (lowerBoth .legacy f6Program (some f6Goal)).2 = some (.panic .unexpectedApplyType) := rfl

/-- F6, program position: a field of type `Foo<S>`; and an extern type `E<S>` -/
theorem legacy_panics_F6_field :
    (lowerBoth .legacy [sFoo, sS, .adt "T" [] false (.cons (applied "Foo") .nil) [] none] none).1
      = .panic .unexpectedApplyType := rfl

theorem legacy_panics_F6_foreign :
    (lowerBoth .legacy [sE, sS, .adt "T" [] false (.cons (applied "E") .nil) [] none] none).1
      = .panic .unexpectedApplyType := rfl

/-- F6b: `trait Foo{} struct S{} impl Foo for S { type X = S; }` -/
def f6bProgram : AProgram := [sFoo, sS, .impl [] true ⟨.id "S", "Foo", .nil⟩ [] [⟨"X", [], .id "S"⟩]]

theorem legacy_panics_F6b : (lowerBoth .legacy f6bProgram none).1 = .panic .implAssocLookupIndex := rfl

/-- so the full-strength statement is false of the unrepaired code -/
theorem legacy_lower_no_panic_false : ¬ ∀ (ast : AProgram) (s : Site), lowerProgram .legacy ast ≠ .panic s :=
  fun h => h f6bProgram .implAssocLookupIndex rfl

/-! ### The repaired code on the same inputs (errors, as the real code now answers) -/

example : lowerBoth .fixed f6Program (some f6Goal) = (.ok (), some (.err .NotStruct)) := rfl
example : (lowerBoth .fixed [sE, sS, .adt "T" [] false (.cons (applied "E") .nil) [] none] none).1
    = .err .IncorrectNumberOfTypeParameters := rfl
example : (lowerBoth .fixed f6bProgram none).1 = .err .MissingAssociatedType := rfl

/-- non-vacuity of `lower_goal_no_panic`'s hypothesis: a program with a struct, a trait with an
    associated type and an impl that gives it a value lowers, and a goal that uses the associated
    type lowers against it -/
def sampleProgram : AProgram :=
  [ .adt "V" [⟨.ty, "T"⟩] false (.cons (.id "T") .nil) [] none,
    .trait "It" [] false [] [⟨"Item", [], .nil, []⟩],
    .impl [⟨.ty, "T"⟩] true ⟨.apply "V" (.cons (.id "T") .nil), "It", .nil⟩ [] [⟨"Item", [], .id "T"⟩] ]

def sampleGoal : AGoal :=
  .quant [⟨.ty, "X"⟩]
    (.leaf (.domain (.normalize ⟨⟨.apply "V" (.cons (.id "X") .nil), "It", .nil⟩, "Item", .nil⟩ (.id "X"))))

example : lowerBoth .fixed sampleProgram (some sampleGoal) = (.ok (), some (.ok ())) := rfl

end Chalk.Resolve

#print axioms Chalk.Resolve.lower_no_panic
#print axioms Chalk.Resolve.lower_goal_no_panic
#print axioms Chalk.Resolve.lower_both_no_panic
#print axioms Chalk.Resolve.lower_total
#print axioms Chalk.Resolve.legacy_panics_F6_goal
#print axioms Chalk.Resolve.legacy_panics_F6_field
#print axioms Chalk.Resolve.legacy_panics_F6_foreign
#print axioms Chalk.Resolve.legacy_panics_F6b
#print axioms Chalk.Resolve.legacy_lower_no_panic_false
