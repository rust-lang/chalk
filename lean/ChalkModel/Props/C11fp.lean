/-
  C11fp — C11 ("interrupted solving is a safe approximation") for CYCLIC ground instances of one
  polarity (`Props/C11.lean` has the acyclic case).

  Model: `FixedPoint.lean`.  `should_continue` is the oracle of the state (`St.oracle`,
  then `St.oracleDefault`; per call `Call.oracle` / `Call.dflt`); when it answers `false`,
  `solve_iteration` returns `ambig` and (repair F3) sets `interrupted`, and while `interrupted` is set
  no component is moved to the cache.  Proofs: `Lemmas/FixedPointSem*.lean` — the invariant of
  `Props/C05fp.lean` with a third value: `ambig` occurs only once `interrupted` is set, definite
  answers keep their justification, the cache holds final answers only;
  `Lemmas/FixedPointHistory.lean` goes from `solve_root_goal` to histories of calls.

  Class of instances: `Cyc.Hyp c inst dom`.  Configuration: the repairs `fixF3`, `fixF7`, `fixF10` and
  `fixF16` (F10: the nodes computed from an outdated provisional answer are rolled back when the loop stops
  on `ambig`; `fixF16`, the repair of `recursive_unwrap_after_interrupt`, F25: the last pass of
  `Fulfill::solve` propagates `NoSolution`), `dom.length ≤ overflowDepth`,
  `2 ≤ rounds`; cache on or off; ANY oracle, ANY work budget.

    `interrupted_is_safe_approximation` — `solve_root_goal` with an arbitrary oracle (no budget) on a
        state with a correct cache returns (no panic) the fixed-point answer or `ambig` — never the
        wrong definite answer; `ambig` only if solving was interrupted; it is exact if the oracle
        never says stop; the cache it leaves is correct, stack and graph are empty;
    `history_with_interruptions_correct` — a history of arbitrary calls (any oracle, any budget) on one
        fresh solver: every outcome is the budget panic, the fixed-point answer, or `ambig` for an
        interrupted call; the cache stays correct; the next plain call returns the fixed-point answer;
    `coinductive_exact_after_interruptions`, `inductive_exact_after_interruptions` — spelled out.
-/
import ChalkModel.Lemmas.FixedPointSemN

namespace Chalk.FixedPoint.C11fp
open Chalk.FixedPoint.Cyc

/-- interrupted solving is a safe approximation -/
theorem interrupted_is_safe_approximation (c : Bool) (inst : Instance) (dom : List Nat) (hyp : Hyp c inst dom)
    (overflowDepth rounds : Nat) (hov : dom.length ≤ overflowDepth) (hr : 2 ≤ rounds)
    (s : St) (hok : ∀ k v, InCache s k v → Corr c inst k v) (g : Nat) (hg : g ∈ dom) :
    ∃ v s', solveRootGoal inst (Cfg.current overflowDepth rounds) g s = .ok v s' ∧
      (Corr c inst g v ∨ v = .ambig) ∧ (v = .ambig → s'.interrupted = true) ∧
      (s.oracle = [] ∧ s.oracleDefault = true → Corr c inst g v) ∧
      s'.stack = [] ∧ s'.graph = [] ∧ s'.cache.isSome = s.cache.isSome ∧
      (∀ k w, InCache s' k w → Corr c inst k w) :=
  (solveRootGoal_general (fx := true) hyp rfl rfl (fun _ => rfl) (fun _ => rfl) hov hr).approx rfl
    (fun _ h => h.elim (fun a => top_ne_ambig c a.1.symm) (fun a => bot_ne_ambig c a.1.symm)) s hok g hg

/-- histories of arbitrary calls: any oracle, any work budget -/
theorem history_with_interruptions_correct (c : Bool) (inst : Instance) (dom : List Nat) (hyp : Hyp c inst dom)
    (cfg : Cfg) (h3 : cfg.fixF3 = true) (h7 : cfg.fixF7 = true) (h10 : cfg.fixF10 = true)
    (h16 : cfg.fixF16 = true) (hov : dom.length ≤ cfg.overflowDepth) (hr : 2 ≤ cfg.rounds) (b : Bool)
    (ks : List Call) (hd : ∀ k, k ∈ ks → k.goal ∈ dom) (g : Nat) (hg : g ∈ dom) :
    (∀ (i : Nat) (k : Call), ks[i]? = some k →
      (outcomes inst cfg ks (St.fresh b))[i]? = some (.panic .budget) ∧ k.budget ≠ none ∨
      ∃ v, (outcomes inst cfg ks (St.fresh b))[i]? = some (.value v) ∧
        (Corr c inst k.goal v ∨ (v = .ambig ∧ ¬ (k.oracle = [] ∧ k.dflt = true)))) ∧
    (∀ k w, InCache (runHistory inst cfg ks (St.fresh b)) k w → Corr c inst k w) ∧
    ∃ v, solveOn inst cfg g (runHistory inst cfg ks (St.fresh b)) = .value v ∧ Corr c inst g v :=
  RootSpec.history (fun _ => solveRootGoal_general hyp h3 h7 (fun _ => h10) (fun _ => h16) hov hr) ks
    (fun k hk => ⟨Or.inl rfl, hd k hk⟩) _ (CacheAll.fresh _ b) g hg

/-- coinductive instances: after any interruptions (and panics) the next plain call is the gfp answer -/
theorem coinductive_exact_after_interruptions (inst : Instance) (dom : List Nat) (hyp : Hyp true inst dom)
    (cfg : Cfg) (h3 : cfg.fixF3 = true) (h7 : cfg.fixF7 = true) (h10 : cfg.fixF10 = true)
    (h16 : cfg.fixF16 = true) (hov : dom.length ≤ cfg.overflowDepth) (hr : 2 ≤ cfg.rounds) (b : Bool)
    (ks : List Call) (hd : ∀ k, k ∈ ks → k.goal ∈ dom) (g : Nat) (hg : g ∈ dom) :
    ∃ v, solveOn inst cfg g (runHistory inst cfg ks (St.fresh b)) = .value v ∧
      (v = .unique ↔ InGfp inst g) ∧ (v = .noSolution ↔ ¬ InGfp inst g) := by
  obtain ⟨v, h1, h2⟩ := (history_with_interruptions_correct _ inst dom hyp cfg h3 h7 h10 h16 hov hr b ks hd g hg).2.2
  obtain ⟨a, b, _⟩ := definite_iff ((corr_true inst g v).mp h2)
  exact ⟨v, h1, a, b⟩

/-- inductive instances: … the lfp answer -/
theorem inductive_exact_after_interruptions (inst : Instance) (dom : List Nat) (hyp : Hyp false inst dom)
    (cfg : Cfg) (h3 : cfg.fixF3 = true) (h7 : cfg.fixF7 = true) (h10 : cfg.fixF10 = true)
    (h16 : cfg.fixF16 = true) (hov : dom.length ≤ cfg.overflowDepth) (hr : 2 ≤ cfg.rounds) (b : Bool)
    (ks : List Call) (hd : ∀ k, k ∈ ks → k.goal ∈ dom) (g : Nat) (hg : g ∈ dom) :
    ∃ v, solveOn inst cfg g (runHistory inst cfg ks (St.fresh b)) = .value v ∧
      (v = .unique ↔ InLfp inst g) ∧ (v = .noSolution ↔ ¬ InLfp inst g) := by
  obtain ⟨v, h1, h2⟩ := (history_with_interruptions_correct _ inst dom hyp cfg h3 h7 h10 h16 hov hr b ks hd g hg).2.2
  obtain ⟨a, b, _⟩ := definite_iff ((corr_false inst g v).mp h2)
  exact ⟨v, h1, a, b⟩

/-! ### non-vacuity -/

/-- `0 :- 3, 2, 1.  1 :- 0.  2 :- 1.` (`3` has no clause) -/
def retract (co : Bool) : Instance :=
  Instance.ofTable [(co, true, [[3, 2, 1]]), (co, true, [[0]]), (co, true, [[1]]), (co, true, [])]

/-- `0 :- 1.  1 :- 2 | 0.  2 :- 0, 1.` -/
def knot (co : Bool) : Instance :=
  Instance.ofTable [(co, true, [[1]]), (co, true, [[2], [0]]), (co, true, [[0, 1]])]

theorem retract_hyp (co : Bool) : Hyp co (retract co) [0, 1, 2, 3] := by
  cases co <;> exact ⟨by decide, by decide, by decide⟩

theorem knot_hyp (co : Bool) : Hyp co (knot co) [0, 1, 2] := by
  cases co <;> exact ⟨by decide, by decide, by decide⟩

/-- the oracle that says "stop" at the `k`-th call of `should_continue` -/
def stopAt (g k : Nat) : Call := { goal := g, oracle := List.replicate k true ++ [false] }

/-- `retract`, goal `0`, interrupted at the `k`-th call of `should_continue` for every `k` that a clean
    run reaches (it makes 6 calls), followed by plain solves of `0` and `2`: the interrupted call
    answers `ambig` or the exact `noSolution`, the plain calls are exact -/
example :
    (List.range 6).map (fun k => outcomes (retract true) (Cfg.current 4 2)
        [stopAt 0 k, Call.plain 0, Call.plain 2] (St.fresh true)) =
      [[.value .ambig, .value .noSolution, .value .noSolution],
       [.value .noSolution, .value .noSolution, .value .noSolution],
       [.value .noSolution, .value .noSolution, .value .noSolution],
       [.value .noSolution, .value .noSolution, .value .noSolution],
       [.value .ambig, .value .noSolution, .value .noSolution],
       [.value .noSolution, .value .noSolution, .value .noSolution]] := by decide +kernel

/-- interrupted in the second round of the loop (`k = 4`): the answer is `ambig`, nothing provisional
    was cached (only the final entry for `3`, cached before the interruption) -/
example :
    cacheDump (runHistory (retract true) (Cfg.current 4 2) [stopAt 0 4] (St.fresh true)) = [(3, .noSolution)] ∧
    cacheDump (runHistory (retract true) (Cfg.current 4 2) [stopAt 0 0] (St.fresh true)) = [] := by decide +kernel

/-- the knot, where the exact answer is `unique`: every interruption gives `ambig` or `unique` -/
example :
    ((List.range 6).all fun k =>
      (outcomes (knot true) (Cfg.current 3 2) [stopAt 0 k, Call.plain 0, Call.plain 2] (St.fresh true)).all
        fun o => o == .value .ambig || o == .value .unique) = true ∧
    outcomes (knot true) (Cfg.current 3 2) [stopAt 0 1, Call.plain 0] (St.fresh true) =
      [.value .ambig, .value .unique] := by decide +kernel

/-- the theorem, instantiated: whatever was interrupted before, goal `0` of the knot then holds -/
example (ks : List Nat) (b : Bool) :
    ∃ v, solveOn (knot true) (Cfg.current 3 2) 0
      (runHistory (knot true) (Cfg.current 3 2) (ks.map (stopAt 0)) (St.fresh b)) = .value v ∧
      (v = .unique ↔ InGfp (knot true) 0) :=
  let ⟨v, h1, h2, _⟩ := coinductive_exact_after_interruptions (knot true) [0, 1, 2] (knot_hyp true)
    (Cfg.current 3 2) rfl rfl rfl rfl (by decide) (by decide) b (ks.map (stopAt 0))
    (by
      intro k hk
      obtain ⟨n, _, rfl⟩ := List.mem_map.mp hk
      simp [stopAt]) 0 (by decide)
  ⟨v, h1, h2⟩

end Chalk.FixedPoint.C11fp

#print axioms Chalk.FixedPoint.C11fp.interrupted_is_safe_approximation
#print axioms Chalk.FixedPoint.C11fp.history_with_interruptions_correct
#print axioms Chalk.FixedPoint.C11fp.coinductive_exact_after_interruptions
#print axioms Chalk.FixedPoint.C11fp.inductive_exact_after_interruptions
#print axioms Chalk.FixedPoint.C11fp.retract_hyp
#print axioms Chalk.FixedPoint.C11fp.knot_hyp
