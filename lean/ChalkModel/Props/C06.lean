/-
  C06 — hypotheses and implied bounds yield exactly their consequences.
  The oracle is the certified Stage-A evaluator on the Horn program consisting of the impl clauses
  plus, for every trait `Tr<P̄>` with where-clauses `W̄` (supertraits `Self: Sup`, bounds on its own
  parameters), the *environment clauses*
        Tr(x̄)      :- env:Tr(x̄)            (a hypothesis can be used)
        env:W(x̄)   :- env:Tr(x̄)            (a hypothesis implies the trait's where-clauses)
  with hypotheses `if (T: Tr)` entering as `env:Tr(T)`.  Implied bounds thus follow only from
  hypotheses (never from impls), and only inside the scope of the `if`.
-/
import ChalkModel.Props.C06sem
import ChalkModel.OpsSem

namespace Chalk.C06
open Chalk.Sem

def envPred (p : String) : String := "env:" ++ p

/-- `Tr(x̄) :- env:Tr(x̄)` for a trait head `h` over variables -/
def useHyp (h : Atom) : Clause := ⟨h, [⟨envPred h.pred, h.args⟩]⟩
/-- `env:W(x̄) :- env:Tr(x̄)` for a where-clause `w` of the trait with head `h` -/
def implied (h w : Atom) : Clause := ⟨⟨envPred w.pred, w.args⟩, [⟨envPred h.pred, h.args⟩]⟩

/-- a hypothesis is a fact of its scope -/
theorem hypothesis_holds (P : Program) (Γ : List Atom) (a : Atom) (h : a ∈ Γ) : Holds P Γ a :=
  Holds.of_mem h

/-- …and can be used to prove the trait predicate itself (inductive traits) -/
theorem hypothesis_usable (P : Program) (Γ : List Atom) (hd : Atom) (σ : Nat → Tm)
    (hc : useHyp hd ∈ P.clauses) (hind : P.coind hd.pred = false)
    (hh : (⟨envPred hd.pred, hd.args⟩ : Atom).inst σ ∈ Γ) : Holds P Γ (hd.inst σ) :=
  Holds.closed (Or.inr (Or.inr ⟨hind, useHyp hd, hc, σ, rfl,
    fun _ hb => List.mem_singleton.mp hb ▸ Holds.of_mem hh⟩))

/-- a hypothesis `env:Tr(σ x̄)` implies each where-clause of `Tr` as a hypothesis-level fact
    (so the closure under supertraits — diamonds and cycles included — is the least fixed point) -/
theorem implied_bound (P : Program) (Γ : List Atom) (hd w : Atom) (σ : Nat → Tm)
    (hc : implied hd w ∈ P.clauses) (hind : P.coind (envPred w.pred) = false)
    (hh : Holds P Γ ((⟨envPred hd.pred, hd.args⟩ : Atom).inst σ)) :
    Holds P Γ ((⟨envPred w.pred, w.args⟩ : Atom).inst σ) :=
  Holds.closed (Or.inr (Or.inr ⟨hind, implied hd w, hc, σ, rfl,
    fun _ hb => List.mem_singleton.mp hb ▸ hh⟩))

/-- Scoping: hypotheses are visible exactly inside their `if`; a sibling goal outside sees only the
    outer `Γ` (this is `C06sem.sibling_evaluated_outside` with the `if` unfolded). -/
theorem hypotheses_scoped (P : Program) (Γ hyps : List Atom) (g g' : Goal) :
    GHolds P Γ (.and (.implies hyps g) g') ↔ (GHolds P (hyps ++ Γ) g ∧ GHolds P Γ g') :=
  Chalk.C06sem.sibling_evaluated_outside P Γ hyps g g'

/-- More hypotheses never destroy a proof of an atom: `C06sem.holds_weaken`, which needs no `hP`. -/
theorem holds_mono_hyps (P : Program) (hP : ∀ p, P.coind p = false) (Γ Δ : List Atom) (hsub : ∀ a, a ∈ Γ → a ∈ Δ)
    (a : Atom) (h : Holds P Γ a) : Holds P Δ a :=
  Chalk.C06sem.holds_weaken P Γ Δ hsub a h

/-- Certification of answers: `C06sem.decide_yes`, `C06sem.decide_no` again (as in C02). -/
theorem decide_yes (P : Program) (fuel : Nat) (Γ : List Atom) (g : Goal)
    (h : evalGoal P fuel Γ g = .yes) : GHolds P Γ g := Chalk.C06sem.decide_yes P fuel Γ g h
theorem decide_no (P : Program) (fuel : Nat) (Γ : List Atom) (g : Goal)
    (h : evalGoal P fuel Γ g = .no) : ¬ GHolds P Γ g := Chalk.C06sem.decide_no P fuel Γ g h

/-- Non-vacuity: `trait Ord where Self: Eq`; under `X: Ord`, `X: Eq` is certified; outside the `if`
    it is refuted. -/
def demo : Program :=
  ⟨[useHyp ⟨"Ord", .cons (.var 0) .nil⟩, useHyp ⟨"Eq", .cons (.var 0) .nil⟩,
    implied ⟨"Ord", .cons (.var 0) .nil⟩ ⟨"Eq", .cons (.var 0) .nil⟩], fun _ => false⟩
example : evalGoal demo 10 [] (.implies [⟨"env:Ord", .cons (.app "!f1" .nil) .nil⟩]
    (.atom ⟨"Eq", .cons (.app "!f1" .nil) .nil⟩)) = .yes := by rfl
example : evalGoal demo 10 [] (.atom ⟨"Eq", .cons (.app "!f1" .nil) .nil⟩) = .no := by rfl

end Chalk.C06

#print axioms Chalk.C06.hypothesis_holds
#print axioms Chalk.C06.hypothesis_usable
#print axioms Chalk.C06.implied_bound
#print axioms Chalk.C06.hypotheses_scoped
#print axioms Chalk.C06.holds_mono_hyps
#print axioms Chalk.C06.decide_yes
#print axioms Chalk.C06.decide_no
