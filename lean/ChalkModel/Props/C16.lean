/-
  C16 — canonical forms identify queries up to renaming.
  Models: `Canon.lean`, `UCanon.lean`, `Invert.lean` (+ the stateful traversal `SFold.lean`);
  lemmas: `Lemmas/{CanonLemmas,CanonClosed,CanonOcc,CanonFinal,UCanonLemmas}.lean` and what they import.
-/
import ChalkModel.Lemmas.CanonLemmas
import ChalkModel.Lemmas.CanonClosed
import ChalkModel.Lemmas.CanonOcc
import ChalkModel.Lemmas.CanonFinal
import ChalkModel.Lemmas.UCanonLemmas
import ChalkModel.Invert

namespace Chalk.C16

/-- First-occurrence numbering.  Let `log` be the list of `(kind, root)` of the unbound variables
    met by the canonicalizer's traversal (`Table.occurrences`: the same walk, through the values of
    bound variables, without numbering).  Then `free_vars` is exactly `firstOccurrences log`: the
    first occurrence of each distinct root, in order of first occurrence — so no root is listed
    twice, every listed pair is an occurrence, every root that occurs is listed, and the i-th canonical
    binder is (kind of that first occurrence, universe of the i-th root). -/
theorem canon_first_occurrence (t : Table) (fuel : Nat) (v : Args) (c : Canonicalized Args)
    (h : t.canonicalizeFuel fuel v = .ok c) :
    ∃ resolved log, t.occurrences fuel v = .ok (resolved, log) ∧
      c.freeVars = firstOccurrences log ∧
      (c.freeVars.map (·.2)).Nodup ∧
      (∀ p ∈ c.freeVars, p ∈ log) ∧
      (∀ r ∈ log.map (·.2), r ∈ c.freeVars.map (·.2)) ∧
      (∀ (i : Nat) (k : VarKind) (r : Nat), c.freeVars[i]? = some (k, r) →
        ∃ u, t.universeOfUnbound r = .ok u ∧ c.quantified.binders[i]? = some (k, u)) := by
  obtain ⟨val, st, bs, hrun, hb, rfl⟩ := canonicalizeFuel_eq_ok h
  have h0 : OccRel ({} : CState) [] := rfl
  obtain ⟨resolved, log, hocc, _, hrel⟩ := sfoldArgs_sim (occ_handlers t fuel) 0 v {} [] h0 val st hrun
  have hrel : st.freeVars = firstOccurrences log := hrel
  refine ⟨resolved, log, hocc, hrel, ?_, ?_, ?_, intoBinders_spec t st.freeVars bs hb⟩
  · show (st.freeVars.map (·.2)).Nodup
    rw [hrel]; exact firstOccurrences_nodup log
  · intro p hp
    have hp : p ∈ firstOccurrences log := hrel ▸ hp
    exact (foldl_addIfNew_sub log [] p hp).resolve_left List.not_mem_nil
  · intro r hr
    show r ∈ st.freeVars.map (·.2)
    rw [hrel]; exact (foldl_addIfNew_complete log []).2 r hr

/-- The numbering itself: the canonical value is the input in which every unbound variable `?x` is
    replaced by `^d.i` where `i` is the position of the union-find root of `?x` in `free_vars`
    (and `d` the number of binders of the value entered), and every bound variable by the value
    numbered the same way (`numFolder`, a stateless substitution determined by the FINAL
    `free_vars`).  Together with `canon_first_occurrence` (what `free_vars` is): `^0.i` stands for
    the i-th distinct unbound root in order of first occurrence. -/
theorem canon_numbering (t : Table) (fuel : Nat) (v : Args) (c : Canonicalized Args)
    (h : t.canonicalizeFuel fuel v = .ok c) :
    foldArgs (numFolder t c.freeVars fuel) 0 v = .ok c.quantified.value := by
  obtain ⟨val, st, bs, hrun, hb, rfl⟩ := canonicalizeFuel_eq_ok h
  exact (sfoldArgs_final (num_handlers t fuel) 0 v {} val st hrun).2 st (List.prefix_refl _)

/-- Closedness of canonical forms: the canonical value contains no inference variable, and every
    bound variable that is free in it is `^0.i` (seen from the top; `^d.i` under `d` binders of the
    value itself) with `i <` the number of canonical binders; the binder list and `free_vars` have
    the same length.  For every table — including bound variables whose values are folded through
    and shifted — every value and every look-up budget. -/
theorem canon_closed (t : Table) (fuel : Nat) (v : Args) (c : Canonicalized Args)
    (h : t.canonicalizeFuel fuel v = .ok c) :
    c.quantified.value.closedAt c.quantified.binders.length 0 = true ∧
    c.quantified.binders.length = c.freeVars.length := by
  obtain ⟨val, st, bs, hrun, hb, rfl⟩ := canonicalizeFuel_eq_ok h
  have hlen : bs.length = st.freeVars.length := intoBinders_length t _ _ hb
  obtain ⟨_, hc⟩ := sfoldArgs_closed (canonFolder_closed t fuel) 0 v {} val st hrun
  exact ⟨hc bs.length (Nat.le_of_eq hlen.symm), hlen⟩

/-- Instantiating a canonical value that is numbered by first occurrence (`WellNumbered`: variables
    `^0.i` first appear in the order 0,1,2,…, sorts agree with the binders, every binder used, no
    inference variables) with fresh variables and canonicalizing again gives it back — binders
    (every kind: general/integer/float type, lifetime, const; any universes) and value.
    For every table (with one value/parent entry per variable), at the look-up budget
    `canonicalize` uses (the number of variables). -/
theorem canon_roundtrip (t : Table) (ht : t.Aligned) (c : Canon Args) (hwn : WellNumbered c) :
    ∃ v t', t.instantiateCanonical c = .ok (v, t') ∧
      ∃ cz, t'.canonicalize v = .ok cz ∧ cz.quantified = c ∧ cz.freeVars = freshVars t.numVars c.binders := by
  obtain ⟨bs, val⟩ := c
  simp only [WellNumbered] at hwn
  have H := round_handlers t ht bs (t.freshSubst bs).1.numVars
  have h0 : RoundRel bs t.numVars 0 ({} : CState) := ⟨Nat.zero_le _, by simp [freshVars]⟩
  obtain ⟨b, st, hrun, hb, hn, hfv⟩ := sfoldArgs_sim H 0 val 0 {} h0 val bs.length hwn
  have hb : val = b := (hb trivial).symm
  subst hb
  obtain ⟨v, hinst, hcanon⟩ := sfoldArgs_comp (canonFolder_noTyFold _ _) 0 val {} _ hrun
  refine ⟨v, (t.freshSubst bs).1, by simp [Table.instantiateCanonical, hinst], ?_⟩
  rw [List.take_length] at hfv
  have hbind : intoBinders (t.freshSubst bs).1 (freshVars t.numVars bs) = .ok bs :=
    intoBinders_fresh _ bs t.numVars (fun i k u hi => (freshSubst_var t ht bs i k u hi).2.2)
  refine ⟨_, by simp [Table.canonicalize, Table.canonicalizeFuel, hcanon, canonFinish, hfv, hbind]; rfl, rfl, rfl⟩

/-- Non-vacuity, and "the canonicalizer produces well-numbered values" on a concrete input: a table
    with universes U0,U1, `?0` (U1) and `?1` (U0) unbound, `?2 := Vec<?0>`, `?3` (U1) unified with
    `?1`, a lifetime variable `'?4` (U0); the value `[?3, ?2, '?4, fn(?2, ^0.0), ?0]`.
    The canonical form is `[^0.0, Vec<^0.1>, '^0.2, fn(Vec<^1.1>, ^0.0), ^0.1]` with binders
    `[(ty, U0), (ty, U1), (lifetime, U0)]` (the class of `?1/?3` has the smaller universe) — and it is `WellNumbered`. -/
def exTable : Table :=
  let t0 := Table.new.newUniverse.1
  let t1 := (t0.newVariable 1).1
  let t2 := (t1.newVariable 0).1
  let t3 := (t2.newVariable 1).1
  let t4' := (t3.newVariable 1).1
  let t4 := (t4'.newVariable 0).1
  let t5 := match t4.unifyVarValue 2 (.bound (.ty (.app (.adt 1) (.cons (.ty (.infer 0 .general)) .nil)))) with
    | .ok t => t
    | .error _ => t4
  match t5.unifyVarVar 3 1 with
  | .ok t => t
  | .error _ => t5

def exValue : Args :=
  .cons (.ty (.infer 3 .general)) (.cons (.ty (.infer 2 .general)) (.cons (.lt (.infer 4))
    (.cons (.ty (.function 1 0 (.cons (.ty (.infer 2 .general)) (.cons (.ty (.bound 0 0)) .nil))))
      (.cons (.ty (.infer 0 .general)) .nil))))

def exCanon : Canon Args :=
  ⟨[(.ty .general, 0), (.ty .general, 1), (.lt, 0)],
   .cons (.ty (.bound 0 0)) (.cons (.ty (.app (.adt 1) (.cons (.ty (.bound 0 1)) .nil))) (.cons (.lt (.bound 0 2))
    (.cons (.ty (.function 1 0 (.cons (.ty (.app (.adt 1) (.cons (.ty (.bound 1 1)) .nil))) (.cons (.ty (.bound 0 0)) .nil))))
      (.cons (.ty (.bound 0 1)) .nil))))⟩

example : (exTable.canonicalize exValue).map (·.quantified) = .ok exCanon := by rfl
example : WellNumbered exCanon := by unfold WellNumbered; rfl
example : exTable.Aligned := by unfold Table.Aligned; rfl

/-- "If" direction of *canonical forms identify values up to renaming*, for two (table, value)
    pairs: if `ρ` renames the variables of `t1` into variables of `t2` so that unbound variables go
    to unbound variables of the same universe, classes of unified variables are kept apart and kept
    together (asked of all unbound variables of `t1`, not only of those that occur in `v`), and
    bound variables go to variables bound to the renamed value (`Renaming`), then `v` on `t1` and `ρ(v)` on `t2` have the SAME canonical
    form (binders with kinds and universes, and value).  Kinds are kept because renaming keeps the
    kind annotation of every occurrence.  All values, any look-up budget. -/
theorem canon_eq_of_renaming (t1 t2 : Table) (ρ : Nat → Nat) (H : Renaming t1 t2 ρ) (fuel : Nat)
    (v : Args) (c1 : Canonicalized Args) (h : t1.canonicalizeFuel fuel v = .ok c1) :
    ∃ v' c2, foldArgs (renameFolder ρ) 0 v = .ok v' ∧ t2.canonicalizeFuel fuel v' = .ok c2 ∧
      c2.quantified = c1.quantified := by
  obtain ⟨val, s1, bs, hrun, hb1, rfl⟩ := canonicalizeFuel_eq_ok h
  have h0 : RenRel t1 t2 ρ {} {} := ⟨rfl, rfl, rfl, fun _ _ => rfl⟩
  obtain ⟨b, s2, hrun2, hb, hmu, hlen, hbind, _⟩ :=
    sfoldArgs_sim (ren_handlers t1 t2 ρ H fuel) 0 v {} {} h0 val s1 hrun
  cases hb trivial
  obtain ⟨v', hren, hcanon⟩ := sfoldArgs_comp (canonFolder_noTyFold _ _) 0 v {} _ hrun2
  exact ⟨v', _, hren, canonicalizeFuel_of_run hcanon (hbind ▸ hb1), rfl⟩

/-- the same on one table, with the budget `canonicalize` uses -/
theorem canon_eq_of_renaming_same_table (t : Table) (ρ : Nat → Nat) (H : Renaming t t ρ)
    (v : Args) (c1 : Canonicalized Args) (h : t.canonicalize v = .ok c1) :
    ∃ v' c2, foldArgs (renameFolder ρ) 0 v = .ok v' ∧ t.canonicalize v' = .ok c2 ∧
      c2.quantified = c1.quantified :=
  canon_eq_of_renaming t t ρ H t.numVars v c1 h

/-- Non-vacuity of `Renaming`: on the empty table (every variable unbound, its own root, universe 0)
    every injective renaming qualifies. -/
example (ρ : Nat → Nat) (hinj : ∀ x y, ρ x = ρ y → x = y) : Renaming Table.new Table.new ρ :=
  { unbound := fun x _ => ⟨rfl, rfl⟩
    roots := fun x y _ _ => ⟨fun h => hinj x y h, fun h => by
      have : x = y := h
      rw [this]⟩
    bound := fun x g h => by simp [Table.new, Table.probeVar, Table.probeValue] at h }

/-! ### invert -/

/-- `invert` refuses (`None`) exactly when the canonicalizer's traversal of the value — through the
    values of bound variables — meets a variable that the table has not bound (the log of
    `Table.occurrences` is non-empty); whenever canonicalization itself succeeds. -/
theorem invert_none_iff (t : Table) (v : Args) (c : Canonicalized Args) (hc : t.canonicalize v = .ok c) :
    t.invert v = .ok none ↔
      ∃ resolved log, t.occurrences t.numVars v = .ok (resolved, log) ∧ log ≠ [] := by
  obtain ⟨resolved, log, hocc, hfv, _⟩ := canon_first_occurrence t t.numVars v c hc
  have hnil : c.freeVars = [] ↔ log = [] := by rw [hfv]; exact firstOccurrences_eq_nil log
  unfold Table.invert
  simp only [hc]
  constructor
  · intro h
    by_cases hf : c.freeVars = []
    · simp only [hf, ne_eq, not_true_eq_false, if_false] at h
      split at h
      · simp at h
      · split at h <;> simp at h
    · exact ⟨resolved, log, hocc, fun hl => hf (hnil.mpr hl)⟩
  · rintro ⟨r', l', h', hne⟩
    rw [hocc] at h'
    simp only [Except.ok.injEq, Prod.mk.injEq] at h'
    obtain ⟨_, rfl⟩ := h'
    have hf : c.freeVars ≠ [] := fun hf => hne (hnil.mp hf)
    simp [hf]

/-- when `invert` does not refuse, the canonical form it works on has no binders, and the result is
    the `Inverter` fold of the (fully resolved) canonical value, started on the same table -/
theorem invert_some_spec (t : Table) (v r : Args) (t' : Table) (h : t.invert v = .ok (some (r, t'))) :
    ∃ c st, t.canonicalize v = .ok c ∧ c.freeVars = [] ∧ c.quantified.binders = [] ∧
      sfoldArgs inverterFolder 0 c.quantified.value { table := t } = .ok (r, st) ∧ st.table = t' := by
  unfold Table.invert at h
  cases hc : t.canonicalize v with
  | error e => simp [hc] at h
  | ok c =>
    simp only [hc] at h
    by_cases hf : c.freeVars = []
    · by_cases hb : c.quantified.binders = []
      · simp only [hf, hb, ne_eq, not_true_eq_false, if_false] at h
        cases hrun : sfoldArgs inverterFolder 0 c.quantified.value { table := t } with
        | error e => simp [hrun] at h
        | ok p =>
          obtain ⟨r', st⟩ := p
          simp [hrun] at h
          exact ⟨c, st, rfl, hf, hb, by rw [← h.1]; exact hrun, h.2⟩
      · simp [hf, hb] at h
    · simp [hf] at h

/-- When `invert` does not refuse, its result is the (fully resolved, binder-free) canonical value
    in which every type placeholder `!u_i` is replaced by `?(M (u,i))` and every lifetime placeholder
    by `'?(M' (u,i))`, where `M`, `M'` are the final `inverted_ty` / `inverted_lifetime` maps — one
    variable per placeholder, consistently at all its occurrences (`invSubst`); const placeholders
    are left in place (the `Inverter` has no `fold_free_placeholder_const`).  The variables are
    fresh (created after `t`), pairwise distinct within and across the two maps, their own roots,
    unbound, and each lives in the universe of its placeholder (`InvOk`). -/
theorem invert_consistent (t : Table) (ht : t.Aligned) (v r : Args) (t' : Table)
    (h : t.invert v = .ok (some (r, t'))) :
    ∃ c st, t.canonicalize v = .ok c ∧ c.freeVars = [] ∧ st.table = t' ∧
      foldArgs (invSubst st) 0 c.quantified.value = .ok r ∧ InvOk t st := by
  obtain ⟨c, st, hc, hf, _, hrun, ht'⟩ := invert_some_spec t v r t' h
  have h0 : InvOk t ({ table := t } : InvState) :=
    { aligned := ht, grows := Nat.le_refl _, vars := fun p v hv => by simp at hv, nodup := by simp }
  obtain ⟨b, s2, hrun2, _, hs, hok⟩ :=
    sfoldArgs_sim (inv_invariant t) 0 c.quantified.value _ _ ⟨rfl, h0⟩ r st hrun
  subst hs
  exact ⟨c, st, hc, hf, ht',
    (sfoldArgs_final inv_final 0 c.quantified.value _ r st hrun).2 st ⟨List.prefix_refl _, List.prefix_refl _⟩, hok⟩

/-- reading `InvOk` in the table's own terms: a variable of the maps is its own root, unbound, in
    the universe of the placeholder it replaces -/
theorem invOk_var (t0 : Table) (st : InvState) (hok : InvOk t0 st) (p : Nat × Nat) (v : Nat)
    (hv : (p, v) ∈ st.invertedTy ∨ (p, v) ∈ st.invertedLt) :
    t0.numVars ≤ v ∧ st.table.find v = v ∧ st.table.probeVar v = none ∧
      st.table.universeOfUnbound v = .ok p.1 := by
  obtain ⟨h1, _, h3, h4⟩ := hok.vars p v hv
  have hfind := Table.find_self st.table v h3
  have hval : st.table.probeValue v = .unbound p.1 := by
    unfold Table.probeValue; rw [hfind]; exact h4
  exact ⟨h1, hfind, by simp [Table.probeVar, hval], by simp [Table.universeOfUnbound, hval]⟩

/-! ### universe compression -/

/-- The universe map built by `u_canonicalize` lists the original universes in strictly increasing
    order starting with the root universe `U0`; it contains the universe of every binder and of
    every placeholder the collector visits; its length is the number of canonical universes; and
    compression `map_universe_to_canonical` is strictly monotone and order-reflecting on it (so
    the relative order of all universes present is kept), with `U0 ↦ U0`. -/
theorem ucanon_monotone (c : Canon Args) (uc : UCanonicalized Args) (h : uCanonicalize c = .ok uc) :
    uc.universes.Pairwise (· < ·) ∧ uc.universes.head? = some 0 ∧
    uc.quantified.universes = uc.universes.length ∧
    (∀ k u, (k, u) ∈ c.binders → ∃ i, mapUniverseToCanonical uc.universes u = some i) ∧
    (∀ ui idx, VisitEvent.placeholder ui idx ∈ visitArgs c.value →
        ∃ i, mapUniverseToCanonical uc.universes ui = some i) ∧
    mapUniverseToCanonical uc.universes 0 = some 0 ∧
    (∀ a b i j, mapUniverseToCanonical uc.universes a = some i →
        mapUniverseToCanonical uc.universes b = some j → (a < b ↔ i < j)) := by
  obtain ⟨um, v1, bs, hc, _, _, rfl⟩ := uCanonicalize_eq_ok h
  unfold collectUniverses at hc
  have hok := uCollect_ok _ _ _ (addBinderUniverses_ok c.binders umapNew umapNew_ok) hc
  have hmem := uCollect_mem _ _ _ hc
  refine ⟨hok.sorted, hok.head, rfl, ?_, ?_, umapIndex_zero um hok.head, umapIndex_lt_iff um hok.sorted⟩
  · intro k u hku
    exact umapIndex_of_mem _ _
      ((hmem u).mpr (.inl ((addBinderUniverses_mem c.binders umapNew u).mpr (.inr ⟨k, hku⟩))))
  · intro ui idx hev
    exact umapIndex_of_mem _ _ ((hmem ui).mpr (.inr ⟨idx, hev⟩))

/-- Universe compression can be undone: mapping the u-canonical form back through the universe map
    gives the original canonical value — binders and value, placeholders of all three kinds
    (type, lifetime, CONST: this is the code as repaired for finding F8). -/
theorem ucanon_roundtrip (c : Canon Args) (uc : UCanonicalized Args) (h : uCanonicalize c = .ok uc) :
    mapFromCanonical uc.universes uc.quantified.canonical = .ok c := by
  obtain ⟨um, v1, bs, _, hv, hbs, rfl⟩ := uCanonicalize_eq_ok h
  simp only [mapFromCanonical, foldArgs_to_from um 0 c.value v1 hv, mapBinders_to_from um c.binders bs hbs]

/-- F8 on the code BEFORE the repair (`Legacy.mapFromCanonical`: `UMapFromCanonical` without
    `fold_free_placeholder_const`): for `[!3_0 (type), !3_1 (const)]` compression gives `[!1_0, !1_1]`
    and mapping back gives `[!3_0, !1_1]` — the const placeholder stays in the compressed universe. -/
def f8Witness : Canon Args :=
  ⟨[], .cons (.ty (.placeholder 3 0)) (.cons (.ct (.mk (.scalar 20) (.placeholder 3 1))) .nil)⟩

theorem legacy_ucanon_roundtrip_refuted :
    ∃ uc, uCanonicalize f8Witness = .ok uc ∧
      Legacy.mapFromCanonical uc.universes uc.quantified.canonical =
        .ok ⟨[], .cons (.ty (.placeholder 3 0)) (.cons (.ct (.mk (.scalar 20) (.placeholder 1 1))) .nil)⟩ ∧
      Legacy.mapFromCanonical uc.universes uc.quantified.canonical ≠ .ok f8Witness :=
  ⟨_, rfl, rfl, by intro h; cases h⟩

/-- `map_universe_from_canonical` on any strictly increasing non-empty map is total and strictly
    increasing on ALL canonical universes, in range or not (relative order preserved); a canonical
    universe beyond the map lands strictly above every original universe of the map. -/
theorem from_canonical_fresh (um : List Nat) (hs : um.Pairwise (· < ·)) (hne : um ≠ []) :
    (∀ c, ∃ u, mapUniverseFromCanonical um c = .ok u) ∧
    (∀ c1 c2 u1 u2, mapUniverseFromCanonical um c1 = .ok u1 → mapUniverseFromCanonical um c2 = .ok u2 →
        c1 < c2 → u1 < u2) ∧
    (∀ c u, um.length ≤ c → mapUniverseFromCanonical um c = .ok u → ∀ x ∈ um, x < u) := by
  refine ⟨mapUniverseFromCanonical_ok um hne, mapUniverseFromCanonical_strictMono um hs, ?_⟩
  intro c u hc h x hx
  obtain ⟨mx, hl, rfl⟩ := mapUniverseFromCanonical_outOfRange um c u (by omega) h
  obtain ⟨i, hi, rfl⟩ := List.getElem_of_mem hx
  have := getLast?_ge um hs mx hl i um[i] (by simp [hi])
  omega

end Chalk.C16

#print axioms Chalk.C16.canon_first_occurrence
#print axioms Chalk.C16.canon_numbering
#print axioms Chalk.C16.canon_closed
#print axioms Chalk.C16.canon_roundtrip
#print axioms Chalk.C16.canon_eq_of_renaming
#print axioms Chalk.C16.canon_eq_of_renaming_same_table
#print axioms Chalk.C16.invert_none_iff
#print axioms Chalk.C16.invert_some_spec
#print axioms Chalk.C16.invert_consistent
#print axioms Chalk.C16.invOk_var
#print axioms Chalk.C16.ucanon_monotone
#print axioms Chalk.C16.ucanon_roundtrip
#print axioms Chalk.C16.legacy_ucanon_roundtrip_refuted
#print axioms Chalk.C16.from_canonical_fresh
