/-
  C06 (semantic half) — "inside `if (T: Trait) { G }` the goal G is provable exactly when it follows
  from the PROGRAM TOGETHER WITH THE HYPOTHESIS; assumptions never leak out of their scope."

  For ALL programs of `Sem.lean` (both strata, any `coind` function):

    1. weakening   (`coHolds_weaken`, `holds_weaken`, `gholds_weaken`; refuted with negation),
    2. cut         (`holds_cut` — TRUE in full for mixed programs; `holds_coind_iff_coHolds` is the
                    reason: for a coinductive predicate `Holds` and `CoHolds` coincide),
    3. deduction   (`hyp_iff_fact`: a GROUND hypothesis is exactly an added program fact, for atoms
                    of both strata and for every goal, negation included; refuted for non-ground h),
    4. no leak     (`no_leak`, `outside_scope_independent`, `sibling_evaluated_outside`),
    5. non-vacuity on a program with one coinductive and one inductive predicate.

  The two refutations (`weaken_fails_with_negation`, `hyp_iff_fact_needs_ground`) mark the exact
  boundary of the positive results.
-/
import ChalkModel.Lemmas.HypLemmas
import ChalkModel.Lemmas.EvalLemmas

namespace Chalk.C06sem
open Chalk.Sem

/-! ### the demo program: `Send` coinductive (auto trait), `Foo` inductive

      Send(Box(x)) :- Send(x).        (coinductive)
      Foo(x)       :- Send(x).        (inductive)

    `!T`, `!U` are opaque constants (placeholders). -/

def T : Tm := .app "!T" .nil
def U : Tm := .app "!U" .nil
def box (t : Tm) : Tm := .app "Box" (.cons t .nil)
def send (t : Tm) : Atom := ⟨"Send", .cons t .nil⟩
def foo (t : Tm) : Atom := ⟨"Foo", .cons t .nil⟩

def demo : Program :=
  ⟨[⟨send (box (.var 0)), [send (.var 0)]⟩, ⟨foo (.var 0), [send (.var 0)]⟩], fun p => p == "Send"⟩

/-- the empty program, everything inductive -/
def empty : Program := ⟨[], fun _ => false⟩

/-- certified answers of the Stage-A evaluator, used only for the concrete examples -/
theorem decide_yes (P : Program) (fuel : Nat) (Γ : List Atom) (g : Goal)
    (h : evalGoal P fuel Γ g = .yes) : GHolds P Γ g := (evalGoal_sound P fuel g Γ).1 h
theorem decide_no (P : Program) (fuel : Nat) (Γ : List Atom) (g : Goal)
    (h : evalGoal P fuel Γ g = .no) : ¬ GHolds P Γ g := (evalGoal_sound P fuel g Γ).2 h

/-! ## 1. Weakening -/

theorem coHolds_weaken (P : Program) (Γ Δ : List Atom) (hsub : ∀ a, a ∈ Γ → a ∈ Δ) (a : Atom) :
    CoHolds P Γ a → CoHolds P Δ a := CoHolds.weaken hsub

theorem holds_weaken (P : Program) (Γ Δ : List Atom) (hsub : ∀ a, a ∈ Γ → a ∈ Δ) (a : Atom) :
    Holds P Γ a → Holds P Δ a := Holds.weaken hsub

theorem gholds_weaken (P : Program) (Γ Δ : List Atom) (hsub : ∀ a, a ∈ Γ → a ∈ Δ) (g : Goal)
    (hp : g.Positive) : GHolds P Γ g → GHolds P Δ g := GHolds.weaken g hp Γ Δ hsub

/-- only the set of hypotheses matters (every goal, negation included) -/
theorem gholds_congr_mem (P : Program) (Γ Δ : List Atom) (hiff : ∀ a, a ∈ Γ ↔ a ∈ Δ) (g : Goal) :
    GHolds P Γ g ↔ GHolds P Δ g := GHolds.congr_mem g Γ Δ hiff

/-- weakening is false for goals with negation: `not { Foo(!T) }` holds in the demo program without
    hypotheses and fails under the additional hypothesis `Send(!T)` -/
theorem weaken_fails_with_negation :
    (∀ a, a ∈ ([] : List Atom) → a ∈ [send T]) ∧
    GHolds demo [] (.not (.atom (foo T))) ∧ ¬ GHolds demo [send T] (.not (.atom (foo T))) := by
  refine ⟨fun a ha => (nomatch ha), ?_, ?_⟩
  · exact decide_yes demo 10 [] _ (by decide)
  · exact decide_no demo 10 [send T] _ (by decide)

/-- …so the positivity hypothesis of `gholds_weaken` cannot be dropped -/
theorem gholds_weaken_needs_positive :
    ¬ ∀ (P : Program) (Γ Δ : List Atom), (∀ a, a ∈ Γ → a ∈ Δ) → ∀ g : Goal, GHolds P Γ g → GHolds P Δ g := by
  intro h
  obtain ⟨h1, h2, h3⟩ := weaken_fails_with_negation
  exact h3 (h demo [] [send T] h1 _ h2)

/-! ## 2. Cut -/

/-- inversion: for an atom of a coinductive predicate only the first two disjuncts of `IndStep` apply -/
theorem holds_coind_iff (P : Program) (Δ : List Atom) (a : Atom) (hco : P.coind a.pred = true) :
    Holds P Δ a ↔ a ∈ Δ ∨ CoHolds P Δ a := Sem.holds_coind_iff hco

/-- …and membership is subsumed (consistent singleton): `Holds` IS `CoHolds` on coinductive predicates -/
theorem holds_coind_iff_coHolds (P : Program) (Δ : List Atom) (a : Atom) (hco : P.coind a.pred = true) :
    Holds P Δ a ↔ CoHolds P Δ a := Sem.holds_coind_iff_coHolds hco

/-- inversion for an atom of an inductive predicate -/
theorem holds_ind_iff (P : Program) (Δ : List Atom) (a : Atom) (hco : P.coind a.pred = false) :
    Holds P Δ a ↔ a ∈ Δ ∨ ViaClause P (Holds P Δ) a := Sem.holds_ind_iff hco

/-- cut inside the coinductive stratum -/
theorem coHolds_cut (P : Program) (Γ Δ : List Atom) (hΓ : ∀ h, h ∈ Γ → Holds P Δ h) (a : Atom) :
    CoHolds P Γ a → CoHolds P Δ a :=
  CoHolds.cut fun h hh hco => (Sem.holds_coind_iff_coHolds hco).mp (hΓ h hh)

/-- CUT, in full, for every program (mixed strata included): hypotheses that are provable from `Δ`
    can be discharged -/
theorem holds_cut (P : Program) (Γ Δ : List Atom) (hΓ : ∀ h, h ∈ Γ → Holds P Δ h) (a : Atom) :
    Holds P Γ a → Holds P Δ a := Holds.cut hΓ

/-- cut for positive goals -/
theorem gholds_cut (P : Program) (Γ Δ : List Atom) (hΓ : ∀ h, h ∈ Γ → Holds P Δ h) (g : Goal)
    (hp : g.Positive) : GHolds P Γ g → GHolds P Δ g := GHolds.cut g hp Γ Δ hΓ

/-- the usual one-formula form: a lemma `h` proved from `Γ` may be used as a hypothesis -/
theorem holds_cut_one (P : Program) (Γ : List Atom) (h a : Atom) (hh : Holds P Γ h) :
    Holds P (h :: Γ) a → Holds P Γ a := by
  apply holds_cut
  intro x hx
  rcases List.mem_cons.mp hx with rfl | hx
  · exact hh
  · exact Holds.of_mem hx

/-- goal form of cut: `if (h) { g }` and `h` give `g` (positive `g`) -/
theorem modus_ponens (P : Program) (Γ : List Atom) (h : Atom) (g : Goal) (hp : g.Positive)
    (hh : Holds P Γ h) : GHolds P Γ (.implies [h] g) → GHolds P Γ g := by
  intro hg
  refine gholds_cut P ([h] ++ Γ) Γ ?_ g hp hg
  intro x hx
  rcases List.mem_cons.mp hx with rfl | hx
  · exact hh
  · exact Holds.of_mem hx

/-! ## 3. A ground hypothesis is an added program fact -/

theorem inst_ground (σ : Nat → Tm) (h : Atom) (hg : h.ground) : h.inst σ = h := Atom.inst_ground σ h hg

/-- DEDUCTION PROPERTY, atoms of both strata, every program -/
theorem hyp_iff_fact (P : Program) (Γ : List Atom) (h : Atom) (hg : h.ground) (a : Atom) :
    Holds P (h :: Γ) a ↔ Holds (P.addFact h) Γ a :=
  holds_hyp_iff_fact hg (fun _ => List.mem_cons) a

/-- the same inside the coinductive stratum -/
theorem coHolds_hyp_iff_fact (P : Program) (Γ : List Atom) (h : Atom) (hg : h.ground) (a : Atom) :
    CoHolds P (h :: Γ) a ↔ CoHolds (P.addFact h) Γ a :=
  Sem.coHolds_hyp_iff_fact hg (fun _ => List.mem_cons) a

/-- goal level — for EVERY goal (negation is allowed, since this is an equivalence and nested
    `implies` only add further hypotheses on both sides) -/
theorem implies_iff_fact (P : Program) (Γ : List Atom) (h : Atom) (hg : h.ground) (g : Goal) :
    GHolds P Γ (.implies [h] g) ↔ GHolds (P.addFact h) Γ g :=
  gholds_hyp_iff_fact hg g ([h] ++ Γ) Γ (fun _ => List.mem_cons)

/-- `implies_iff_fact` for positive goals (`_hp` is not needed) -/
theorem implies_iff_fact_positive (P : Program) (Γ : List Atom) (h : Atom) (hg : h.ground) (g : Goal)
    (_hp : g.Positive) : GHolds P Γ (.implies [h] g) ↔ GHolds (P.addFact h) Γ g :=
  implies_iff_fact P Γ h hg g

/-- a whole list of ground hypotheses -/
theorem implies_iff_facts : (hyps : List Atom) → (P : Program) → (Γ : List Atom) →
    (∀ h, h ∈ hyps → h.ground) → (g : Goal) →
    (GHolds P Γ (.implies hyps g) ↔ GHolds (P.addFacts hyps) Γ g)
  | [], _, _, _, _ => Iff.rfl
  | h :: hs, P, Γ, hg, g => by
      have h1 : GHolds P Γ (.implies (h :: hs) g) ↔ GHolds (P.addFact h) (hs ++ Γ) g :=
        gholds_hyp_iff_fact (hg h List.mem_cons_self) g (h :: hs ++ Γ) (hs ++ Γ) (fun _ => List.mem_cons)
      rw [h1]
      exact implies_iff_facts hs (P.addFact h) Γ (fun x hx => hg x (List.mem_cons_of_mem _ hx)) g

/-- `if (hyps) { g }` with a closed environment is truth of `g` in the extended program:
    "G follows from the program together with the hypotheses" -/
theorem implies_iff_extended_program (P : Program) (hyps : List Atom) (hg : ∀ h, h ∈ hyps → h.ground)
    (g : Goal) : GHolds P [] (.implies hyps g) ↔ GHolds (P.addFacts hyps) [] g :=
  implies_iff_facts hyps P [] hg g

/-- groundness is necessary: a hypothesis with a variable is ONE atom, a fact with a variable is
    universally quantified.  `Foo(?0)` as a hypothesis does not give `Foo(!T)`; as a fact it does. -/
theorem hyp_iff_fact_needs_ground :
    ¬ (foo (.var 0)).ground ∧
    ¬ Holds empty [foo (.var 0)] (foo T) ∧ Holds (empty.addFact (foo (.var 0))) [] (foo T) := by
  refine ⟨?_, ?_, ?_⟩
  · simp [Atom.ground, foo, Tms.ground, Tm.ground]
  · exact decide_no empty 10 [foo (.var 0)] (.atom (foo T)) (by decide)
  · exact decide_yes (empty.addFact (foo (.var 0))) 10 [] (.atom (foo T)) (by decide)

theorem hyp_iff_fact_refuted_without_ground :
    ¬ ∀ (P : Program) (Γ : List Atom) (h a : Atom), Holds P (h :: Γ) a ↔ Holds (P.addFact h) Γ a := by
  intro hall
  obtain ⟨_, h2, h3⟩ := hyp_iff_fact_needs_ground
  exact h2 ((hall empty [] (foo (.var 0)) (foo T)).mpr h3)

/-! ## 4. No leak -/

theorem no_leak (P : Program) (Γ hyps : List Atom) (g g' : Goal) :
    GHolds P Γ (.and (.implies hyps g) g') → GHolds P Γ g' := fun h => h.2

/-- the sibling of an `if` is literally evaluated under the outer hypotheses `Γ` -/
theorem sibling_evaluated_outside (P : Program) (Γ hyps : List Atom) (g g' : Goal) :
    GHolds P Γ (.and (.implies hyps g) g') ↔ (GHolds P Γ (.implies hyps g) ∧ GHolds P Γ g') := Iff.rfl

/-- the truth of `g'` next to `if (hyps) { g }` does not depend on `hyps` -/
theorem outside_scope_independent (P : Program) (Γ hyps hyps2 : List Atom) (g g2 g' : Goal) :
    GHolds P Γ (.and (.implies hyps g) g') → GHolds P Γ (.implies hyps2 g2) →
    GHolds P Γ (.and (.implies hyps2 g2) g') := fun h h2 => ⟨h2, h.2⟩

/-- as an equivalence: once both `if`s hold, the conjunctions with `g'` are interchangeable -/
theorem outside_scope_independent_iff (P : Program) (Γ hyps hyps2 : List Atom) (g g2 g' : Goal)
    (h1 : GHolds P Γ (.implies hyps g)) (h2 : GHolds P Γ (.implies hyps2 g2)) :
    GHolds P Γ (.and (.implies hyps g) g') ↔ GHolds P Γ (.and (.implies hyps2 g2) g') :=
  ⟨fun h => ⟨h2, h.2⟩, fun h => ⟨h1, h.2⟩⟩

/-- the scope can be removed without touching the sibling: what `if (h) { g }` contributes is a
    statement about the EXTENDED program, what `g'` contributes is about the program itself -/
theorem scoped_fact (P : Program) (Γ : List Atom) (h : Atom) (hg : h.ground) (g g' : Goal) :
    GHolds P Γ (.and (.implies [h] g) g') ↔ (GHolds (P.addFact h) Γ g ∧ GHolds P Γ g') := by
  rw [sibling_evaluated_outside, implies_iff_fact P Γ h hg g]

/-- nested scopes accumulate -/
theorem nested_scopes (P : Program) (Γ h1 h2 : List Atom) (g : Goal) :
    GHolds P Γ (.implies h1 (.implies h2 g)) ↔ GHolds P Γ (.implies (h2 ++ h1) g) := by
  simp only [GHolds, List.append_assoc]

/-- the hypothesis really does not leak: in the demo program `if (Send(!T)) { Foo(!T) }` holds but
    its conjunction with the sibling `Foo(!T)` does not -/
theorem no_leak_demo :
    GHolds demo [] (.implies [send T] (.atom (foo T))) ∧
    ¬ GHolds demo [] (.and (.implies [send T] (.atom (foo T))) (.atom (foo T))) :=
  ⟨decide_yes demo 10 [] _ (by decide), decide_no demo 10 [] _ (by decide)⟩

/-! ## 5. Non-vacuity on the demo program (coinductive `Send`, inductive `Foo`) -/

theorem demo_strata : demo.coind "Send" = true ∧ demo.coind "Foo" = false := by decide

theorem send_T_ground : (send T).ground := by simp [Atom.ground, send, T, Tms.ground, Tm.ground]

/-- weakening used: `Foo(Box(!T))` from `Send(!T)`, hence from `Send(!U), Send(!T)`;
    the inductive atom is derived through the coinductive stratum -/
theorem ex_weaken : Holds demo [send U, send T] (foo (box T)) := by
  have h : Holds demo [send T] (foo (box T)) := decide_yes demo 10 [send T] (.atom _) (by decide)
  exact holds_weaken demo [send T] [send U, send T] (fun a ha => List.mem_cons_of_mem _ ha) _ h

/-- …and the coinductive atom itself -/
theorem ex_coweaken : CoHolds demo [send U, send T] (send (box T)) := by
  have h : Holds demo [send T] (send (box T)) := decide_yes demo 10 [send T] (.atom _) (by decide)
  have h' := (holds_coind_iff_coHolds demo [send T] (send (box T)) (by decide)).mp h
  exact coHolds_weaken demo [send T] [send U, send T] (fun a ha => List.mem_cons_of_mem _ ha) _ h'

/-- cut used across the strata: the COINDUCTIVE hypothesis `Send(Box(!T))` is provable (coinductively)
    from `Send(!T)`, and is discharged in the proof of the INDUCTIVE atom `Foo(Box(Box(!T)))` -/
theorem ex_cut : Holds demo [send T] (foo (box (box T))) := by
  have h1 : ∀ h, h ∈ [send (box T)] → Holds demo [send T] h := by
    intro h hh
    rw [List.mem_singleton] at hh
    subst hh
    exact decide_yes demo 10 [send T] (.atom _) (by decide)
  have h2 : Holds demo [send (box T)] (foo (box (box T))) :=
    decide_yes demo 10 [send (box T)] (.atom _) (by decide)
  exact holds_cut demo [send (box T)] [send T] h1 _ h2

/-- the hypothesis of `ex_cut` is not vacuous: without `Send(Box(!T))` or `Send(!T)` the atom fails -/
theorem ex_cut_needed : ¬ Holds demo [] (foo (box (box T))) :=
  decide_no demo 10 [] (.atom _) (by decide)

/-- deduction used, coinductive hypothesis: `Foo(Box(!T))` is a consequence of the program extended by
    the fact `Send(!T)`, and `Foo(!U)` is not -/
theorem ex_hyp_fact :
    Holds (demo.addFact (send T)) [] (foo (box T)) ∧ ¬ Holds (demo.addFact (send T)) [] (foo U) := by
  constructor
  · exact (hyp_iff_fact demo [] (send T) send_T_ground _).mp
      (decide_yes demo 10 [send T] (.atom _) (by decide))
  · intro h
    exact decide_no demo 10 [send T] (.atom (foo U)) (by decide)
      ((hyp_iff_fact demo [] (send T) send_T_ground _).mpr h)

/-- deduction used, inductive hypothesis: `Foo(!T)` assumed directly -/
theorem ex_hyp_fact_ind :
    Holds (demo.addFact (foo T)) [] (foo T) ∧ ¬ Holds (demo.addFact (foo T)) [] (send T) := by
  have hg : (foo T).ground := by simp [Atom.ground, foo, T, Tms.ground, Tm.ground]
  constructor
  · exact (hyp_iff_fact demo [] (foo T) hg _).mp (Holds.of_mem List.mem_cons_self)
  · intro h
    exact decide_no demo 10 [foo T] (.atom (send T)) (by decide)
      ((hyp_iff_fact demo [] (foo T) hg _).mpr h)

/-- goal level, with a negation inside the scope: `if (Send(!T)) { Foo(Box(!T)), not { Foo(!U) } }` -/
theorem ex_implies_fact :
    GHolds (demo.addFact (send T)) [] (.and (.atom (foo (box T))) (.not (.atom (foo U)))) :=
  (implies_iff_fact demo [] (send T) send_T_ground _).mp (decide_yes demo 10 [] _ (by decide))

/-- modus ponens used: `Send(Box(!T))` is provable from `Send(!T)`, so the `if` can be opened -/
theorem ex_modus_ponens : GHolds demo [send T] (.atom (foo (box (box T)))) := by
  refine modus_ponens demo [send T] (send (box T)) _ trivial ?_ ?_
  · exact decide_yes demo 10 [send T] (.atom _) (by decide)
  · exact decide_yes demo 10 [send T] _ (by decide)

/-- scoping used -/
theorem ex_scoped_fact :
    GHolds (demo.addFact (send T)) [] (.atom (foo T)) ∧ ¬ GHolds demo [] (.atom (foo T)) := by
  constructor
  · exact (implies_iff_fact demo [] (send T) send_T_ground _).mp no_leak_demo.1
  · exact decide_no demo 10 [] _ (by decide)

end Chalk.C06sem

#print axioms Chalk.C06sem.coHolds_weaken
#print axioms Chalk.C06sem.holds_weaken
#print axioms Chalk.C06sem.gholds_weaken
#print axioms Chalk.C06sem.gholds_congr_mem
#print axioms Chalk.C06sem.weaken_fails_with_negation
#print axioms Chalk.C06sem.gholds_weaken_needs_positive
#print axioms Chalk.C06sem.holds_coind_iff
#print axioms Chalk.C06sem.holds_coind_iff_coHolds
#print axioms Chalk.C06sem.holds_ind_iff
#print axioms Chalk.C06sem.coHolds_cut
#print axioms Chalk.C06sem.holds_cut
#print axioms Chalk.C06sem.gholds_cut
#print axioms Chalk.C06sem.holds_cut_one
#print axioms Chalk.C06sem.modus_ponens
#print axioms Chalk.C06sem.inst_ground
#print axioms Chalk.C06sem.hyp_iff_fact
#print axioms Chalk.C06sem.coHolds_hyp_iff_fact
#print axioms Chalk.C06sem.implies_iff_fact
#print axioms Chalk.C06sem.implies_iff_fact_positive
#print axioms Chalk.C06sem.implies_iff_facts
#print axioms Chalk.C06sem.implies_iff_extended_program
#print axioms Chalk.C06sem.hyp_iff_fact_needs_ground
#print axioms Chalk.C06sem.hyp_iff_fact_refuted_without_ground
#print axioms Chalk.C06sem.no_leak
#print axioms Chalk.C06sem.sibling_evaluated_outside
#print axioms Chalk.C06sem.outside_scope_independent
#print axioms Chalk.C06sem.outside_scope_independent_iff
#print axioms Chalk.C06sem.scoped_fact
#print axioms Chalk.C06sem.nested_scopes
#print axioms Chalk.C06sem.no_leak_demo
#print axioms Chalk.C06sem.demo_strata
#print axioms Chalk.C06sem.send_T_ground
#print axioms Chalk.C06sem.ex_weaken
#print axioms Chalk.C06sem.ex_coweaken
#print axioms Chalk.C06sem.ex_cut
#print axioms Chalk.C06sem.ex_cut_needed
#print axioms Chalk.C06sem.ex_hyp_fact
#print axioms Chalk.C06sem.ex_hyp_fact_ind
#print axioms Chalk.C06sem.ex_implies_fact
#print axioms Chalk.C06sem.ex_modus_ponens
#print axioms Chalk.C06sem.ex_scoped_fact
#print axioms Chalk.C06sem.decide_yes
#print axioms Chalk.C06sem.decide_no
