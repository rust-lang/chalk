/-
  C23 — the logging database: the sub-program printed from the recorded items gives the same
  answers as the original program.  The Lean side is the restriction lemma: a sub-program that
  contains every clause reachable from the goal has the same meaning on the reachable atoms
  (`sol_restrict`, `sol_restrict_instance`, `goal_restrict`), its executable form
  (`restrict_needs_cert`, `restrict_needs`, `needs_exact`), and the one place where lowering items
  to clauses is not monotone in the recorded item set: auto traits
  (`auto_log_without_suppressing_impl_differs`, `auto_log_changes_answer`,
  `lowerAuto_sublist_of_faithful`).
-/
import ChalkModel.Lemmas.LoggingLemmas
import ChalkModel.Lemmas.EvalLemmas

namespace Chalk.C23
open Chalk.Sem Chalk.Logging

/-- Any log `Q` between the clauses reachable from the seed predicates and the whole program `P`
    has the same meaning as `P` on every atom with a reachable predicate, under any hypotheses. -/
theorem sol_restrict (P : Program) (seeds : List String) (Q : Program)
    (hco : ∀ p, Q.coind p = P.coind p)
    (hsub : ∀ c ∈ Q.clauses, c ∈ P.clauses)
    (hneeds : ∀ c ∈ P.clauses, Reach P seeds c.head.pred → c ∈ Q.clauses)
    (Γ : List Atom) (a : Atom) (ha : Reach P seeds a.pred) : Holds Q Γ a ↔ Holds P Γ a :=
  holds_agree (R := fun a => Reach P seeds a.pred) (agree_of_between hco hsub hneeds)
    (reach_closed P seeds) a ha

/-- Instance level, symmetric: `P` and `Q` need only have the same clauses among those with a head
    *instance* in a set `R` of atoms closed under the clauses of `P`.  This is the form matching
    chalk's `could_match`-filtered `impls_for_trait`: impls that cannot match any reachable atom
    may be missing from (or added to) the log. -/
theorem sol_restrict_instance (P Q : Program) (R : Atom → Prop) (hA : AgreeOn P Q R)
    (hC : ClosedUnder P R) (Γ : List Atom) (a : Atom) (ha : R a) : Holds Q Γ a ↔ Holds P Γ a :=
  holds_agree hA hC a ha

/-- the same in the coinductive stratum alone -/
theorem sol_restrict_instance_co (P Q : Program) (R : Atom → Prop) (hA : AgreeOn P Q R)
    (hC : ClosedUnder P R) (Γ : List Atom) (a : Atom) (ha : R a) : CoHolds Q Γ a ↔ CoHolds P Γ a :=
  coholds_agree hA hC a ha

/-- Goals, including negation and hypothetical goals: every goal all of whose atoms have reachable
    predicates has the same truth value in the log as in the original program. -/
theorem goal_restrict (P : Program) (seeds : List String) (Q : Program)
    (hco : ∀ p, Q.coind p = P.coind p)
    (hsub : ∀ c ∈ Q.clauses, c ∈ P.clauses)
    (hneeds : ∀ c ∈ P.clauses, Reach P seeds c.head.pred → c ∈ Q.clauses)
    (Γ : List Atom) (g : Goal) (hg : ∀ p ∈ goalPreds g, Reach P seeds p) :
    GHolds Q Γ g ↔ GHolds P Γ g :=
  gholds_agree (R := fun a => Reach P seeds a.pred) (agree_of_between hco hsub hneeds)
    (reach_closed P seeds) g Γ (goalIn_of_preds g hg)

/-- Executable form with a checked certificate: any predicate list `S` that passes the decidable
    closure check and contains the goal's predicates. -/
theorem restrict_needs_cert (P : Program) (S : List String) (Γ : List Atom) (g : Goal)
    (hclosed : closedList P S = true) (hg : ∀ p ∈ goalPreds g, p ∈ S) :
    GHolds (restrict P S) Γ g ↔ GHolds P Γ g :=
  gholds_agree (R := fun a => a.pred ∈ S) (restrict_agreeOn P S) (closedUnder_of_closedList hclosed)
    g Γ (goalIn_of_preds g hg)

/-- The computed predicate list is closed (`needs_closed`) and is exactly the set of predicates
    reachable from the goal's (`needs_exact`). -/
theorem needs_closed (P : Program) (g : Goal) : closedList P (needs P g) = true :=
  reachList_closed P (goalPreds g)

theorem needs_exact (P : Program) (g : Goal) (p : String) :
    p ∈ needs P g ↔ Reach P (goalPreds g) p :=
  ⟨reachList_sound P (goalPreds g) p, reachList_complete P (goalPreds g)⟩

/-- Unconditional: restricting a program to what the goal needs preserves the goal's truth value. -/
theorem restrict_needs (P : Program) (Γ : List Atom) (g : Goal) :
    GHolds (restrict P (needs P g)) Γ g ↔ GHolds P Γ g :=
  restrict_needs_cert P (needs P g) Γ g (needs_closed P g) (seeds_subset_reachList P (goalPreds g))

/-! ### auto traits -/

/-- Finding F9a, clause level: dropping the (non-matching) explicit impl `impl Send for Foo<A>`
    from the log *adds* the default clause `Send(Foo<v0>) :- .` to the lowered program: the log is
    not a sub-program of the original, `lowerAuto` is not monotone in the item set. -/
theorem auto_log_without_suppressing_impl_differs :
    (∀ e ∈ f9aLog.explicit, e ∈ f9aItems.explicit) ∧ f9aLog.base = f9aItems.base ∧
    f9aLog.autoTraits = f9aItems.autoTraits ∧ f9aLog.adts = f9aItems.adts ∧
    defaultClause "Send" "Foo" 1 [] ∈ lowerAuto f9aLog ∧
    defaultClause "Send" "Foo" 1 [] ∉ lowerAuto f9aItems ∧
    ¬ SuppressionFaithful f9aItems f9aLog := by
  refine ⟨by simp [f9aLog], rfl, rfl, rfl, by decide, by decide, ?_⟩
  intro h
  have := (h "Send" (by decide) ("Foo", 1, []) (by decide)).mpr (by decide)
  exact absurd this (by decide)

/-- Finding F9a, answer level: `Foo<B>: Send` does not hold in the original program but holds in
    the program replayed from such a log. -/
theorem auto_log_changes_answer :
    ¬ Holds (autoProgram f9aItems) [] ⟨"Send", .cons (.app "Foo" (.cons (.app "B" .nil) .nil)) .nil⟩ ∧
    Holds (autoProgram f9aLog) [] ⟨"Send", .cons (.app "Foo" (.cons (.app "B" .nil) .nil)) .nil⟩ :=
  ⟨(evalGoal_sound (autoProgram f9aItems) 5 (.atom _) []).2 (by rfl),
   (evalGoal_sound (autoProgram f9aLog) 5 (.atom _) []).1 (by rfl)⟩

/-- The obligation of the recording wrapper: if the log's items are among the original's and the
    log is suppression-faithful, the lowered log is a sub-program of the lowered original, so the
    restriction lemma above applies to it. -/
theorem lowerAuto_sublist_of_faithful (I L : AutoItems)
    (hb : ∀ c ∈ L.base, c ∈ I.base) (ht : ∀ t ∈ L.autoTraits, t ∈ I.autoTraits)
    (ha : ∀ a ∈ L.adts, a ∈ I.adts) (he : ∀ e ∈ L.explicit, e ∈ I.explicit)
    (hf : SuppressionFaithful I L) : ∀ c ∈ lowerAuto L, c ∈ lowerAuto I :=
  lowerAuto_subset_of_faithful hb ht ha he hf

/-! ### non-vacuity -/

/-- `impl Foo for A`, `impl<T> Foo for V<T> where T: Foo`, `impl Bar for A where A: Foo`,
    `impl Bar for B` -/
def demo : Program :=
  ⟨[⟨⟨"Foo", .cons (.app "A" .nil) .nil⟩, []⟩,
    ⟨⟨"Foo", .cons (.app "V" (.cons (.var 0) .nil)) .nil⟩, [⟨"Foo", .cons (.var 0) .nil⟩]⟩,
    ⟨⟨"Bar", .cons (.app "A" .nil) .nil⟩, [⟨"Foo", .cons (.app "A" .nil) .nil⟩]⟩,
    ⟨⟨"Bar", .cons (.app "B" .nil) .nil⟩, []⟩], fun _ => false⟩

def fooVA : Goal := .atom ⟨"Foo", .cons (.app "V" (.cons (.app "A" .nil) .nil)) .nil⟩
def barA : Goal := .atom ⟨"Bar", .cons (.app "A" .nil) .nil⟩

example : needs demo fooVA = ["Foo"] := by decide
example : needs demo barA = ["Bar", "Foo"] := by decide
example : needs demo (.implies [⟨"Bar", .nil⟩] (.not fooVA)) = ["Bar", "Foo"] := by decide
example : (restrict demo (needs demo fooVA)).clauses = demo.clauses.take 2 := by decide
example : (restrict demo (needs demo barA)).clauses = demo.clauses := by decide
example : closedList demo ["Foo"] = true := by decide
example : closedList demo ["Bar"] = false := by decide
example : evalGoal (restrict demo (needs demo fooVA)) 10 [] fooVA = .yes := by rfl
example : evalGoal demo 10 [] fooVA = .yes := by rfl

end Chalk.C23

#print axioms Chalk.C23.sol_restrict
#print axioms Chalk.C23.sol_restrict_instance
#print axioms Chalk.C23.sol_restrict_instance_co
#print axioms Chalk.C23.goal_restrict
#print axioms Chalk.C23.restrict_needs_cert
#print axioms Chalk.C23.needs_closed
#print axioms Chalk.C23.needs_exact
#print axioms Chalk.C23.restrict_needs
#print axioms Chalk.C23.auto_log_without_suppressing_impl_differs
#print axioms Chalk.C23.auto_log_changes_answer
#print axioms Chalk.C23.lowerAuto_sublist_of_faithful
