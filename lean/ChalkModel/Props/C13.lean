/-
  C13 — declaration order does not change solutions.
  (1) The meaning of a program does not depend on the order of its clauses or of the conditions of
  a clause (`sol_perm_invariant`), so any order dependence of an answer is a defect of the solver,
  never of the semantics.  (2) At the aggregation layer of the SLG solver the full statement is
  FALSE (DESIGN §9-F2): the guidance depends on the order in which answers arrive; refuted on the
  model of `merge_into_guidance`/`may_invalidate` with the two orders of the same two answers.
-/
import ChalkModel.Lemmas.SemLemmas
import ChalkModel.Lemmas.AggregateLemmas

namespace Chalk.C13
open Chalk.Sem

/-- Programs that agree as sets of clauses (with conditions as sets) give every closed goal the
    same truth value under every hypothesis list. -/
theorem sol_perm_invariant (P Q : Program) (h : SameProgram P Q) (g : Goal) (Γ : List Atom) :
    GHolds P Γ g ↔ GHolds Q Γ g := gholds_same h g Γ

/-- In particular: any permutation of the clause list. -/
theorem sol_perm_clauses (P : Program) (cs : List Clause) (hp : cs.Perm P.clauses) (g : Goal) (Γ : List Atom) :
    GHolds P Γ g ↔ GHolds ⟨cs, P.coind⟩ Γ g := by
  apply sol_perm_invariant
  refine ⟨rfl, ?_, ?_⟩
  · intro c hc; exact ⟨c, hp.symm.subset hc, rfl, fun _ => Iff.rfl⟩
  · intro d hd; exact ⟨d, hp.subset hd, rfl, fun _ => Iff.rfl⟩

/-- The two answers of F2: `Pair<A, A>` (from `impl Foo for Pair<A,A>`) and `Pair<^0.0, ^0.0>`
    (from `impl<T> Foo for Pair<T,T>`). -/
def ansConcrete : Args := .cons (.ty (.app (.adt 0) (.cons (.ty (.app (.adt 1) .nil)) (.cons (.ty (.app (.adt 1) .nil)) .nil)))) .nil
def ansGeneric : Args := .cons (.ty (.app (.adt 0) (.cons (.ty (.bound 0 0)) (.cons (.ty (.bound 0 0)) .nil)))) .nil

/-- FULL STATEMENT REFUTED: "the guidance computed from a complete answer stream does not depend on
    the order of the answers".  Concrete first: the second answer may invalidate, the merge gives
    `Pair<^0.0, ^0.1>`.  Generic first: `may_invalidate` says no future answer matters and the
    guidance stays `Pair<^0.0, ^0.0>`.  Both are sound, but they differ. -/
theorem guidance_order_dependent :
    (mayInvalidate ansGeneric ansConcrete = .ok true ∧
     mergeIntoGuidance [0] ansConcrete ansGeneric =
       .ok ⟨[(.ty .general, 0), (.ty .general, 0)],
            .cons (.ty (.app (.adt 0) (.cons (.ty (.bound 0 0)) (.cons (.ty (.bound 0 1)) .nil)))) .nil⟩) ∧
    mayInvalidate ansConcrete ansGeneric = .ok false := by
  refine ⟨⟨?_, ?_⟩, ?_⟩
  · simp [mayInvalidate, ansGeneric, ansConcrete, miAny, miGArg, miTy, miNamed, TyName.sameKind, Args.length, Args.toList]
  · rfl
  · simp [mayInvalidate, ansGeneric, ansConcrete, miAny, miGArg, miTy, miNamed, TyName.sameKind, Args.length, Args.toList]

/-- What does hold at that layer (any order): whatever guidance results, every answer merged into
    it is an instance of it (C17 `merge_generalizes`) — order changes precision, never soundness. -/
theorem guidance_sound_any_order (universes : List Nat) (guidance answer : Args) (r : Canon Args)
    (h : mergeIntoGuidance universes guidance answer = .ok r) (hk : guidance.sameKinds answer = true) :
    r.value.genOf guidance = true ∧ r.value.genOf answer = true :=
  mergeIntoGuidance_gen h hk

end Chalk.C13

#print axioms Chalk.C13.sol_perm_invariant
#print axioms Chalk.C13.sol_perm_clauses
#print axioms Chalk.C13.guidance_order_dependent
#print axioms Chalk.C13.guidance_sound_any_order
