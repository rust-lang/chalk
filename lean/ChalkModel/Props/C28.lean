/-
  C28 — every returned solution is a well-formed answer for its query.
  `wfAnswer` is evaluated by the check on every solution either solver returns; the theorems say
  what passing it guarantees.
-/
import ChalkModel.Lemmas.WfAnswerLemmas

namespace Chalk.C28

/-- Applying a well-formed answer to (any type inside) its query never fails: every query term whose
    free variables are the query's binders (`scoped`, what a canonical query guarantees) is mapped
    to a term — none of the panics of `SubstFolder` (wrong kind, index out of range, non-innermost
    variable) can occur. -/
theorem wfAnswer_apply_ok (cty : Nat → Ty) (queryKinds : List VarKind) (nu : Nat) (ans : Canon Args)
    (h : wfAnswer queryKinds nu ans = true) (t : Ty) (ht : t.scoped cty queryKinds 0 = true) :
    ∃ r, foldTy (applyFolder ans.value.toList) 0 t = .ok r := by
  simp only [wfAnswer, Bool.and_eq_true] at h
  exact foldTy_apply_ok cty queryKinds ans.value.toList h.1 0 t ht

theorem wfAnswer_apply_ok_wc (cty : Nat → Ty) (queryKinds : List VarKind) (nu : Nat) (ans : Canon Args)
    (h : wfAnswer queryKinds nu ans = true) (w : WC) (hw : w.scoped cty queryKinds 0 = true) :
    ∃ r, foldWC (applyFolder ans.value.toList) 0 w = .ok r := by
  simp only [wfAnswer, Bool.and_eq_true] at h
  exact foldWC_apply_ok cty queryKinds ans.value.toList h.1 0 w hw

/-- one entry per unknown of the query -/
theorem wfAnswer_arity (queryKinds : List VarKind) (nu : Nat) (ans : Canon Args)
    (h : wfAnswer queryKinds nu ans = true) : ans.value.toList.length = queryKinds.length := by
  simp only [wfAnswer, Bool.and_eq_true] at h
  exact kindsMatch_length _ _ h.1

/-- refers only to variables bound by the solution itself, each in a universe the query can name,
    contains no inference variable, and names no placeholder universe beyond the query's
    (binders used only by region constraints are not restricted, as the property says) -/
theorem wfAnswer_closed (queryKinds : List VarKind) (nu : Nat) (ans : Canon Args)
    (h : wfAnswer queryKinds nu ans = true) :
    ans.value.okIn (ans.binders.map (·.2)) nu 0 = true := by
  simp only [wfAnswer, Bool.and_eq_true] at h
  exact h.2

/-- Non-vacuity: a query with a type and a lifetime unknown and a well-formed answer for it. -/
example : wfAnswer [.ty .general, .lt] 2
    ⟨[(.ty .general, 0)], .cons (.ty (.app (.adt 1) (.cons (.ty (.bound 0 0)) .nil))) (.cons (.lt (.placeholder 1 0)) .nil)⟩ = true := by
  decide
example : wfAnswer [.ty .general] 1 ⟨[], .cons (.ty (.bound 0 0)) .nil⟩ = false := by decide

end Chalk.C28

#print axioms Chalk.C28.wfAnswer_apply_ok
#print axioms Chalk.C28.wfAnswer_apply_ok_wc
#print axioms Chalk.C28.wfAnswer_arity
#print axioms Chalk.C28.wfAnswer_closed
