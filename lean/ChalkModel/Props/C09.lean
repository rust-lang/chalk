/-
  C09 — every solve call terminates (recursive solver side: the bounding mechanisms of the
  fixed-point framework; the real engines' termination is observed through the deterministic
  work counters of the cfg(chalk_verif) hooks, SLG included — differential only).

  Model: `FixedPoint.lean`.  What bounds a call of the recursive solver:
    (a) the stack: `Stack::push` panics at `overflow_depth` — the nesting of `solve_goal` is
        bounded (the model's depth fuel `overflowDepth + 1` is never exhausted);
    (b) the loop of `solve_new_subgoal`, the only loop without a structural bound: it stops when
        `reached_fixed_point` holds.
  Theorems:
    `reached_fixed_point_ambig_stops` — an ambiguous answer ends the loop in the same round;
    `fixedPoint_terminates` — on the model's value domain (`noSolution < unique < ambig`, the order
        of the Rust comment; finite height) a monotone iteration reaches `reached_fixed_point`
        within 3 rounds (2 from the initial values of `initial_value`), and 3 is tight;
        `termination_needs_monotone`: without monotonicity the loop need not stop;
    `work_bounded` — explicit bound `workBound` on the number of `solve_goal` entries + loop rounds
        of ONE call, for every instance, state, oracle and outcome, in terms of the overflow depth,
        the rounds per loop, the number of alternatives per goal and of sub-goals per alternative;
    `workBound_attained` — the exponential shape of the bound is real: without its cache the
        solver proves every ambiguous sub-goal twice (main pass and last pass of `Fulfill::solve`),
        the work doubles per level of a chain (finding `recursive_nocache_exponential_reprove`, F27);
        with the cache it is linear.
    `acyclic_call_terminates` — on acyclic instances every call (any history, any oracle, cache on
        or off) returns a value when the goal's rank fits under the overflow depth: none of the
        framework's asserts fires, each loop runs one round.
  REMARK (F12).  `fixedPoint_terminates` has the hypothesis "the value order has finite height"
  built into `V`.  The real value domain does not satisfy it: `Unique σ` carries a substitution and
  `Unique(V<^0>) , Unique(V<V<^0>>), …` is an infinite strictly increasing chain of answers, on
  which neither disjunct of `reached_fixed_point` ever holds (coinductive goal with an unknown;
  reproduced as F12, repaired in /repo by turning an oversized `Unique` into `Ambig`, after which
  `reached_fixed_point_ambig_stops` applies).
  For GROUND instances without a mixed cycle the loop of the model is proved to stop within 2 rounds, and
  every call to return (no overflow for `dom.length ≤ overflowDepth`, no assert, budget panic only if a
  budget is set): `Cyc.loop_spec` / `Cyc.solveGoal_spec` (`Lemmas/FixedPointSemI/J.lean`, one polarity,
  stated for whole calls in `Props/C05fp.lean`, `C12fp.lean`) and `Mix.loop_spec` / `Mix.solveGoal_spec`
  (`Lemmas/FixedPointMixI/J.lean`, stratified, `Props/C05mixed.lean`, `C11C12mixed.lean`).
  NOT YET THEOREMS (differential only): that the iteration is monotone in the provisional answer for
  goals with unknowns (so that 3 rounds suffice for every instance); termination of the SLG engine.
-/
import ChalkModel.Lemmas.FixedPointWork
import ChalkModel.Lemmas.FixedPointLemmas

namespace Chalk.FixedPoint.C09

/-- `reached_fixed_point(old, Ambig) = true` -/
theorem reached_fixed_point_ambig (old : V) : reachedFixedPoint old .ambig = true :=
  reachedFixedPoint_ambig old

/-- an ambiguous answer of the iteration ends the loop of `solve_new_subgoal` in that round,
    whatever fuel is left (even none) -/
theorem reached_fixed_point_ambig_stops (inst : Instance) (cfg : Cfg) (rec : SubSolver)
    (g depth dfn r : Nat) (s s0 s1 : St) (m : Min)
    (ht : tick cfg s = .ok () s0)
    (hi : solveIteration inst cfg rec g none s0 = .ok (.ambig, m) s1) :
    (∃ s', solveNewSubgoal inst cfg rec g depth dfn (r + 1) s = .ok m s') ∨
      solveNewSubgoal inst cfg rec g depth dfn (r + 1) s = .panic .index s1 :=
  ambig_stops inst cfg rec g depth dfn r s s0 s1 m ht hi

/-- finite height: a monotone iteration stops within 3 rounds from any start, within 2 from the
    initial values -/
theorem fixedPoint_terminates (f : V → V) (hf : Monotone f) :
    (∀ x0, (iterate f 3 x0).isSome = true) ∧ (∀ co, (iterate f 2 (initialValue co)).isSome = true) :=
  ⟨monotone_stabilizes f hf, monotone_stabilizes_initial f hf⟩

/-- 3 is tight -/
theorem fixedPoint_three_rounds_tight :
    Monotone downF ∧ iterate downF 2 .ambig = none ∧ iterate downF 3 .ambig = some (0, .noSolution) :=
  ⟨downF_monotone, downF_two_rounds_fail, downF_three_rounds⟩

/-- the hypothesis matters -/
theorem termination_needs_monotone :
    ¬ Monotone swapF ∧ ∀ n, iterate swapF n .noSolution = none ∧ iterate swapF n .unique = none :=
  ⟨swapF_not_monotone, nonmonotone_diverges_all⟩

/-- explicit bound on the work of one `solve_goal` call, every instance / state / outcome -/
theorem work_bounded (inst : Instance) (cfg : Cfg) (A S : Nat) (hb : inst.Bounded A S) :
    ∀ d g m s, (solveGoal inst cfg d g m s).state.work ≤ s.work + workBound cfg.rounds A S d :=
  Chalk.FixedPoint.work_bounded inst cfg A S hb

/-- … and of one call of `Solver::solve` / `solve_limited` -/
theorem call_work_bounded (inst : Instance) (cfg : Cfg) (A S : Nat) (hb : inst.Bounded A S)
    (c : Call) (s : St) :
    (runCall inst cfg c s).state.work ≤ workBound cfg.rounds A S (cfg.overflowDepth + 1) :=
  runCall_work inst cfg A S hb c s

/-- the exponential shape is attained without the cache (F27), linear with it -/
theorem workBound_attained :
    chainWork false 3 = 30 ∧ chainWork false 4 = 62 ∧ chainWork false 5 = 126 ∧
    chainWork true 3 = 11 ∧ chainWork true 4 = 14 ∧ chainWork true 5 = 17 ∧
    chainWork false 5 = workBound 1 1 1 6 :=
  ⟨workBound_attained_shape.1, workBound_attained_shape.2.1, workBound_attained_shape.2.2.1,
   workBound_attained_shape.2.2.2.1, workBound_attained_shape.2.2.2.2.1, workBound_attained_shape.2.2.2.2.2,
   workBound_attained_exact.2.2⟩

/-- the property's sentence for the recursive framework on ACYCLIC instances: every call without
    work budget, on a solver instance with any history (answers, interruptions, panics), returns a
    value when the goal's rank (longest dependency chain) fits under the configured overflow depth
    — no assert fires, every loop runs one round -/
theorem acyclic_call_terminates (inst : Instance) (rank : Nat → Nat) (hrank : Ranked inst rank)
    (cfg : Cfg) (h3 : cfg.fixF3 = true) (h7 : cfg.fixF7 = true) (h16 : cfg.fixF16 = true)
    (hr : 1 ≤ cfg.rounds) (h : List Call) (caching : Bool) (c : Call) (hb : c.budget = none)
    (hfit : rank c.goal < cfg.overflowDepth) :
    ∃ v, (runCall inst cfg c (runHistory inst cfg h (St.fresh caching))).outcome = .value v :=
  history_call_returns h3 h7 h16 hr (semOf_isSem inst rank hrank) hrank h caching c hb hfit

/-! non-vacuity -/
example : (chain 4).Bounded 2 1 := chain_bounded 4
example : Monotone (fun v => v) := fun _ _ h => h

end Chalk.FixedPoint.C09

#print axioms Chalk.FixedPoint.C09.reached_fixed_point_ambig
#print axioms Chalk.FixedPoint.C09.reached_fixed_point_ambig_stops
#print axioms Chalk.FixedPoint.C09.fixedPoint_terminates
#print axioms Chalk.FixedPoint.C09.fixedPoint_three_rounds_tight
#print axioms Chalk.FixedPoint.C09.termination_needs_monotone
#print axioms Chalk.FixedPoint.C09.work_bounded
#print axioms Chalk.FixedPoint.C09.call_work_bounded
#print axioms Chalk.FixedPoint.C09.workBound_attained
#print axioms Chalk.FixedPoint.C09.acyclic_call_terminates
