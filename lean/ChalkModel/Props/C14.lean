/-
  C14 — unification is sound and computes most general unifiers. Soundness is proved here; that
  the unifier is most general is not (see the end of this comment).

  Model: `relate` (`ChalkModel/Unify.lean`) on the inference table of `ChalkModel/Infer.lean`.
  Proved here, for the INVARIANT relation on the FIRST-ORDER fragment `Ty.fo`
  (`Lemmas/UnifyDefs.lean`): applied names over type arguments (ADTs, tuples, fn defs, closures,
  ...), slices, raw pointers, scalars, `str`, `!`, foreign types, placeholders of every universe
  and type variables of the three kinds (general / integer / float) created in any universe — no
  lifetimes, constants, references, aliases, `dyn`, fn pointers. Types respect an arity table
  (`arityOk`; `zip_substs` truncates to the shorter argument list, so without it the statement is
  false — the counterexample is proved in `Lemmas/UnifySound.lean`).

  A table is described by its solutions: `t.Models θ` (`θ : Nat → Ty` gives all variables of one
  class one image, and a variable bound to a type the image of that type).
    `relate_sound`    on success no goals are returned and EVERY solution of the resulting table
                      equates the two types.
    `relate_extends`  the resulting table refines the given one: every solution of it is a solution
                      of the old table, variables that were bound keep their values, classes only
                      merge, no variable disappears, no universe is created; and the invariants
                      (`TableOk`) that the theorems assume hold again — so the theorems apply
                      after any history of successful (or failed: C15) relates starting from
                      `Table.new`, `new_variable`, `new_universe` (`tableOk_new`, `tableOk_newVariable`,
                      `tableOk_newUniverse`).
    `relate_acyclic`  (occurs check) under a kind discipline `κ` (`Table.Kinded` / `Ty.kinded`,
                      `Lemmas/UnifyKinded.lean`: every variable is written with the one kind `κ`
                      gives it, classes are kind-uniform, a variable is bound to a variable only as
                      "general := integer/float variable", unallocated variables are general) an
                      acyclic table (`Table.Ranked`: some strict ranking of the classes decreases
                      from every bound variable to the variables of its value) stays acyclic and
                      kinded. Without the discipline this is false of the code's table operations:
                      `?0:general` against `?0:integer` binds `?0 := ?0`; and with all kinds general
                      but a chain `?0 := ?1 := ?2 := Adt0<?3>` in the table, relating `?0` with `?3`
                      yields `?3 := Adt0<?3>` (both counterexamples are proved in
                      `Lemmas/UnifyAcyclic.lean`).
    `ranked_canon`    an acyclic table HAS a solution: its full resolution `canon N` (stable from some
                      depth `N` on) — so `relate_sound` is not vacuous.
    `relate_sound_resolve`  the syntactic form: from some depth on, fully resolving `a` and `b`
                      through the resulting table (`Table.resolve`: bound variables replaced by
                      their resolved values, unbound ones by the root of their class) gives EQUAL types.
  NOT proved here (checked differentially on the real code by the harness on every run):
  that the result is a MOST GENERAL unifier and that failure implies that no unifier exists
  (`relate_mgu`, `relate_complete` of the design), and the universe discipline
  (`relate_universe_ok`).
-/
import ChalkModel.Lemmas.UnifyAcyclic

namespace Chalk.C14

/-- the invariants of a table of first-order values that respect the arity table -/
def TableOk (ar : TyName → Nat) (t : Table) : Prop := t.WF ∧ t.foValues ∧ t.arityValues ar

theorem tableOk_new (ar : TyName → Nat) : TableOk ar Table.new :=
  ⟨Table.new_WF, Table.new_foValues, Table.new_arityValues ar⟩

theorem tableOk_newVariable (ar : TyName → Nat) (t : Table) (ui : Nat) (h : TableOk ar t) :
    TableOk ar (t.newVariable ui).1 :=
  ⟨Table.newVariable_WF _ _ h.1, Table.newVariable_foValues _ _ h.1 h.2.1,
   Table.newVariable_arityValues _ _ _ h.1 h.2.2⟩

theorem tableOk_newUniverse (ar : TyName → Nat) (t : Table) (h : TableOk ar t) :
    TableOk ar t.newUniverse.1 :=
  ⟨Table.newUniverse_WF _ h.1, Table.newUniverse_foValues _ h.2.1, Table.newUniverse_arityValues _ _ h.2.2⟩

/-- a successful `relate` is a successful `relateTy` from the table with no goals; the goals returned
    are those of the final state that `retainGoal` keeps -/
theorem relate_unfold (db : UDb) (jf fuel : Nat) (t t' : Table) (a b : Ty) (gs : List UGoal)
    (h : relate db jf fuel t .inv a b = (t', .ok gs)) :
    ∃ st', relateTy db jf fuel .inv a b { table := t, goals := [] } = .ok st' ∧ st'.table = t' ∧
      gs = st'.goals.filter (retainGoal st'.table) := by
  unfold relate at h
  split at h <;> simp_all
  obtain ⟨h1, h2⟩ := h
  subst h1
  exact h2.symm

/-- SOUNDNESS: a successful invariant `relate` of two first-order types returns no obligations, and
    every solution of the resulting table makes the two types equal. -/
theorem relate_sound (db : UDb) (ar : TyName → Nat) (jf fuel : Nat) (t t' : Table) (a b : Ty)
    (gs : List UGoal) (ht : TableOk ar t)
    (ha : a.fo = true) (hb : b.fo = true)
    (hav : a.varsBelow t.numVars = true) (hbv : b.varsBelow t.numVars = true)
    (haa : a.arityOk ar = true) (hba : b.arityOk ar = true)
    (h : relate db jf fuel t .inv a b = (t', .ok gs)) :
    gs = [] ∧ ∀ θ, t'.Models θ → a.applyAsg θ = b.applyAsg θ := by
  obtain ⟨st', hr, rfl, rfl⟩ := relate_unfold db jf fuel t _ a b gs h
  have := relateTy_sound db jf ar fuel a b { table := t, goals := [] } st' ht.1 ht.2.1 ht.2.2 ha hb hav hbv haa hba hr
  refine ⟨by simp [this.2.2.2.1], fun θ hm => (this.2.2.2.2.2.2.1 θ hm).2⟩

/-- EXTENSION: the resulting table refines the given one and satisfies the invariants again. -/
theorem relate_extends (db : UDb) (ar : TyName → Nat) (jf fuel : Nat) (t t' : Table) (a b : Ty)
    (gs : List UGoal) (ht : TableOk ar t)
    (ha : a.fo = true) (hb : b.fo = true)
    (hav : a.varsBelow t.numVars = true) (hbv : b.varsBelow t.numVars = true)
    (haa : a.arityOk ar = true) (hba : b.arityOk ar = true)
    (h : relate db jf fuel t .inv a b = (t', .ok gs)) :
    TableOk ar t' ∧
    t.numVars ≤ t'.numVars ∧ t'.maxUniverse = t.maxUniverse ∧
    (∀ θ, t'.Models θ → t.Models θ) ∧
    (∀ v g, v < t.numVars → t.probeVar v = some g → t'.probeVar v = some g) ∧
    (∀ x y, x < t.numVars → y < t.numVars → t.find x = t.find y → t'.find x = t'.find y) := by
  obtain ⟨st', hr, rfl, rfl⟩ := relate_unfold db jf fuel t _ a b gs h
  have := relateTy_sound db jf ar fuel a b { table := t, goals := [] } st' ht.1 ht.2.1 ht.2.2 ha hb hav hbv haa hba hr
  exact ⟨⟨this.1, this.2.1, this.2.2.1⟩, this.2.2.2.2.1, this.2.2.2.2.2.1,
    fun θ hm => (this.2.2.2.2.2.2.1 θ hm).1, this.2.2.2.2.2.2.2.1, this.2.2.2.2.2.2.2.2⟩

/-- the further invariants for the syntactic form: acyclic, and well-kinded for `κ` (`Table.Kinded`) -/
def TableOk2 (ar : TyName → Nat) (κ : Nat → TyVarKind) (t : Table) : Prop :=
  TableOk ar t ∧ t.Ranked ∧ t.Kinded κ

theorem tableOk2_new (ar : TyName → Nat) : TableOk2 ar (fun _ => .general) Table.new :=
  ⟨tableOk_new ar, Table.new_Ranked, Table.new_Kinded⟩

/-- a new variable may be declared with any kind -/
theorem tableOk2_newVariable (ar : TyName → Nat) (κ : Nat → TyVarKind) (t : Table) (ui : Nat) (k : TyVarKind)
    (h : TableOk2 ar κ t) :
    TableOk2 ar (fun v => if v = t.numVars then k else κ v) (t.newVariable ui).1 :=
  ⟨tableOk_newVariable ar t ui h.1, Table.newVariable_Ranked t ui h.1.1 h.2.1,
   Table.newVariable_Kinded κ t ui k h.1.1 h.1.2.1 h.2.2⟩

theorem tableOk2_newUniverse (ar : TyName → Nat) (κ : Nat → TyVarKind) (t : Table) (h : TableOk2 ar κ t) :
    TableOk2 ar κ t.newUniverse.1 :=
  ⟨tableOk_newUniverse ar t h.1, Table.newUniverse_Ranked t h.2.1, Table.newUniverse_Kinded κ t h.2.2⟩

/-- OCCURS CHECK: acyclicity (and the kind discipline) survive a successful relate. -/
theorem relate_acyclic (db : UDb) (ar : TyName → Nat) (κ : Nat → TyVarKind) (jf fuel : Nat) (t t' : Table)
    (a b : Ty) (gs : List UGoal) (ht : TableOk2 ar κ t)
    (ha : a.fo = true) (hb : b.fo = true)
    (hav : a.varsBelow t.numVars = true) (hbv : b.varsBelow t.numVars = true)
    (haa : a.arityOk ar = true) (hba : b.arityOk ar = true)
    (hka : a.kinded κ = true) (hkb : b.kinded κ = true)
    (h : relate db jf fuel t .inv a b = (t', .ok gs)) : TableOk2 ar κ t' := by
  obtain ⟨st', hr, rfl, rfl⟩ := relate_unfold db jf fuel t _ a b gs h
  have h1 := relateTy_sound db jf ar fuel a b { table := t, goals := [] } st' ht.1.1 ht.1.2.1 ht.1.2.2 ha hb hav hbv haa hba hr
  have h2 := relateTy_ranked db jf ar κ fuel a b { table := t, goals := [] } st' ht.1.1 ht.1.2.1 ht.1.2.2 ha hb hav hbv
    haa hba ht.2.2 hka hkb ht.2.1 hr
  exact ⟨⟨h1.1, h1.2.1, h1.2.2.1⟩, h2.1, h2.2⟩

/-- An acyclic table has a solution: its full resolution, which is stable from some depth on. -/
theorem ranked_canon (ar : TyName → Nat) (κ : Nat → TyVarKind) (t : Table) (h : TableOk2 ar κ t) :
    ∃ N, t.Models (t.canon N) ∧ ∀ n, N ≤ n → ∀ v, v < t.numVars → t.canon n v = t.canon N v :=
  Table.ranked_canon t h.1.1 h.1.2.1 h.2.1

/-- SOUNDNESS, syntactic form: from some depth on, fully resolving the two types through the
    resulting table gives equal types. -/
theorem relate_sound_resolve (db : UDb) (ar : TyName → Nat) (κ : Nat → TyVarKind) (jf fuel : Nat) (t t' : Table)
    (a b : Ty) (gs : List UGoal) (ht : TableOk2 ar κ t)
    (ha : a.fo = true) (hb : b.fo = true)
    (hav : a.varsBelow t.numVars = true) (hbv : b.varsBelow t.numVars = true)
    (haa : a.arityOk ar = true) (hba : b.arityOk ar = true)
    (hka : a.kinded κ = true) (hkb : b.kinded κ = true)
    (h : relate db jf fuel t .inv a b = (t', .ok gs)) :
    ∃ N, ∀ n, N ≤ n → t'.resolve n a = t'.resolve n b := by
  obtain ⟨st', hr, rfl, rfl⟩ := relate_unfold db jf fuel t _ a b gs h
  exact relateTy_sound_resolve db jf ar κ fuel a b { table := t, goals := [] } st' ht.1.1 ht.1.2.1 ht.1.2.2 ha hb hav hbv
    haa hba ht.2.2 hka hkb ht.2.1 hr

/-! ## non-vacuity -/

/-! Two variables, in universe 0 and 1; `Adt0<?0>` against `Adt0<*const ?1>`. The table satisfies
  `TableOk`, and `TableOk2` for a discipline under which both variables are general. The relate
  succeeds: `?0 := *const ?2` for a fresh `?2` unified with `?1` (generalization below `*const`), and
  `?1` is promoted to universe 0. -/

def exDb : UDb := { adtVariance := fun _ => [.inv], fnDefVariance := fun _ => [] }
def exAr : TyName → Nat := fun _ => 1
def exT : Table := ((Table.new.newUniverse.1.newVariable 0).1.newVariable 1).1
def exA : Ty := .app (.adt 0) (.cons (.ty (.infer 0 .general)) .nil)
def exB : Ty := .app (.adt 0) (.cons (.ty (.raw false (.infer 1 .general))) .nil)

example : TableOk exAr exT :=
  tableOk_newVariable _ _ _ (tableOk_newVariable _ _ _ (tableOk_newUniverse _ _ (tableOk_new _)))
example : ∃ κ, TableOk2 exAr κ exT ∧ exA.kinded κ = true ∧ exB.kinded κ = true :=
  ⟨_, tableOk2_newVariable _ _ _ _ .general (tableOk2_newVariable _ _ _ _ .general
        (tableOk2_newUniverse _ _ _ (tableOk2_new _))), by decide, by decide⟩
example : exA.fo = true ∧ exB.fo = true ∧ exA.varsBelow exT.numVars = true ∧
    exB.varsBelow exT.numVars = true ∧ exA.arityOk exAr = true ∧ exB.arityOk exAr = true := by decide
example : ∃ t', relate exDb 4 4 exT .inv exA exB = (t', .ok []) ∧
    t'.probeVar 0 = some (.ty (.raw false (.infer 2 .general))) ∧ t'.find 2 = t'.find 1 ∧
    t'.probeValue 1 = .unbound 0 := by
  refine ⟨_, rfl, ?_⟩
  decide

end Chalk.C14

#print axioms Chalk.C14.tableOk_new
#print axioms Chalk.C14.tableOk_newVariable
#print axioms Chalk.C14.tableOk_newUniverse
#print axioms Chalk.C14.relate_unfold
#print axioms Chalk.C14.relate_sound
#print axioms Chalk.C14.relate_extends
#print axioms Chalk.C14.tableOk2_new
#print axioms Chalk.C14.tableOk2_newVariable
#print axioms Chalk.C14.tableOk2_newUniverse
#print axioms Chalk.C14.relate_acyclic
#print axioms Chalk.C14.ranked_canon
#print axioms Chalk.C14.relate_sound_resolve
