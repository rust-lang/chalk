/-
  C01 — a definite answer from either solver matches the program's logical meaning.
  What the check's acceptance predicate `judgeAnswer` certifies (all programs, goals, answers,
  candidate lists, fuel).  The end-to-end claim is translation validation: every answer the real
  solvers produce is judged; the solvers' search is not verified.  The aggregation layer that turns
  engine answers into a `Solution` has its own exact model and theorems (Props/C17.lean).
-/
import ChalkModel.Lemmas.ContractLemmas

namespace Chalk.C01
open Chalk.Sem

/-- "No possible solution" is rejected only with a certified solution of the goal. -/
theorem rejected_none_has_solution (P : Program) (fuel : Nat) (g : Goal) (cands : List (List Tm)) (slg : Bool)
    (k : RejectKind) (c : String) (θ : List Tm) (h : judgeAnswer P fuel g cands slg .none = .rejected k c θ) :
    GHolds P [] (g.inst (listSubst θ)) := by
  simp only [judgeAnswer] at h
  split at h
  · rename_i θ' rest hs
    injection h with _ _ hθ; subst hθ
    exact mem_solutionsAmong (by rw [hs]; simp)
  · cases h

/-- `Unique σ` rejected as unsound: the goal fails for the instantiation of `σ`'s variables by
    distinct opaque constants, so it does not hold "for every instantiation". -/
theorem rejected_unique_does_not_hold (P : Program) (fuel : Nat) (g : Goal) (cands : List (List Tm)) (slg : Bool)
    (σ w : List Tm) (c : String) (h : judgeAnswer P fuel g cands slg (.unique σ) = .rejected .uniqueDoesNotHold c w) :
    ¬ GHolds P [] (g.inst (fun i => (σ.getD i (.var i)).inst genericSubst)) := by
  simp only [judgeAnswer] at h
  split at h
  · rename_i hv; exact (evalGoal_sound P fuel _ []).2 hv
  · split at h
    · injection h with hc _; cases hc
    · split at h <;> cases h

/-- `Unique σ` or definite guidance `σ` rejected as incomplete: a certified solution `θ` of the goal
    that is not an instance of `σ` under any substitution. -/
theorem rejected_excludes_solution (P : Program) (fuel : Nat) (g : Goal) (cands : List (List Tm)) (slg : Bool)
    (σ θ : List Tm) (c : String)
    (h : judgeAnswer P fuel g cands slg (.unique σ) = .rejected .excludesSolution c θ ∨
         judgeAnswer P fuel g cands slg (.definite σ) = .rejected .excludesSolution c θ) :
    GHolds P [] (g.inst (listSubst θ)) ∧ ∀ τ : Nat → Tm, σ.map (Tm.inst τ) ≠ θ := by
  have key : ∀ θ' rest, (solutionsAmong P fuel g cands).filter (fun θ => !isInstance σ θ) = θ' :: rest →
      GHolds P [] (g.inst (listSubst θ')) ∧ ∀ τ : Nat → Tm, σ.map (Tm.inst τ) ≠ θ' := by
    intro θ' rest hf
    have hm : θ' ∈ (solutionsAmong P fuel g cands).filter (fun θ => !isInstance σ θ) := by rw [hf]; simp
    simp only [List.mem_filter, Bool.not_eq_true'] at hm
    exact ⟨mem_solutionsAmong hm.1, not_instance_of_isInstance_false hm.2⟩
  rcases h with h | h
  · simp only [judgeAnswer] at h
    split at h
    · injection h with hc' _; cases hc'
    · split at h
      · rename_i θ' rest hf
        injection h with _ _ hθ; subst hθ
        exact key _ _ hf
      · split at h <;> cases h
  · simp only [judgeAnswer] at h
    split at h
    · rename_i θ' rest hf
      injection h with _ _ hθ; subst hθ
      exact key _ _ hf
    · cases h

/-- An accepted `Unique σ` is certified to hold for the generic instantiation of `σ`. -/
theorem accepted_unique_holds (P : Program) (fuel : Nat) (g : Goal) (cands : List (List Tm)) (slg : Bool)
    (σ : List Tm) (st : String) (h : judgeAnswer P fuel g cands slg (.unique σ) = .accepted st) :
    GHolds P [] (g.inst (fun i => (σ.getD i (.var i)).inst genericSubst)) := by
  simp only [judgeAnswer] at h
  split at h
  · cases h
  · split at h
    · cases h
    · split at h
      · rename_i hv; exact (evalGoal_sound P fuel _ []).1 hv
      · cases h

/-- An accepted `Unique σ` / definite `σ`: no candidate of the enumeration is a
    certified solution outside the answer (refutation-completeness relative to `cands`). -/
theorem accepted_complete_on_candidates (P : Program) (fuel : Nat) (g : Goal) (cands : List (List Tm)) (slg : Bool)
    (σ : List Tm) (st : String)
    (h : judgeAnswer P fuel g cands slg (.unique σ) = .accepted st ∨
         judgeAnswer P fuel g cands slg (.definite σ) = .accepted st) :
    ∀ θ ∈ cands, evalGoal P fuel [] (g.inst (listSubst θ)) = .yes → isInstance σ θ = true := by
  intro θ hθ hy
  have hmem : θ ∈ solutionsAmong P fuel g cands := by
    simp [solutionsAmong, List.mem_filter, hθ, hy]
  have hempty : (solutionsAmong P fuel g cands).filter (fun θ => !isInstance σ θ) = [] := by
    rcases h with h | h
    · simp only [judgeAnswer] at h
      split at h
      · cases h
      · split at h
        · cases h
        · assumption
    · simp only [judgeAnswer] at h
      split at h
      · cases h
      · assumption
  cases hi : isInstance σ θ with
  | true => rfl
  | false =>
    have : θ ∈ (solutionsAmong P fuel g cands).filter (fun θ => !isInstance σ θ) := by
      simp [List.mem_filter, hmem, hi]
    rw [hempty] at this; cases this

end Chalk.C01

#print axioms Chalk.C01.rejected_none_has_solution
#print axioms Chalk.C01.rejected_unique_does_not_hold
#print axioms Chalk.C01.rejected_excludes_solution
#print axioms Chalk.C01.accepted_unique_holds
#print axioms Chalk.C01.accepted_complete_on_candidates
