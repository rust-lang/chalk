/-
  C10 — answers do not depend on what the same solver solved before (recursive solver side; the
  SLG solver is covered by the differential part of the harness only).

  Model: `ChalkModel/FixedPoint.lean` (one `St` = one `RecursiveContext`, the cache persists across
  `solve_root_goal` calls; `St.fresh false` = caching disabled).  `Cfg.legacy` = the code as found,
  `Cfg.current` = the code as repaired for F3, F7, F10 and the unwrap finding
  (`recursive_unwrap_after_interrupt`, F25; field `fixF16`).

  * The full statement ("for every history h and goal g: solve(after h) g = solve(fresh) g, and
    cache on = cache off") was FALSE of the code as found: `legacy_cache_transparent_refuted`
    (F10: nodes computed from an outdated provisional answer were cached when the loop stopped on
    ambiguity).  With the repair the witness behaves: `f10_repaired`.
  * It is STILL FALSE of the repaired code: `cache_transparent_refuted` (the mixed-cycle finding
    `recursive_mixed_cycle_cached`, F24, open: the
    `error_value` a goal gets for closing a mixed inductive/coinductive cycle depends on what is on
    the stack, but is kept in the search graph and cached with its SCC).
  * `cache_transparent_partial`: proved for every instance whose dependency relation is
    well-founded (`Ranked`: acyclic, any size, coinductive and inductive goals, goals with
    unknowns), every configuration with the F3 and F7 repairs, every pair of histories made of
    arbitrary calls (plain, interrupted by any oracle, panicking by any work budget), cache on or
    off on either side.
  * `cache_transparent_acyclic`: the unconditional form for goals whose rank fits under the
    overflow depth: the solve after any history returns, and returns what a fresh solver returns.
  Instances WITH cycles, ground, histories of plain calls: `Props/C10fp.lean` (all goals of one
  polarity: `history_independent_cyclic`, `cache_on_off_agree_cyclic`) and `C05mixed.mixed_answers_agree`
  (both polarities, no mixed cycle).  NOT YET THEOREMS (differential only): cyclic instances with unknowns.
-/
import ChalkModel.Lemmas.FixedPointLemmas

namespace Chalk.FixedPoint.C10

/-- DESIGN §9-F10 as an abstract instance: goal 0 = `exists<X> { X: T1 }` with the alternatives
    `impl<X> T1 for X where X: T2`, `impl T1 for A`, `impl T1 for B`; goal 1 = `exists<X> { X: T2 }`
    with `impl<X> T2 for X where X: T1`. -/
def f10 : Instance := Instance.ofTable [(false, false, [[1], [], []]), (false, false, [[0]])]

/-- the mixed-cycle finding (F24): goal 0 inductive `G :- C | true`, goal 1 coinductive `C :- G` (both ground). -/
def f13 : Instance := Instance.ofTable [(false, true, [[1], []]), (true, true, [[0]])]

/-- F10 on the code as found: after `exists<X>{X: T1}` the goal `exists<X>{X: T2}` is answered
    "no solution" from the cache; a fresh solver and the same history without the cache say
    `ambig`. -/
theorem legacy_cache_transparent_refuted :
    solveOn f10 (Cfg.legacy 100 8) 1 (runHistory f10 (Cfg.legacy 100 8) [Call.plain 0] (St.fresh true))
        = .value .noSolution ∧
    solveOn f10 (Cfg.legacy 100 8) 1 (St.fresh true) = .value .ambig ∧
    solveOn f10 (Cfg.legacy 100 8) 1 (runHistory f10 (Cfg.legacy 100 8) [Call.plain 0] (St.fresh false))
        = .value .ambig := by decide +kernel

/-- the same history on the repaired code -/
theorem f10_repaired :
    solveOn f10 (Cfg.current 100 8) 1 (runHistory f10 (Cfg.current 100 8) [Call.plain 0] (St.fresh true))
        = .value .ambig ∧
    cacheDump (runHistory f10 (Cfg.current 100 8) [Call.plain 0] (St.fresh true)) = [(0, .ambig)] := by
  decide +kernel

/-- the full statement is false of the repaired code as well (F24, mixed cycles) -/
theorem cache_transparent_refuted :
    ¬ (∀ (inst : Instance) (h : List Call) (g : Nat),
        solveOn inst (Cfg.current 100 8) g (runHistory inst (Cfg.current 100 8) h (St.fresh true))
          = solveOn inst (Cfg.current 100 8) g (St.fresh true)) := by
  intro h
  have := h f13 [Call.plain 0] 1
  revert this
  decide +kernel

/-- cache on ≠ cache off on the same witness -/
theorem cache_on_off_refuted :
    solveOn f13 (Cfg.current 100 8) 1 (runHistory f13 (Cfg.current 100 8) [Call.plain 0] (St.fresh true))
      ≠ solveOn f13 (Cfg.current 100 8) 1 (runHistory f13 (Cfg.current 100 8) [Call.plain 0] (St.fresh false)) := by
  decide +kernel

/-- On acyclic instances the answer to a goal does not depend on the history of the solver
    instance nor on whether the cache is enabled: two plain solves of `g` that return, after any
    two histories of arbitrary calls on solvers with or without cache, return the same value. -/
theorem cache_transparent_partial (inst : Instance) (rank : Nat → Nat) (hrank : Ranked inst rank)
    (cfg : Cfg) (h3 : cfg.fixF3 = true) (h7 : cfg.fixF7 = true)
    (h h' : List Call) (caching caching' : Bool) (g : Nat) (v v' : V)
    (hv : solveOn inst cfg g (runHistory inst cfg h (St.fresh caching)) = .value v)
    (hv' : solveOn inst cfg g (runHistory inst cfg h' (St.fresh caching')) = .value v') :
    v = v' := by
  have hsem := semOf_isSem inst rank hrank
  have hu : (Call.plain g).Uninterrupted := ⟨rfl, fun b hb => by cases hb⟩
  have e1 := (history_answer h3 h7 hsem hrank h caching (Call.plain g) v hv).2 hu
  have e2 := (history_answer h3 h7 hsem hrank h' caching' (Call.plain g) v' hv').2 hu
  rw [e1, e2]

/-- the value is the one the instance's equations determine (`semOf`) -/
theorem answer_is_semantic (inst : Instance) (rank : Nat → Nat) (hrank : Ranked inst rank)
    (cfg : Cfg) (h3 : cfg.fixF3 = true) (h7 : cfg.fixF7 = true)
    (h : List Call) (caching : Bool) (g : Nat) (v : V)
    (hv : solveOn inst cfg g (runHistory inst cfg h (St.fresh caching)) = .value v) :
    v = semOf inst rank g :=
  (history_answer h3 h7 (semOf_isSem inst rank hrank) hrank h caching (Call.plain g) v hv).2
    ⟨rfl, fun b hb => by cases hb⟩

/-- unconditional form for goals that fit under the overflow depth: after ANY history the plain
    solve returns, and returns the value a fresh solver (cache on or off) returns -/
theorem cache_transparent_acyclic (inst : Instance) (rank : Nat → Nat) (hrank : Ranked inst rank)
    (cfg : Cfg) (h3 : cfg.fixF3 = true) (h7 : cfg.fixF7 = true) (h16 : cfg.fixF16 = true)
    (hr : 1 ≤ cfg.rounds) (h : List Call) (caching caching' : Bool) (g : Nat)
    (hfit : rank g < cfg.overflowDepth) :
    solveOn inst cfg g (runHistory inst cfg h (St.fresh caching)) = .value (semOf inst rank g) ∧
    solveOn inst cfg g (St.fresh caching') = .value (semOf inst rank g) := by
  have hsem := semOf_isSem inst rank hrank
  have hu : (Call.plain g).Uninterrupted := ⟨rfl, fun b hb => by cases hb⟩
  obtain ⟨v, hv⟩ := history_call_returns h3 h7 h16 hr hsem hrank h caching (Call.plain g) rfl hfit
  obtain ⟨w, hw⟩ := history_call_returns h3 h7 h16 hr hsem hrank [] caching' (Call.plain g) rfl hfit
  have e1 := (history_answer h3 h7 hsem hrank h caching (Call.plain g) v hv).2 hu
  have e2 := (history_answer h3 h7 hsem hrank [] caching' (Call.plain g) w hw).2 hu
  have e1' : v = semOf inst rank g := e1
  have e2' : w = semOf inst rank g := e2
  exact ⟨by rw [← e1']; exact hv, by rw [← e2']; exact hw⟩

/-! non-vacuity: a diamond over a chain, with a goal with unknowns on top -/
def diamondTable : List (Bool × Bool × List (List Nat)) :=
  [(false, false, [[1], [2]]), (false, true, [[3, 4]]), (true, true, [[3], [4]]),
   (false, true, [[4]]), (true, true, [[]])]
def diamond : Instance := Instance.ofTable diamondTable
def diamondRank (g : Nat) : Nat := 5 - g

example : Ranked diamond diamondRank := ranked_of_table diamondTable diamondRank (by decide)
example : (Cfg.current 100 8).fixF3 = true ∧ (Cfg.current 100 8).fixF7 = true := ⟨rfl, rfl⟩
example : solveOn diamond (Cfg.current 100 8) 0
    (runHistory diamond (Cfg.current 100 8) [Call.plain 3, { goal := 0, oracle := [true, false] }] (St.fresh true))
    = .value .ambig := by decide +kernel

end Chalk.FixedPoint.C10

#print axioms Chalk.FixedPoint.C10.legacy_cache_transparent_refuted
#print axioms Chalk.FixedPoint.C10.f10_repaired
#print axioms Chalk.FixedPoint.C10.cache_transparent_refuted
#print axioms Chalk.FixedPoint.C10.cache_on_off_refuted
#print axioms Chalk.FixedPoint.C10.cache_transparent_partial
#print axioms Chalk.FixedPoint.C10.answer_is_semantic
#print axioms Chalk.FixedPoint.C10.cache_transparent_acyclic
