/-
  C05strat — the converse of `C05mixed.no_mixed_cycle_of_lvl`: on a finite domain closed under `deps`, a
  stratification `lvl` exists iff no dependency cycle through `dom` mixes polarities.  So the class of
  `Props/C05mixed.lean` ("stratified instances") is exactly the class "ground, no mixed cycle", and the
  correctness theorems can be stated with that hypothesis.

  Level function (classical, not computable; `Lemmas/StratExists.lean`): `lvl k` = number of goals of
  `dom` reachable from `k` by a dependency path of length ≥ 0.  Along an edge `k → j` the reachable set
  shrinks (`lvl j ≤ lvl k`); if it does not shrink strictly then `k` is reachable from `j`, i.e. `k` and `j`
  lie on one cycle, and the absence of mixed cycles gives equal polarity.

  Theorems:
    `stratification_exists`, `stratified_iff_no_mixed_cycle`,
    `mixed_strata_correct_of_no_mixed_cycle`, `mixed_history_correct_of_no_mixed_cycle`
        (`C05mixed.mixed_strata_correct_canonical` / `mixed_history_correct_canonical` with the hypothesis
        "no mixed cycle" instead of a given stratification),
    `strata_no_mixed_cycle` (non-vacuity), `f13_has_mixed_cycle` (the counterexample of C10 is outside).
-/
import ChalkModel.Lemmas.StratExists

namespace Chalk.FixedPoint.C05strat
open Chalk.FixedPoint.Cyc (JE JA InCache)
open Chalk.FixedPoint.C05mixed Chalk.FixedPoint.Mix
open Chalk.FixedPoint.StratExists

/-- no mixed cycle ⇒ a stratification exists -/
theorem stratification_exists (inst : Instance) (dom : List Nat)
    (closed : ∀ k, k ∈ dom → ∀ alt, alt ∈ inst.deps k → ∀ j, j ∈ alt → j ∈ dom)
    (ground : ∀ k, k ∈ dom → inst.ground k = true)
    (nomix : ∀ a b, a ∈ dom → Reach inst a b → Reach inst b a → inst.coind a = inst.coind b) :
    ∃ lvl : Nat → Nat, Stratified inst dom lvl := by
  refine ⟨reachLvl inst dom, closed, ground, ?_⟩
  intro k hk alt ha j hj
  refine ⟨reachLvl_le dom ha hj, fun e => ?_⟩
  cases reach0_back_of_lvl_eq dom hk ha hj e with
  | inl ekj => rw [ekj]
  | inr r => exact (nomix k j hk (Reach.step k j alt ha hj) r).symm

/-- on a closed ground domain: stratifiable ⇔ no mixed cycle -/
theorem stratified_iff_no_mixed_cycle (inst : Instance) (dom : List Nat)
    (closed : ∀ k, k ∈ dom → ∀ alt, alt ∈ inst.deps k → ∀ j, j ∈ alt → j ∈ dom)
    (ground : ∀ k, k ∈ dom → inst.ground k = true) :
    (∃ lvl : Nat → Nat, Stratified inst dom lvl) ↔
      (∀ a b, a ∈ dom → Reach inst a b → Reach inst b a → inst.coind a = inst.coind b) := by
  constructor
  · rintro ⟨lvl, h⟩ a b ha hab hba
    exact no_mixed_cycle_of_lvl inst (StratP inst) dom lvl h.mhyp a b ha hab hba
  · exact stratification_exists inst dom closed ground

/-- `mixed_strata_correct_canonical` with "no mixed cycle" as the hypothesis -/
theorem mixed_strata_correct_of_no_mixed_cycle (inst : Instance) (dom : List Nat)
    (closed : ∀ k, k ∈ dom → ∀ alt, alt ∈ inst.deps k → ∀ j, j ∈ alt → j ∈ dom)
    (ground : ∀ k, k ∈ dom → inst.ground k = true)
    (nomix : ∀ a b, a ∈ dom → Reach inst a b → Reach inst b a → inst.coind a = inst.coind b)
    (overflowDepth rounds : Nat) (hov : dom.length ≤ overflowDepth)
    (hr : 2 ≤ rounds) (s : St) (hq : s.oracle = [] ∧ s.oracleDefault = true)
    (hok : ∀ k v, InCache s k v → (v = .unique ∧ StratP inst k) ∨ (v = .noSolution ∧ ¬ StratP inst k))
    (g : Nat) (hg : g ∈ dom) :
    ∃ v s', solveRootGoal inst (Cfg.current overflowDepth rounds) g s = .ok v s' ∧
      (v = .unique ↔ StratP inst g) ∧ (v = .noSolution ↔ ¬ StratP inst g) ∧ v ≠ .ambig ∧
      s'.stack = [] ∧ s'.graph = [] ∧ s'.cache.isSome = s.cache.isSome ∧
      (∀ k w, InCache s' k w → (w = .unique ∧ StratP inst k) ∨ (w = .noSolution ∧ ¬ StratP inst k)) := by
  obtain ⟨lvl, h⟩ := stratification_exists inst dom closed ground nomix
  exact mixed_strata_correct_canonical inst dom lvl h overflowDepth rounds hov hr s hq hok g hg

/-- `mixed_history_correct_canonical` with "no mixed cycle" as the hypothesis -/
theorem mixed_history_correct_of_no_mixed_cycle (inst : Instance) (dom : List Nat)
    (closed : ∀ k, k ∈ dom → ∀ alt, alt ∈ inst.deps k → ∀ j, j ∈ alt → j ∈ dom)
    (ground : ∀ k, k ∈ dom → inst.ground k = true)
    (nomix : ∀ a b, a ∈ dom → Reach inst a b → Reach inst b a → inst.coind a = inst.coind b)
    (cfg : Cfg) (h3 : cfg.fixF3 = true) (h7 : cfg.fixF7 = true)
    (hov : dom.length ≤ cfg.overflowDepth) (hr : 2 ≤ cfg.rounds) (b : Bool)
    (gs : List Nat) (hd : ∀ g, g ∈ gs → g ∈ dom) (g : Nat) (hg : g ∈ dom) :
    ∃ v, solveOn inst cfg g (runHistory inst cfg (gs.map Call.plain) (St.fresh b)) = .value v ∧
      (v = .unique ↔ StratP inst g) ∧ (v = .noSolution ↔ ¬ StratP inst g) := by
  obtain ⟨lvl, h⟩ := stratification_exists inst dom closed ground nomix
  exact mixed_history_correct_canonical inst dom lvl h cfg h3 h7 hov hr b gs hd g hg

/-! ### non-vacuity -/

/-- `strata` (cycles of both polarities, none mixed) satisfies the three hypotheses -/
theorem strata_no_mixed_cycle :
    (∀ k, k ∈ [0, 1, 2, 3, 4, 5] → ∀ alt, alt ∈ strata.deps k → ∀ j, j ∈ alt → j ∈ [0, 1, 2, 3, 4, 5]) ∧
    (∀ k, k ∈ [0, 1, 2, 3, 4, 5] → strata.ground k = true) ∧
    (∀ a b, a ∈ [0, 1, 2, 3, 4, 5] → Reach strata a b → Reach strata b a → strata.coind a = strata.coind b) :=
  ⟨strata_stratified.closed, strata_stratified.ground,
    (stratified_iff_no_mixed_cycle strata _ strata_stratified.closed strata_stratified.ground).mp
      ⟨strataLvl, strata_stratified⟩⟩

/-- so the theorem applies to it: goal `5` holds whatever was solved before, `0` does not -/
example (gs : List Nat) (hd : ∀ g, g ∈ gs → g ∈ [0, 1, 2, 3, 4, 5]) (b : Bool) :
    ∃ v, solveOn strata (Cfg.current 6 2) 5 (runHistory strata (Cfg.current 6 2) (gs.map Call.plain) (St.fresh b)) =
      .value v ∧ (v = .unique ↔ StratP strata 5) ∧ (v = .noSolution ↔ ¬ StratP strata 5) :=
  mixed_history_correct_of_no_mixed_cycle strata [0, 1, 2, 3, 4, 5] strata_no_mixed_cycle.1
    strata_no_mixed_cycle.2.1 strata_no_mixed_cycle.2.2 (Cfg.current 6 2) rfl rfl (by decide) (by decide) b gs hd 5
    (by decide)

/-- `f13` (the mixed-cycle finding, F24) has the mixed cycle `0 → 1 → 0` (`0` inductive, `1` coinductive):
    `nomix` fails -/
theorem f13_has_mixed_cycle :
    ¬ (∀ a b, a ∈ [0, 1] → Reach f13 a b → Reach f13 b a → f13.coind a = f13.coind b) := by
  intro h
  have r01 : Reach f13 0 1 := Reach.step 0 1 [1] (by decide) (by decide)
  have r10 : Reach f13 1 0 := Reach.step 1 0 [0] (by decide) (by decide)
  have := h 0 1 (by decide) r01 r10
  revert this
  decide +kernel

/-- … consistently with `f13_not_stratified`: no stratification of `f13` on `[0, 1]` -/
theorem f13_no_stratification : ¬ ∃ lvl : Nat → Nat, Stratified f13 [0, 1] lvl := by
  rintro ⟨lvl, h⟩
  exact f13_not_stratified (StratP f13) lvl h.mhyp

end Chalk.FixedPoint.C05strat

#print axioms Chalk.FixedPoint.StratExists.mem_reachList
#print axioms Chalk.FixedPoint.StratExists.reach0_of_edge
#print axioms Chalk.FixedPoint.StratExists.filter_sublist_of_imp
#print axioms Chalk.FixedPoint.StratExists.reachList_sublist
#print axioms Chalk.FixedPoint.StratExists.reachLvl_le
#print axioms Chalk.FixedPoint.StratExists.reach0_back_of_lvl_eq
#print axioms Chalk.FixedPoint.C05strat.stratification_exists
#print axioms Chalk.FixedPoint.C05strat.stratified_iff_no_mixed_cycle
#print axioms Chalk.FixedPoint.C05strat.mixed_strata_correct_of_no_mixed_cycle
#print axioms Chalk.FixedPoint.C05strat.mixed_history_correct_of_no_mixed_cycle
#print axioms Chalk.FixedPoint.C05strat.strata_no_mixed_cycle
#print axioms Chalk.FixedPoint.C05strat.f13_has_mixed_cycle
#print axioms Chalk.FixedPoint.C05strat.f13_no_stratification
