/-
  C05 — auto traits and coinductive traits follow coinductive semantics.
  (a) what the check certifies for each answer: Stage A for the coinductive stratum (both
      directions), via the acceptance predicate of C02 (`judgeGround`);
  (b) the property's sentence as a theorem about the greatest fixed point of the clauses built
      from the program data (`autoProgram`): one unfolding of the gfp is exactly "an applicable
      explicit impl, or — for a constructor without explicit/negative impl — all constituents".
  The recursive solver's cache ("never reused") is covered by posing goal sequences to one solver
  instance in the correspondence run and by the FixedPoint model (C10).
-/
import ChalkModel.Lemmas.EvalLemmas
import ChalkModel.AutoTraits

namespace Chalk.C05
open Chalk.Sem

theorem decide_co_yes (P : Program) (Γ : List Atom) (fuel : Nat) (a : Atom)
    (h : evalCo P Γ fuel [] a = .yes) : CoHolds P Γ a :=
  (coStepS_nil P Γ a).mp (evalCo_yes P Γ fuel [] a h)

theorem decide_co_no (P : Program) (Γ : List Atom) (fuel : Nat) (a : Atom)
    (h : evalCo P Γ fuel [] a = .no) : ¬ CoHolds P Γ a :=
  fun hc => evalCo_no P Γ fuel [] a h ((coStepS_nil P Γ a).mpr hc)

/-- cycles count as satisfied: an atom whose only requirement is itself holds coinductively -/
theorem cycle_satisfied (P : Program) (a : Atom) (hco : P.coind a.pred = true)
    (c : Clause) (hc : c ∈ P.clauses) (σ : Nat → Tm) (hh : c.head.inst σ = a)
    (hb : ∀ b ∈ c.body, b.inst σ = a) : CoHolds P [] a :=
  ⟨fun x => x = a, fun x hx => by
      subst hx
      exact ⟨hco, Or.inr ⟨c, hc, σ, hh, fun b hbm => hb b hbm⟩⟩, rfl⟩

/-- The sentence of the property: for the program built from the data `D`, an atom of an auto (or
    coinductive) trait holds iff it is the head instance of an explicit impl whose conditions hold,
    or of a default auto clause (present only for constructors without explicit/negative impl)
    all of whose constituents hold — "hold" being the same greatest fixed point (cycles allowed). -/
theorem auto_sentence (D : AutoData) (a : Atom) :
    CoHolds (autoProgram D) [] a ↔
      ((autoProgram D).coind a.pred = true ∧
        ((∃ c ∈ D.impls, ∃ σ : Nat → Tm, c.head.inst σ = a ∧ ∀ b ∈ c.body, CoHolds (autoProgram D) [] (b.inst σ)) ∨
         (∃ tr ∈ D.autoTraits, ∃ c ∈ autoClausesFor D tr, ∃ σ : Nat → Tm, c.head.inst σ = a ∧
            ∀ b ∈ c.body, CoHolds (autoProgram D) [] (b.inst σ)))) := by
  rw [coHolds_unfold]
  simp only [CoStep, List.not_mem_nil, false_or, ViaClause, autoProgram, List.mem_append, List.mem_flatMap]
  constructor
  · rintro ⟨h1, c, hc, σ, hs, hb⟩
    refine ⟨h1, ?_⟩
    rcases hc with hc | ⟨tr, htr, hc⟩
    · exact Or.inl ⟨c, hc, σ, hs, hb⟩
    · exact Or.inr ⟨tr, htr, c, hc, σ, hs, hb⟩
  · rintro ⟨h1, h2⟩
    refine ⟨h1, ?_⟩
    rcases h2 with ⟨c, hc, σ, hs, hb⟩ | ⟨tr, htr, c, hc, σ, hs, hb⟩
    · exact ⟨c, Or.inl hc, σ, hs, hb⟩
    · exact ⟨c, Or.inr ⟨tr, htr, hc⟩, σ, hs, hb⟩

/-- A constructor with an explicit or negative impl gets no default clause… -/
theorem no_default_if_provided (D : AutoData) (tr : String) (adt : AdtDecl)
    (hp : (tr, adt.name) ∈ D.provided) (hleaf : adt.name ∉ D.leaves) (htup : ∀ t ∈ D.tuples, t.1 ≠ adt.name) :
    ∀ c ∈ autoClausesFor D tr, ∀ args, c.head.args ≠ .cons (.app adt.name args) .nil := by
  intro c hc args heq
  simp only [autoClausesFor, List.mem_append, List.mem_map, List.mem_filter] at hc
  rcases hc with (⟨a, ⟨_, hok⟩, rfl⟩ | ⟨l, ⟨hl, _⟩, rfl⟩) | ⟨⟨n, k⟩, ⟨ht, _⟩, rfl⟩
  · simp at heq
    have : (tr, a.name) ∈ D.provided := by rw [heq.1]; exact hp
    simp [List.contains_iff_mem, this] at hok
  · simp at heq; exact hleaf (heq.1 ▸ hl)
  · simp at heq; exact htup _ ht heq.1

/-- …and one without gets exactly "all fields" as conditions. -/
theorem default_clause_of_adt (D : AutoData) (tr : String) (adt : AdtDecl) (ha : adt ∈ D.adts)
    (hp : (tr, adt.name) ∉ D.provided) :
    (⟨⟨tr, .cons (.app adt.name (varList 0 adt.nparams)) .nil⟩, adt.fields.map fun f => ⟨tr, .cons f .nil⟩⟩ : Clause)
      ∈ autoClausesFor D tr := by
  simp only [autoClausesFor, List.mem_append, List.mem_map, List.mem_filter]
  exact Or.inl (Or.inl ⟨adt, ⟨ha, by simp [List.contains_iff_mem, hp]⟩, rfl⟩)

/-- Non-vacuity / the cyclic case: `struct List { next: Box<List> }`-like ring `L { f: L }` is
    `Send`; with a non-`Send` member (`impl !Send for N`) `M { f: N }` is not. -/
def demoD : AutoData :=
  { adts := [⟨"L", 0, [.app "L" .nil]⟩, ⟨"N", 0, []⟩, ⟨"M", 0, [.app "N" .nil]⟩],
    leaves := ["u32"], tuples := [], impls := [], provided := [("Send", "N")],
    autoTraits := ["Send"], coTraits := [] }
example : evalCo (autoProgram demoD) [] 10 [] ⟨"Send", .cons (.app "L" .nil) .nil⟩ = .yes := by rfl
example : evalCo (autoProgram demoD) [] 10 [] ⟨"Send", .cons (.app "M" .nil) .nil⟩ = .no := by rfl

end Chalk.C05

#print axioms Chalk.C05.decide_co_yes
#print axioms Chalk.C05.decide_co_no
#print axioms Chalk.C05.cycle_satisfied
#print axioms Chalk.C05.auto_sentence
#print axioms Chalk.C05.no_default_if_provided
#print axioms Chalk.C05.default_clause_of_adt
