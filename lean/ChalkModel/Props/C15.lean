/-
  C15 — failed unification leaves inference state untouched; the order of the two types never
  changes whether unification succeeds.

  Model: `relate` (`ChalkModel/Unify.lean`) = `InferenceTable::relate` with its
  `snapshot` / `rollback_to` / `commit`; the model's table carries the union-find state, the
  values and `max_universe`, and `rollback_to` restores all of it (ena's own rollback is external
  code: assumed to restore the union-find, validated by the correspondence runs, which re-take
  every observation after each failed relate).
-/
import ChalkModel.Lemmas.UnifyRigidSymm
import ChalkModel.Lemmas.UnifyRigidLt

namespace Chalk.C15

/-- A failing `relate` returns the table it was given — as a whole record (parents, ranks, values,
    `max_universe`), not just observably. All tables, variances, types, fuels. -/
theorem relate_fail_state (db : UDb) (jf fuel : Nat) (t t1 : Table) (v : Variance) (a b : Ty)
    (h : relate db jf fuel t v a b = (t1, .noSolution)) : t1 = t := by
  unfold relate at h
  split at h <;> simp_all [Table.rollbackTo, Table.snapshot]

/-- The same for every outcome that is not success. -/
theorem relate_not_ok_state (db : UDb) (jf fuel : Nat) (t : Table) (v : Variance) (a b : Ty)
    (h : ∀ gs, (relate db jf fuel t v a b).2 ≠ .ok gs) : (relate db jf fuel t v a b).1 = t := by
  unfold relate at h ⊢
  split <;> simp_all [Table.rollbackTo, Table.snapshot]

/-- The order of the two types never changes whether unification succeeds — proved on the rigid
    fragment (`Ty.rigid`, `Lemmas/UnifyDefs.lean`: no inference variables of any sort, no bound
    variables, no aliases, no `dyn`, no error type, fn pointers without binders; lifetimes are
    `'static`, placeholders, erased, error), for types that respect an arity table, every table,
    every pair of variances — in particular inv/inv and co/contra — and every fuel that covers the
    depth of the types. (With inference variables the two orders take different paths through the
    union-find; that case is checked differentially on the real code.) -/
theorem relate_symm (db : UDb) (ar : TyName → Nat) (hdb : db.arityOk ar) (jf fuel : Nat)
    (t : Table) (v v' : Variance) (a b : Ty)
    (ha : a.rigid = true) (hb : b.rigid = true) (haa : a.arityOk ar = true) (hab : b.arityOk ar = true)
    (hda : a.depth ≤ fuel) (hdb' : b.depth ≤ fuel) :
    Succeeds (relate db jf fuel t v a b) ↔ Succeeds (relate db jf fuel t v' b a) := by
  rw [relate_rigid_succeeds db ar hdb jf fuel t v a b ha hb haa hab hda,
    relate_rigid_succeeds db ar hdb jf fuel t v' b a hb ha hab haa hdb']
  exact ⟨Eq.symm, Eq.symm⟩

theorem relate_symm_inv (db : UDb) (ar : TyName → Nat) (hdb : db.arityOk ar) (jf fuel : Nat)
    (t : Table) (a b : Ty)
    (ha : a.rigid = true) (hb : b.rigid = true) (haa : a.arityOk ar = true) (hab : b.arityOk ar = true)
    (hda : a.depth ≤ fuel) (hdb' : b.depth ≤ fuel) :
    Succeeds (relate db jf fuel t .inv a b) ↔ Succeeds (relate db jf fuel t .inv b a) :=
  relate_symm db ar hdb jf fuel t .inv .inv a b ha hb haa hab hda hdb'

theorem relate_symm_co_contra (db : UDb) (ar : TyName → Nat) (hdb : db.arityOk ar) (jf fuel : Nat)
    (t : Table) (a b : Ty)
    (ha : a.rigid = true) (hb : b.rigid = true) (haa : a.arityOk ar = true) (hab : b.arityOk ar = true)
    (hda : a.depth ≤ fuel) (hdb' : b.depth ≤ fuel) :
    Succeeds (relate db jf fuel t .co a b) ↔ Succeeds (relate db jf fuel t .contra b a) :=
  relate_symm db ar hdb jf fuel t .co .contra a b ha hb haa hab hda hdb'

/-- On the rigid fragment the two orders also return the same obligations, up to order. -/
theorem relate_symm_goals (db : UDb) (ar : TyName → Nat) (hdb : db.arityOk ar) (jf fuel : Nat)
    (t : Table) (v : Variance) (a b : Ty)
    (ha : a.rigid = true) (hb : b.rigid = true) (haa : a.arityOk ar = true) (hab : b.arityOk ar = true)
    (hda : a.depth ≤ fuel) (hdb' : b.depth ≤ fuel) (he : a.eraseLt = b.eraseLt) :
    ∃ g1 g2, relate db jf fuel t v a b = (t, .ok g1) ∧ relate db jf fuel t v.invert b a = (t, .ok g2) ∧
      g2.Perm g1 :=
  relate_swap_goals db ar hdb jf fuel t v a b ha hb haa hab hda hdb' he

/-- The same with LIFETIME inference variables allowed (`Ty.rigidT`, `Lemmas/UnifyRigidLt.lean`: as
    `rigid`, but lifetimes may be variables; still no type / const variables), on every well-formed
    table in which each lifetime variable of the two types is unbound or bound to a rigid lifetime
    (`LtVarOk`; what `relate` itself produces) — here the table does change (variables are unified
    or bound), differently for the two orders, and success still does not depend on the order. -/
theorem relate_symm_ltvars (db : UDb) (ar : TyName → Nat) (hdb : db.arityOk ar) (jf fuel : Nat)
    (t : Table) (v v' : Variance) (a b : Ty) (hwf : t.WF)
    (har : a.rigidT = true) (hbr : b.rigidT = true)
    (hSa : ∀ x ∈ a.ltVars, LtVarOk t x) (hSb : ∀ x ∈ b.ltVars, LtVarOk t x)
    (haa : a.arityOk ar = true) (hab : b.arityOk ar = true) (hda : a.depth ≤ fuel) (hdb' : b.depth ≤ fuel) :
    Succeeds (relate db jf fuel t v a b) ↔ Succeeds (relate db jf fuel t v' b a) :=
  relate_rigidT_swap db ar hdb jf fuel (fun x => LtVarOk t x) t v v' a b hwf (fun _ h => h) har hbr hSa hSb
    haa hab hda hdb'

/-! Non-vacuity: a rigid pair respecting the arity table on which `relate` fails (different
  mutability below a tuple) and one on which it succeeds with obligations; the failing one returns
  the table. -/

def exAr : TyName → Nat
  | .tuple n => n
  | _ => 0
def exDb : UDb := { adtVariance := fun _ => [], fnDefVariance := fun _ => [] }
def exA : Ty := .app (.tuple 1) (.cons (.ty (.ref false .static (.scalar 23))) .nil)
def exB : Ty := .app (.tuple 1) (.cons (.ty (.ref true .static (.scalar 23))) .nil)
def exC : Ty := .app (.tuple 1) (.cons (.ty (.ref false (.placeholder 1 0) (.scalar 23))) .nil)
example : exA.rigid = true ∧ exB.rigid = true ∧ exC.rigid = true ∧ exA.arityOk exAr = true ∧
    exB.arityOk exAr = true ∧ exC.arityOk exAr = true ∧ exA.depth = 3 := by decide
example : exDb.arityOk exAr := by
  intro n vs h
  cases n <;> simp [declaredVariances, exDb] at h <;> subst h <;> simp [exAr]
example : relate exDb 0 3 (Table.new.newVariable 0).1 .inv exA exB = ((Table.new.newVariable 0).1, .noSolution) := by decide
example : relate exDb 0 3 Table.new .co exA exC = (Table.new, .ok [.outlives .static (.placeholder 1 0)]) := by decide
example : relate exDb 0 3 Table.new .contra exC exA = (Table.new, .ok [.outlives .static (.placeholder 1 0)]) := by decide
/-! With a lifetime variable: `(&'?0 u32,)` against `(&'static u32,)` invariantly binds
  `'?0 := 'static` in one order and in the other. -/

def exT1 : Table := (Table.new.newVariable 0).1
def exD : Ty := .app (.tuple 1) (.cons (.ty (.ref false (.infer 0) (.scalar 23))) .nil)
example : exD.rigidT = true ∧ exD.ltVars = [0] ∧ exD.arityOk exAr = true := by decide
example : exT1.WF ∧ LtVarOk exT1 0 := ⟨Table.newVariable_WF _ _ Table.new_WF, by decide, Or.inl (by decide)⟩
example : (relate exDb 0 3 exT1 .inv exD exA).2 = .ok [] ∧ (relate exDb 0 3 exT1 .inv exA exD).2 = .ok [] ∧
    (relate exDb 0 3 exT1 .inv exD exA).1.probeVar 0 = some (.lt .static) := by decide

end Chalk.C15

#print axioms Chalk.C15.relate_fail_state
#print axioms Chalk.C15.relate_not_ok_state
#print axioms Chalk.C15.relate_symm
#print axioms Chalk.C15.relate_symm_inv
#print axioms Chalk.C15.relate_symm_co_contra
#print axioms Chalk.C15.relate_symm_goals
#print axioms Chalk.C15.relate_symm_ltvars
