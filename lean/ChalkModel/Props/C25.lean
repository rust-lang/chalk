/-
  C25 — binder operations obey the substitution laws.
  Property theorems only (helper lemmas: `Lemmas/{FoldLemmas,ShiftLemmas,SubstLemmas,ShiftPure,SubstShift}.lean`).
  All statements are for every term of the model, of any size and binder depth.
-/
import ChalkModel.Lemmas.SubstShift

namespace Chalk.C25

/-- Shifting a type into `k` binders and back out returns it unchanged
    (`t.shifted_in_from(k).shifted_out_to(k) == Ok(t)`). -/
theorem shift_out_in (k : Nat) (t : Ty) :
    ∃ t', t.shiftedInFrom k = .ok t' ∧ t'.shiftedOutTo k = .ok t :=
  foldTy_shift_out_in k 0 t

/-- The same law below any number of enclosing binders already traversed (`outer_binder`), for
    substitutions and where-clauses. -/
theorem shift_out_in_args (k outer : Nat) (a : Args) :
    ∃ a', foldArgs (shifter k) outer a = .ok a' ∧ foldArgs (downShifter k) outer a' = .ok a :=
  foldArgs_shift_out_in k outer a

theorem shift_out_in_wc (k outer : Nat) (w : WC) :
    ∃ w', foldWC (shifter k) outer w = .ok w' ∧ foldWC (downShifter k) outer w' = .ok w :=
  foldWC_shift_out_in k outer w

theorem shift_out_in_const (k : Nat) (c : Const) :
    ∃ c', c.shiftedInFrom k = .ok c' ∧ c'.shiftedOutTo k = .ok c :=
  foldConst_shift_out_in k 0 c

theorem shift_out_in_lifetime (k : Nat) (l : Lifetime) :
    ∃ l', l.shiftedInFrom k = .ok l' ∧ l'.shiftedOutTo k = .ok l :=
  foldLifetime_shift_out_in k 0 l

/-- Substituting a binder's own variables (`Binders::identity_substitution`) for itself is the
    identity on every term whose free variables all belong to that binder with the right kinds
    (`Ty.scoped`: what `Binders<T>` guarantees for its `value`). -/
theorem subst_identity (cty : Nat → Ty) (kinds : List VarKind) (t : Ty)
    (h : t.scoped cty kinds 0 = true) :
    bindersSubstituteTy kinds t (identitySubst cty kinds) = .ok t := by
  have hl : kinds.length = (identitySubst cty kinds).length := by
    simp [identitySubst, identitySubstFrom_length]
  simp [bindersSubstituteTy, hl, Ty.subst, foldTy_subst_identity cty kinds 0 t h]

theorem subst_identity_wc (cty : Nat → Ty) (kinds : List VarKind) (w : WC)
    (h : w.scoped cty kinds 0 = true) : w.subst (identitySubst cty kinds) = .ok w :=
  foldWC_subst_identity cty kinds 0 w h

/-- Substitution commutes with shifting: shifting the result of a substitution by `k` equals
    substituting the shifted parameters into the term shifted above the substituted binder
    (including agreement of the `mismatched kinds`/`index out of bounds` panics). -/
theorem subst_shift_comm (k : Nat) (σ : List GArg) (t : Ty) :
    (t.subst σ).map (·.shift k 0) = (t.shift k 1).subst (σ.map (GArg.shift k 0)) :=
  foldTy_subst_shift k σ 0 t

theorem subst_shift_comm_wc (k : Nat) (σ : List GArg) (w : WC) :
    (w.subst σ).map (·.shift k 0) = (w.shift k 1).subst (σ.map (GArg.shift k 0)) :=
  foldWC_subst_shift k σ 0 w

/-- `Ty.shift` (used to state the commutation law) is what `Shifter` computes. -/
theorem shift_is_shifter (k c : Nat) (t : Ty) : foldTy (shifter k) c t = .ok (t.shift k c) :=
  foldTy_shifter k c t

/-- Folding with a folder that changes nothing (all `TypeFolder` defaults) returns an equal term. -/
theorem fold_id (outer : Nat) (t : Ty) : foldTy Folder.noop outer t = .ok t := foldTy_noop outer t
theorem fold_id_wc (outer : Nat) (w : WC) : foldWC Folder.noop outer w = .ok w := foldWC_noop outer w
theorem fold_id_args (outer : Nat) (a : Args) : foldArgs Folder.noop outer a = .ok a := foldArgs_noop outer a

/-- Non-vacuity of `subst_identity`'s hypothesis: a term using both variables of a two-variable
    binder under a nested fn-pointer binder is `scoped`; and the law is not true without it
    (a variable of an outer binder is shifted out). -/
example : (Ty.app (.adt 1) (.cons (.ty (.bound 0 0))
      (.cons (.ty (.function 1 0 (.cons (.ty (.bound 1 1)) (.cons (.ty (.bound 0 0)) .nil)))) .nil))).scoped
      Ty.scalar [.ty .general, .ty .general] 0 = true := by decide
example : (Ty.bound 1 0).subst (identitySubst Ty.scalar [.ty .general]) = .ok (.bound 0 0) := by rfl

end Chalk.C25

#print axioms Chalk.C25.shift_out_in
#print axioms Chalk.C25.shift_out_in_args
#print axioms Chalk.C25.shift_out_in_wc
#print axioms Chalk.C25.shift_out_in_const
#print axioms Chalk.C25.shift_out_in_lifetime
#print axioms Chalk.C25.subst_identity
#print axioms Chalk.C25.subst_identity_wc
#print axioms Chalk.C25.subst_shift_comm
#print axioms Chalk.C25.subst_shift_comm_wc
#print axioms Chalk.C25.shift_is_shifter
#print axioms Chalk.C25.fold_id
#print axioms Chalk.C25.fold_id_wc
#print axioms Chalk.C25.fold_id_args
