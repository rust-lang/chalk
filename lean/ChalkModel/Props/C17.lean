/-
  C17 — combining candidate answers only generalizes.
  `genOf r t` is the structural "t is an instance of r": the pattern variables of `r` match
  anything, everything else must agree.  It is the instance relation for a pattern that repeats no
  variable, has its variables at depth 0 and agrees with the term on the types of constants
  (`C17lin.genOf_linear_instance`).
-/
import ChalkModel.Lemmas.AggregateLemmas

namespace Chalk.C17

/-- Every merged answer is an instance of the result of `merge_into_guidance`: the old guidance
    always, the new answer whenever it has the kinds of the guidance position by position (which
    answers to one query always have).  All substitutions, any length, any universes. -/
theorem merge_generalizes (universes : List Nat) (guidance answer : Args) (r : Canon Args)
    (h : mergeIntoGuidance universes guidance answer = .ok r)
    (hk : guidance.sameKinds answer = true) :
    r.value.genOf guidance = true ∧ r.value.genOf answer = true :=
  mergeIntoGuidance_gen h hk

/-- The anti-unifier itself, on types. -/
theorem antiUnify_generalizes (u : Nat) (t1 t2 r : Ty) (st st' : AuSt)
    (h : auTy u t1 t2 st = .ok (r, st')) : r.genOf t1 = true ∧ r.genOf t2 = true :=
  auTy_gen u t1 t2 st r st' h

def pairAA : Args := .cons (.ty (.app (.adt 0) (.cons (.ty (.bound 0 0)) (.cons (.ty (.bound 0 0)) .nil)))) .nil
def pairAB : Args := .cons (.ty (.app (.adt 0) (.cons (.ty (.app (.adt 1) .nil)) (.cons (.ty (.app (.adt 2) .nil)) .nil)))) .nil

/-- FULL STATEMENT (false of the code, hence of the model): "when `may_invalidate(new, cur)` says
    `false`, `new` is an instance of `cur`, so merging it cannot change the guidance".
    Refuted by `cur = [Pair<^0.0, ^0.0>]`, `new = [Pair<A, B>]` (DESIGN §9-F1): the check answers
    `false`, yet no substitution maps `cur` to `new`. -/
theorem mayInvalidate_sound_refuted :
    mayInvalidate pairAB pairAA = .ok false ∧ ∀ θ : List GArg, pairAA.subst θ ≠ .ok pairAB := by
  refine ⟨by simp [mayInvalidate, pairAB, pairAA, miAny, miGArg, miTy, miNamed, TyName.sameKind, Args.length, Args.toList], ?_⟩
  intro θ h
  simp only [pairAA, pairAB, Args.subst, foldArgs, foldGArg, foldTy, substFolder] at h
  cases h0 : θ[0]? with
  | none => simp [h0] at h
  | some a =>
    cases a with
    | ty t =>
      simp [h0] at h
      cases ht : foldTy (shifter 0) 0 t with
      | error e => simp [ht] at h
      | ok t' =>
        simp [ht] at h
        obtain ⟨h1, h2⟩ := h
        subst h1
        cases h2
    | lt l => simp [h0] at h
    | ct c => simp [h0] at h

/-- What does hold (for every pair of substitutions of equal length): `false` is only answered
    when `new` is a structural instance of `cur` (`genOf`).  The witness above is of the class this
    leaves out: a repeated variable of `cur` bound to two different terms. -/
theorem mayInvalidate_sound_partial (new cur : Args) (hl : new.length = cur.length)
    (h : mayInvalidate new cur = .ok false) : cur.genOf new = true :=
  miAny_false new cur h hl

/-- `Solution::combine` gives the same result in either order, except when both arguments are
    "trivially true" (`Unique` with the identity substitution and no constraints) and differ — then
    each call returns its own first argument. -/
theorem combine_comm (a b : Solution) :
    a.combine b = b.combine a ∨
      (a.isTrivialAndAlwaysTrue = true ∧ b.isTrivialAndAlwaysTrue = true ∧ a ≠ b) := by
  by_cases hab : a = b
  · left; rw [hab]
  have hba : ¬ b = a := fun h => hab h.symm
  unfold Solution.combine
  rw [if_neg hab, if_neg hba]
  by_cases ha : a.isTrivialAndAlwaysTrue = true <;> by_cases hb : b.isTrivialAndAlwaysTrue = true
  · exact .inr ⟨ha, hb, hab⟩
  · rw [if_pos ha, if_neg hb, if_pos ha]; exact .inl rfl
  · rw [if_neg ha, if_pos hb, if_pos hb]; exact .inl rfl
  · rw [if_neg ha, if_neg hb, if_neg hb, if_neg ha]
    left
    congr 1
    -- the two guidances are compared symmetrically; unless both are `definite` or both `suggested`
    -- either order gives `unknown`
    cases a.intoGuidance <;> cases b.intoGuidance <;> try rfl
    all_goals
      rename_i s1 s2
      by_cases e : s1 = s2
      · subst e; rfl
      · simp only [if_neg e, if_neg (Ne.symm e)]

/-- information order on guidance: `unknown` below everything, otherwise equal -/
def Guidance.le : Guidance → Guidance → Bool
  | .unknown, _ => true
  | g, g' => g == g'

/-- `combine` never claims more than either candidate: the result is one of the arguments, or an
    ambiguous answer whose guidance is below the guidance of both. -/
theorem combine_no_more (a b : Solution) :
    a.combine b = a ∨ a.combine b = b ∨
      ∃ g, a.combine b = .ambig g ∧ Guidance.le g a.intoGuidance = true ∧ Guidance.le g b.intoGuidance = true := by
  unfold Solution.combine
  by_cases hab : a = b
  · exact .inl (if_pos hab)
  by_cases ha : a.isTrivialAndAlwaysTrue = true
  · exact .inl ((if_neg hab).trans (if_pos ha))
  by_cases hb : b.isTrivialAndAlwaysTrue = true
  · exact .inr (.inl ((if_neg hab).trans ((if_neg ha).trans (if_pos hb))))
  rw [if_neg hab, if_neg ha, if_neg hb]
  refine .inr (.inr ⟨_, rfl, ?_⟩)
  have refl : ∀ g, Guidance.le g g = true := fun g => by cases g <;> simp [Guidance.le]
  -- the guidance is `unknown`, or the one both candidates carry
  cases a.intoGuidance <;> cases b.intoGuidance <;> try exact ⟨rfl, rfl⟩
  all_goals
    rename_i s1 s2
    by_cases e : s1 = s2
    · subst e; simp only [if_true]; exact ⟨refl _, refl _⟩
    · simp only [if_neg e]; exact ⟨rfl, rfl⟩

/-- With equal inputs the high-priority solution is returned unchanged (so a unique answer to an
    `AliasEq` goal is the value given by the impl, not the placeholder fallback). -/
theorem withPriorities_prefers_high (goal : DomainGoal) (hi lo : Solution) (i : List Ty)
    (h1 : calculateInputs goal hi = .ok i) (h2 : calculateInputs goal lo = .ok i) :
    withPriorities goal hi true lo false = .ok (hi, true) ∧
    withPriorities goal lo false hi true = .ok (hi, true) := by
  simp [withPriorities, h1, h2]

/-- Non-vacuity: a merge that really generalizes (`[Vec<A>]` with `[Vec<B>]` gives `[Vec<^0.0>]`). -/
example : mergeIntoGuidance [0]
    (.cons (.ty (.app (.adt 0) (.cons (.ty (.app (.adt 1) .nil)) .nil))) .nil)
    (.cons (.ty (.app (.adt 0) (.cons (.ty (.app (.adt 2) .nil)) .nil))) .nil)
    = .ok ⟨[(.ty .general, 0)], .cons (.ty (.app (.adt 0) (.cons (.ty (.bound 0 0)) .nil))) .nil⟩ := by rfl

end Chalk.C17

#print axioms Chalk.C17.merge_generalizes
#print axioms Chalk.C17.antiUnify_generalizes
#print axioms Chalk.C17.mayInvalidate_sound_refuted
#print axioms Chalk.C17.mayInvalidate_sound_partial
#print axioms Chalk.C17.combine_comm
#print axioms Chalk.C17.combine_no_more
#print axioms Chalk.C17.withPriorities_prefers_high
