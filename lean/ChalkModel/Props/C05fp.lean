/-
  C05fp — semantic correctness of the recursive solver's fixed-point iteration on CYCLIC ground
  instances (the heart of C05: "cyclic requirements count as satisfied; a result that relied on a
  cyclic assumption that later turned out false is never reported or reused").

  Model: `FixedPoint.lean` (`RecursiveContext::{solve_root_goal, solve_goal, solve_new_subgoal}`,
  search graph, `Minimums`, stack, cache).  Proofs: `Lemmas/FixedPointSem*.lean` (see `Props/C05fp.md`).

  Semantics.  `T(S) = {k | ∃ alt ∈ deps k, ∀ j ∈ alt, j ∈ S}` (`JE`).  `InGfp` is its greatest fixed
  point (impredicative; `inGfp_is_greatest_fixed_point`), `InLfp` its least fixed point (inductive;
  `inLfp_is_least_fixed_point`).

  Class of instances (`Cyc.Hyp c inst dom`): `dom` is a finite list of goals closed under `deps`,
  every goal of `dom` is `ground`, and every goal of `dom` has the same polarity `c`
  (`true`: all coinductive, `false`: all inductive).  ANY dependency graph: any number of
  alternatives per goal, any nesting / interlocking of cycles.

  Hypotheses on the run (this file): the repaired code (`Cfg.current`), no work budget, no interruption
  (`oracle = []`, `oracleDefault = true`), caching enabled or disabled, every entry already in the
  cache is the correct answer of its goal (in particular: the empty cache), `dom.length ≤ overflowDepth`,
  `2 ≤ rounds`.  Stack and search graph of the state may be anything (`solve_root_goal` clears
  them, F7).

  Theorems (TOTAL correctness, both directions):
    `coinductive_cycles_correct` — (A) `solveRootGoal` returns (no panic, no model fuel runs out),
        the answer is `unique` iff the goal is in the GREATEST fixed point and `noSolution` iff it
        is not, never `ambig`; stack and graph are empty afterwards and every cache entry is
        correct again ("never reused": nothing provisional reaches the cache);
    `inductive_cycles_correct` — (B) the same with the LEAST fixed point;
    `coinductive_history_correct`, `inductive_history_correct` — any sequence of `Solver::solve`
        calls on one solver instance started fresh: every answer is the fixed-point answer;
    `fixed_point_correct` — the polarity-generic statement both are instances of;
    `…_nocache`, `fixed_point_correct_any` — the same with caching disabled / in either caching mode;
    `loop_needs_two_rounds`, `depth_bound_tight`, `bounds_tight_nocache` — `2 ≤ rounds` (a retraction
        costs a second round) and `dom.length ≤ overflowDepth` are tight.
  Elsewhere, for the same class: runs with a work budget (`Props/C12fp.lean`), interrupted runs
  (`Props/C11fp.lean`), independence of history and caching mode (`Props/C10fp.lean`).  Instances that mix
  coinductive and inductive goals without a mixed cycle: `Props/C05mixed.lean`, `C05strat.lean`,
  `C11C12mixed.lean`.  NOT covered anywhere: goals with unknowns (`ground = false`); instances with a
  cycle through goals of both polarities (there the answers depend on the history:
  `C10.cache_transparent_refuted`).
-/
import ChalkModel.Lemmas.FixedPointSemN

namespace Chalk.FixedPoint.C05fp
open Chalk.FixedPoint.Cyc

/-- `InGfp` is the greatest fixed point of `T` -/
theorem inGfp_is_greatest_fixed_point (inst : Instance) :
    (∀ k, InGfp inst k ↔ ∃ alt, alt ∈ inst.deps k ∧ ∀ j, j ∈ alt → InGfp inst j) ∧
    (∀ S : Nat → Prop, (∀ x, S x → ∃ alt, alt ∈ inst.deps x ∧ ∀ j, j ∈ alt → S j) → ∀ k, S k → InGfp inst k) :=
  ⟨inGfp_iff inst, inGfp_greatest inst⟩

/-- `InLfp` is the least fixed point of `T` -/
theorem inLfp_is_least_fixed_point (inst : Instance) :
    (∀ k, InLfp inst k ↔ ∃ alt, alt ∈ inst.deps k ∧ ∀ j, j ∈ alt → InLfp inst j) ∧
    (∀ X : Nat → Prop, (∀ x, (∃ alt, alt ∈ inst.deps x ∧ ∀ j, j ∈ alt → X j) → X x) → ∀ k, InLfp inst k → X k) :=
  ⟨inLfp_iff inst, inLfp_least inst⟩

/-- every cache entry of `s` is the gfp answer of its goal -/
def CacheIsGfp (inst : Instance) (s : St) : Prop :=
  ∃ cc, s.cache = some cc ∧ ∀ k v, cacheGet cc k = some v →
    (v = .unique ∧ InGfp inst k) ∨ (v = .noSolution ∧ ¬ InGfp inst k)

/-- every cache entry of `s` is the lfp answer of its goal -/
def CacheIsLfp (inst : Instance) (s : St) : Prop :=
  ∃ cc, s.cache = some cc ∧ ∀ k v, cacheGet cc k = some v →
    (v = .unique ∧ InLfp inst k) ∨ (v = .noSolution ∧ ¬ InLfp inst k)

theorem goodCache_of_gfp {inst : Instance} {s : St} (h : CacheIsGfp inst s) : GoodCache true inst s := by
  obtain ⟨cc, hc, hall⟩ := h
  refine ⟨⟨cc, hc⟩, ?_⟩
  rintro k v ⟨cc', e, hk⟩
  rw [hc] at e
  cases e
  exact (corr_true inst k v).mpr (hall k v hk)

theorem gfp_of_goodCache {inst : Instance} {s : St} (h : GoodCache true inst s) : CacheIsGfp inst s := by
  obtain ⟨⟨cc, hc⟩, hall⟩ := h
  exact ⟨cc, hc, fun k v hk => (corr_true inst k v).mp (hall k v ⟨cc, hc, hk⟩)⟩

theorem goodCache_of_lfp {inst : Instance} {s : St} (h : CacheIsLfp inst s) : GoodCache false inst s := by
  obtain ⟨cc, hc, hall⟩ := h
  refine ⟨⟨cc, hc⟩, ?_⟩
  rintro k v ⟨cc', e, hk⟩
  rw [hc] at e
  cases e
  exact (corr_false inst k v).mpr (hall k v hk)

theorem lfp_of_goodCache {inst : Instance} {s : St} (h : GoodCache false inst s) : CacheIsLfp inst s := by
  obtain ⟨⟨cc, hc⟩, hall⟩ := h
  exact ⟨cc, hc, fun k v hk => (corr_false inst k v).mp (hall k v ⟨cc, hc, hk⟩)⟩

/-- the polarity-generic statement: total correctness of `solve_root_goal` -/
theorem fixed_point_correct (c : Bool) (inst : Instance) (dom : List Nat) (hyp : Hyp c inst dom)
    (overflowDepth rounds : Nat) (hov : dom.length ≤ overflowDepth) (hr : 2 ≤ rounds)
    (s : St) (hq : s.oracle = [] ∧ s.oracleDefault = true) (hgc : GoodCache c inst s)
    (g : Nat) (hg : g ∈ dom) :
    ∃ v s', solveRootGoal inst (Cfg.current overflowDepth rounds) g s = .ok v s' ∧ Corr c inst g v ∧
      s'.stack = [] ∧ s'.graph = [] ∧ GoodCache c inst s' :=
  solveRootGoal_correct hyp rfl rfl rfl hov hr s hq hgc g hg

/-- (A) all goals coinductive: the answer is membership in the GREATEST fixed point -/
theorem coinductive_cycles_correct (inst : Instance) (dom : List Nat) (hyp : Hyp true inst dom)
    (overflowDepth rounds : Nat) (hov : dom.length ≤ overflowDepth) (hr : 2 ≤ rounds)
    (s : St) (hq : s.oracle = [] ∧ s.oracleDefault = true) (hc : CacheIsGfp inst s)
    (g : Nat) (hg : g ∈ dom) :
    ∃ v s', solveRootGoal inst (Cfg.current overflowDepth rounds) g s = .ok v s' ∧
      (v = .unique ↔ InGfp inst g) ∧ (v = .noSolution ↔ ¬ InGfp inst g) ∧ v ≠ .ambig ∧
      s'.stack = [] ∧ s'.graph = [] ∧ CacheIsGfp inst s' := by
  obtain ⟨v, s', h1, h2, h3, h4, h5⟩ :=
    fixed_point_correct true inst dom hyp overflowDepth rounds hov hr s hq (goodCache_of_gfp hc) g hg
  obtain ⟨a, b, c⟩ := definite_iff ((corr_true inst g v).mp h2)
  exact ⟨v, s', h1, a, b, c, h3, h4, gfp_of_goodCache h5⟩

/-- (B) all goals inductive: the answer is membership in the LEAST fixed point -/
theorem inductive_cycles_correct (inst : Instance) (dom : List Nat) (hyp : Hyp false inst dom)
    (overflowDepth rounds : Nat) (hov : dom.length ≤ overflowDepth) (hr : 2 ≤ rounds)
    (s : St) (hq : s.oracle = [] ∧ s.oracleDefault = true) (hc : CacheIsLfp inst s)
    (g : Nat) (hg : g ∈ dom) :
    ∃ v s', solveRootGoal inst (Cfg.current overflowDepth rounds) g s = .ok v s' ∧
      (v = .unique ↔ InLfp inst g) ∧ (v = .noSolution ↔ ¬ InLfp inst g) ∧ v ≠ .ambig ∧
      s'.stack = [] ∧ s'.graph = [] ∧ CacheIsLfp inst s' := by
  obtain ⟨v, s', h1, h2, h3, h4, h5⟩ :=
    fixed_point_correct false inst dom hyp overflowDepth rounds hov hr s hq (goodCache_of_lfp hc) g hg
  obtain ⟨a, b, c⟩ := definite_iff ((corr_false inst g v).mp h2)
  exact ⟨v, s', h1, a, b, c, h3, h4, lfp_of_goodCache h5⟩

/-- (A) for a whole history: after any sequence of `Solver::solve` calls on one fresh solver
    instance (the cache filling up on the way), the next answer is still the gfp answer -/
theorem coinductive_history_correct (inst : Instance) (dom : List Nat) (hyp : Hyp true inst dom)
    (overflowDepth rounds : Nat) (hov : dom.length ≤ overflowDepth) (hr : 2 ≤ rounds)
    (gs : List Nat) (hd : ∀ g, g ∈ gs → g ∈ dom) (g : Nat) (hg : g ∈ dom) :
    ∃ v, solveOn inst (Cfg.current overflowDepth rounds) g
        (runHistory inst (Cfg.current overflowDepth rounds) (gs.map Call.plain) (St.fresh true)) = .value v ∧
      (v = .unique ↔ InGfp inst g) ∧ (v = .noSolution ↔ ¬ InGfp inst g) := by
  obtain ⟨v, h1, h2⟩ := history_correct (cfg := Cfg.current overflowDepth rounds) hyp rfl rfl hov hr true gs hd g hg
  obtain ⟨a, b, _⟩ := definite_iff ((corr_true inst g v).mp h2)
  exact ⟨v, h1, a, b⟩

/-- (B) for a whole history -/
theorem inductive_history_correct (inst : Instance) (dom : List Nat) (hyp : Hyp false inst dom)
    (overflowDepth rounds : Nat) (hov : dom.length ≤ overflowDepth) (hr : 2 ≤ rounds)
    (gs : List Nat) (hd : ∀ g, g ∈ gs → g ∈ dom) (g : Nat) (hg : g ∈ dom) :
    ∃ v, solveOn inst (Cfg.current overflowDepth rounds) g
        (runHistory inst (Cfg.current overflowDepth rounds) (gs.map Call.plain) (St.fresh true)) = .value v ∧
      (v = .unique ↔ InLfp inst g) ∧ (v = .noSolution ↔ ¬ InLfp inst g) := by
  obtain ⟨v, h1, h2⟩ := history_correct (cfg := Cfg.current overflowDepth rounds) hyp rfl rfl hov hr true gs hd g hg
  obtain ⟨a, b, _⟩ := definite_iff ((corr_false inst g v).mp h2)
  exact ⟨v, h1, a, b⟩

/-! ### non-vacuity: interlocking cycles, a provisional `unique` that is retracted -/

/-- `0 :- 3, 2, 1.  1 :- 0.  2 :- 1.  3` has no clause; cycles `0 → 1 → 0` and `0 → 2 → 1 → 0`
    share the edge `1 → 0`.  While `0` is being solved, `1` and then `2` get the provisional answer
    `unique` (relying on the provisional `unique` of `0`); `3` fails, `0` becomes `noSolution`, the
    provisional results are rolled back and the second round confirms. -/
def retract (co : Bool) : Instance :=
  Instance.ofTable [(co, true, [[3, 2, 1]]), (co, true, [[0]]), (co, true, [[1]]), (co, true, [])]

/-- `0 :- 1.  1 :- 2 | 0.  2 :- 0, 1.`: three interlocking cycles, no exit -/
def knot (co : Bool) : Instance :=
  Instance.ofTable [(co, true, [[1]]), (co, true, [[2], [0]]), (co, true, [[0, 1]])]

theorem retract_hyp (co : Bool) : Hyp co (retract co) [0, 1, 2, 3] := by
  cases co <;> exact ⟨by decide, by decide, by decide⟩

theorem knot_hyp (co : Bool) : Hyp co (knot co) [0, 1, 2] := by
  cases co <;> exact ⟨by decide, by decide, by decide⟩

/-- the hypotheses of (A) and (B) are satisfiable by instances with interlocking cycles -/
example : Hyp true (retract true) [0, 1, 2, 3] := retract_hyp true
example : Hyp false (knot false) [0, 1, 2] := knot_hyp false
example : CacheIsGfp (retract true) (St.fresh true) := gfp_of_goodCache (goodCache_fresh true _)

/-- concrete run: goal `0` and then goal `2` on the same solver are both `noSolution`
    (the provisional `unique` of `2` from the first call was not kept) -/
example : outcomes (retract true) (Cfg.current 4 2) [Call.plain 0, Call.plain 2] (St.fresh true) =
    [.value .noSolution, .value .noSolution] := by decide +kernel

/-- … and what the cache holds afterwards -/
example : cacheDump (runHistory (retract true) (Cfg.current 4 2) [Call.plain 0] (St.fresh true)) =
    [(0, .noSolution), (1, .noSolution), (3, .noSolution)] := by decide +kernel

/-- so none of the four goals is in the greatest fixed point — by the theorem, not by inspection -/
example : ¬ InGfp (retract true) 2 := by
  obtain ⟨v, h1, _, h3⟩ := coinductive_history_correct (retract true) [0, 1, 2, 3] (retract_hyp true) 4 2
    (by decide) (by decide) [0] (by decide) 2 (by decide)
  have : v = .noSolution := by
    have h2 : solveOn (retract true) (Cfg.current 4 2) 2
        (runHistory (retract true) (Cfg.current 4 2) ([0].map Call.plain) (St.fresh true)) =
        .value .noSolution := by decide +kernel
    rw [h2] at h1
    cases h1
    rfl
  exact h3.mp this

/-- the knot: coinductively every goal holds, inductively none -/
example : outcomes (knot true) (Cfg.current 3 2) [Call.plain 2, Call.plain 0, Call.plain 1] (St.fresh true) =
    [.value .unique, .value .unique, .value .unique] := by decide +kernel
example : outcomes (knot false) (Cfg.current 3 2) [Call.plain 2, Call.plain 0, Call.plain 1] (St.fresh true) =
    [.value .noSolution, .value .noSolution, .value .noSolution] := by decide +kernel

/-- `2 ≤ rounds` is tight: the retraction needs the second round -/
theorem loop_needs_two_rounds :
    solveOn (retract true) (Cfg.current 4 1) 0 (St.fresh true) = .panic .fuelRounds ∧
    solveOn (retract true) (Cfg.current 4 2) 0 (St.fresh true) = .value .noSolution := by decide +kernel

/-- `dom.length ≤ overflowDepth` cannot be lowered in general: the knot (3 goals) overflows a stack of
    depth 2 — although a particular instance may need less (`retract`: 4 goals, depth 3 suffices) -/
theorem depth_bound_tight :
    solveOn (retract true) (Cfg.current 3 2) 0 (St.fresh true) = .value .noSolution ∧
    solveOn (knot true) (Cfg.current 2 2) 0 (St.fresh true) = .panic .overflow := by decide +kernel

end Chalk.FixedPoint.C05fp

#print axioms Chalk.FixedPoint.C05fp.inGfp_is_greatest_fixed_point
#print axioms Chalk.FixedPoint.C05fp.inLfp_is_least_fixed_point
#print axioms Chalk.FixedPoint.C05fp.fixed_point_correct
#print axioms Chalk.FixedPoint.C05fp.coinductive_cycles_correct
#print axioms Chalk.FixedPoint.C05fp.inductive_cycles_correct
#print axioms Chalk.FixedPoint.C05fp.coinductive_history_correct
#print axioms Chalk.FixedPoint.C05fp.inductive_history_correct
#print axioms Chalk.FixedPoint.C05fp.loop_needs_two_rounds
#print axioms Chalk.FixedPoint.C05fp.depth_bound_tight
#print axioms Chalk.FixedPoint.C05fp.goodCache_of_gfp
#print axioms Chalk.FixedPoint.C05fp.gfp_of_goodCache
#print axioms Chalk.FixedPoint.C05fp.goodCache_of_lfp
#print axioms Chalk.FixedPoint.C05fp.lfp_of_goodCache
#print axioms Chalk.FixedPoint.C05fp.retract_hyp
#print axioms Chalk.FixedPoint.C05fp.knot_hyp

/-! ## caching disabled (`cache = none`)

  Same statements, same bounds (`dom.length ≤ overflowDepth`, `2 ≤ rounds`): without the cache the
  nodes of a completed component are dropped (`rollback_to(dfn)`) instead of cached
  (`After.finish_discard`).  The bounds stay tight. -/

namespace Chalk.FixedPoint.C05fp
open Chalk.FixedPoint.Cyc

/-- the polarity-generic statement, caching enabled or disabled: every cache entry correct
    (vacuous for `cache = none`) before and after, the caching mode is kept -/
theorem fixed_point_correct_any (c : Bool) (inst : Instance) (dom : List Nat) (hyp : Hyp c inst dom)
    (overflowDepth rounds : Nat) (hov : dom.length ≤ overflowDepth) (hr : 2 ≤ rounds)
    (s : St) (hq : s.oracle = [] ∧ s.oracleDefault = true) (hok : CacheOK c inst s)
    (g : Nat) (hg : g ∈ dom) :
    ∃ v s', solveRootGoal inst (Cfg.current overflowDepth rounds) g s = .ok v s' ∧ Corr c inst g v ∧
      s'.stack = [] ∧ s'.graph = [] ∧ CacheOK c inst s' ∧ s'.cache.isSome = s.cache.isSome :=
  (solveRootGoal_general (fx := false) hyp rfl rfl nofun nofun hov hr).total rfl s hq hok g hg

/-- (A) without cache -/
theorem coinductive_cycles_correct_nocache (inst : Instance) (dom : List Nat) (hyp : Hyp true inst dom)
    (overflowDepth rounds : Nat) (hov : dom.length ≤ overflowDepth) (hr : 2 ≤ rounds)
    (s : St) (hq : s.oracle = [] ∧ s.oracleDefault = true) (hnc : s.cache = none)
    (g : Nat) (hg : g ∈ dom) :
    ∃ v s', solveRootGoal inst (Cfg.current overflowDepth rounds) g s = .ok v s' ∧
      (v = .unique ↔ InGfp inst g) ∧ (v = .noSolution ↔ ¬ InGfp inst g) ∧ v ≠ .ambig ∧
      s'.stack = [] ∧ s'.graph = [] ∧ s'.cache = none := by
  obtain ⟨v, s', h1, h2, h3, h4, h5⟩ :=
    solveRootGoal_correct_nocache (cfg := Cfg.current overflowDepth rounds) hyp rfl rfl rfl hov hr s hq hnc g hg
  obtain ⟨a, b, c⟩ := definite_iff ((corr_true inst g v).mp h2)
  exact ⟨v, s', h1, a, b, c, h3, h4, h5⟩

/-- (B) without cache -/
theorem inductive_cycles_correct_nocache (inst : Instance) (dom : List Nat) (hyp : Hyp false inst dom)
    (overflowDepth rounds : Nat) (hov : dom.length ≤ overflowDepth) (hr : 2 ≤ rounds)
    (s : St) (hq : s.oracle = [] ∧ s.oracleDefault = true) (hnc : s.cache = none)
    (g : Nat) (hg : g ∈ dom) :
    ∃ v s', solveRootGoal inst (Cfg.current overflowDepth rounds) g s = .ok v s' ∧
      (v = .unique ↔ InLfp inst g) ∧ (v = .noSolution ↔ ¬ InLfp inst g) ∧ v ≠ .ambig ∧
      s'.stack = [] ∧ s'.graph = [] ∧ s'.cache = none := by
  obtain ⟨v, s', h1, h2, h3, h4, h5⟩ :=
    solveRootGoal_correct_nocache (cfg := Cfg.current overflowDepth rounds) hyp rfl rfl rfl hov hr s hq hnc g hg
  obtain ⟨a, b, c⟩ := definite_iff ((corr_false inst g v).mp h2)
  exact ⟨v, s', h1, a, b, c, h3, h4, h5⟩

/-- (A) for a whole history on a solver without cache -/
theorem coinductive_history_correct_nocache (inst : Instance) (dom : List Nat) (hyp : Hyp true inst dom)
    (overflowDepth rounds : Nat) (hov : dom.length ≤ overflowDepth) (hr : 2 ≤ rounds)
    (gs : List Nat) (hd : ∀ g, g ∈ gs → g ∈ dom) (g : Nat) (hg : g ∈ dom) :
    ∃ v, solveOn inst (Cfg.current overflowDepth rounds) g
        (runHistory inst (Cfg.current overflowDepth rounds) (gs.map Call.plain) (St.fresh false)) = .value v ∧
      (v = .unique ↔ InGfp inst g) ∧ (v = .noSolution ↔ ¬ InGfp inst g) := by
  obtain ⟨v, h1, h2⟩ :=
    history_correct (cfg := Cfg.current overflowDepth rounds) hyp rfl rfl hov hr false gs hd g hg
  obtain ⟨a, b, _⟩ := definite_iff ((corr_true inst g v).mp h2)
  exact ⟨v, h1, a, b⟩

/-- (B) for a whole history on a solver without cache -/
theorem inductive_history_correct_nocache (inst : Instance) (dom : List Nat) (hyp : Hyp false inst dom)
    (overflowDepth rounds : Nat) (hov : dom.length ≤ overflowDepth) (hr : 2 ≤ rounds)
    (gs : List Nat) (hd : ∀ g, g ∈ gs → g ∈ dom) (g : Nat) (hg : g ∈ dom) :
    ∃ v, solveOn inst (Cfg.current overflowDepth rounds) g
        (runHistory inst (Cfg.current overflowDepth rounds) (gs.map Call.plain) (St.fresh false)) = .value v ∧
      (v = .unique ↔ InLfp inst g) ∧ (v = .noSolution ↔ ¬ InLfp inst g) := by
  obtain ⟨v, h1, h2⟩ :=
    history_correct (cfg := Cfg.current overflowDepth rounds) hyp rfl rfl hov hr false gs hd g hg
  obtain ⟨a, b, _⟩ := definite_iff ((corr_false inst g v).mp h2)
  exact ⟨v, h1, a, b⟩

/-- the bounds are the same and stay tight without the cache -/
theorem bounds_tight_nocache :
    solveOn (retract true) (Cfg.current 4 1) 0 (St.fresh false) = .panic .fuelRounds ∧
    solveOn (retract true) (Cfg.current 4 2) 0 (St.fresh false) = .value .noSolution ∧
    solveOn (knot true) (Cfg.current 2 2) 0 (St.fresh false) = .panic .overflow ∧
    solveOn (knot true) (Cfg.current 3 2) 0 (St.fresh false) = .value .unique := by decide +kernel

/-- concrete runs without cache -/
example : outcomes (retract true) (Cfg.current 4 2) [Call.plain 0, Call.plain 2] (St.fresh false) =
    [.value .noSolution, .value .noSolution] := by decide +kernel
example : outcomes (knot false) (Cfg.current 3 2) [Call.plain 2, Call.plain 0, Call.plain 1] (St.fresh false) =
    [.value .noSolution, .value .noSolution, .value .noSolution] := by decide +kernel

end Chalk.FixedPoint.C05fp

#print axioms Chalk.FixedPoint.C05fp.fixed_point_correct_any
#print axioms Chalk.FixedPoint.C05fp.coinductive_cycles_correct_nocache
#print axioms Chalk.FixedPoint.C05fp.inductive_cycles_correct_nocache
#print axioms Chalk.FixedPoint.C05fp.coinductive_history_correct_nocache
#print axioms Chalk.FixedPoint.C05fp.inductive_history_correct_nocache
#print axioms Chalk.FixedPoint.C05fp.bounds_tight_nocache
