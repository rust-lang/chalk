/-
  C02, the translation of `forall`.  `Sem.Goal` has no `forall` constructor: the harness replaces
  each `forall<T> { G }` by `G` with `T` instantiated by a fresh opaque constant `!f<k>` that occurs
  nowhere in the program, the hypotheses and the goal.  Here this translation is justified against
  the declarative semantics: for positive goals (no `not`), truth for the fresh constant is
  EQUIVALENT to truth for every term (`forall_by_fresh_constant`, one variable;
  `forall_by_fresh_constants`, several variables with any injective naming;
  `forall_by_opaque_constants_B`, the harness's naming `!f<k>` with executable side conditions).
  With negation the equivalence is false (`forall_fails_with_negation`).
  Helpers: `Lemmas/ForallLemmas.lean`, `Lemmas/GenericLemmas.lean`; naming devices of `Props/C01gen.lean`.
-/
import ChalkModel.Lemmas.ForallLemmas
import ChalkModel.Props.C01gen
import Std.Data.String.ToNat

namespace Chalk.C02gen
open Chalk.Sem
open Chalk.C01gen (IsName nameRepl nameRepl_none nameRepl_name cexP cexG cexP_holds_only ex2P ex2G)

/-! ### one quantified variable, one fresh constant -/

/-- the replacement `c ↦ t` -/
def singleRepl (c : String) (t : Tm) : String → Option Tm := fun s => if s = c then some t else none

theorem singleRepl_none (c : String) (t : Tm) (s : String) (h : ¬ (fun s => s = c) s) : singleRepl c t s = none := by
  simp only [singleRepl]
  exact if_neg h

theorem singleRepl_self (c : String) (t : Tm) : singleRepl c t c = some t := by
  simp [singleRepl]

/-- `forall<T> { G }` by a fresh constant: variable 0 of `g` is the quantified one, the other
    variables stay.  If the program, the hypotheses and the goal do not mention the symbol `c` and
    the goal is positive, then the goal holds with `c` for variable 0 iff it holds with every term. -/
theorem forall_by_fresh_constant (P : Program) (Γ : List Atom) (g : Goal) (c : String)
    (hP : P.Avoids (fun s => s = c)) (hΓ : ∀ a ∈ Γ, a.Avoids (fun s => s = c))
    (hg : g.Avoids (fun s => s = c)) (hpos : g.Positive) :
    GHolds P Γ (g.inst (fun i => if i = 0 then .app c .nil else .var i)) ↔
    ∀ t : Tm, GHolds P Γ (g.inst (fun i => if i = 0 then t else .var i)) := by
  constructor
  · intro h t
    have h2 := GHolds.repl_fixed (singleRepl_none c t) hP hΓ hg hpos _ h
    have hfun : (fun i => (if i = 0 then Tm.app c .nil else .var i).repl (singleRepl c t)) =
        (fun i => if i = 0 then t else .var i) := by
      funext i
      by_cases hi : i = 0
      · simp [hi, Tm.repl, singleRepl_self]
      · simp [hi, Tm.repl]
    rw [hfun] at h2
    exact h2
  · intro h
    exact h (.app c .nil)

/-! ### several quantified variables, an injective family of fresh names -/

/-- `forall<T0, …, T(n-1)> { G }` by fresh constants `name 0, …, name (n-1)`: variables `< n` of
    `g` are the quantified ones, the other variables stay. -/
theorem forall_by_fresh_constants (name : Nat → String) (hinj : ∀ i j, name i = name j → i = j) (n : Nat)
    (P : Program) (Γ : List Atom) (g : Goal)
    (hP : P.Avoids (IsName name)) (hΓ : ∀ a ∈ Γ, a.Avoids (IsName name))
    (hg : g.Avoids (IsName name)) (hpos : g.Positive) :
    GHolds P Γ (g.inst (fun i => if i < n then .app (name i) .nil else .var i)) ↔
    ∀ τ : Nat → Tm, GHolds P Γ (g.inst (fun i => if i < n then τ i else .var i)) := by
  constructor
  · intro h τ
    have h2 := GHolds.repl_fixed (nameRepl_none name τ) hP hΓ hg hpos _ h
    have hfun : (fun i => (if i < n then Tm.app (name i) .nil else .var i).repl (nameRepl name τ)) =
        (fun i => if i < n then τ i else .var i) := by
      funext i
      by_cases hi : i < n
      · simp [hi, Tm.repl, nameRepl_name name hinj τ i]
      · simp [hi, Tm.repl]
    rw [hfun] at h2
    exact h2
  · intro h
    exact h (fun i => .app (name i) .nil)

/-! ### the harness's naming `!f<k>` -/

def forallName (k : Nat) : String := "!f" ++ toString k

theorem forallName_injective : ∀ i j, forallName i = forallName j → i = j := by
  intro i j h
  unfold forallName at h
  rw [String.append_right_inj] at h
  exact Nat.repr_injective h

/-- executable: the symbol starts with `!f` -/
def isForallNameB (c : String) : Bool :=
  match c.toList with
  | '!' :: 'f' :: _ => true
  | _ => false

theorem not_isName_of_isForallNameB_false (c : String) (h : (!isForallNameB c) = true) :
    ¬ IsName forallName c := by
  rintro ⟨j, rfl⟩
  simp [isForallNameB, forallName, String.toList_append] at h

/-- executable side conditions: no symbol starting with `!f` occurs -/
def Tm.avoidsForallB (t : Tm) : Bool := t.allSyms (fun c => !isForallNameB c)
def Program.avoidsForallB (P : Program) : Bool := P.allSyms (fun c => !isForallNameB c)
def Goal.avoidsForallB (g : Goal) : Bool := g.allSyms (fun c => !isForallNameB c)
def hypsAvoidForallB (Γ : List Atom) : Bool := hypsAllSyms (fun c => !isForallNameB c) Γ

theorem Tm.avoids_of_avoidsForallB (t : Tm) (h : Tm.avoidsForallB t = true) : t.Avoids (IsName forallName) :=
  Tm.avoids_of_allSyms not_isName_of_isForallNameB_false t h
theorem Program.avoids_of_avoidsForallB (P : Program) (h : Program.avoidsForallB P = true) :
    P.Avoids (IsName forallName) :=
  Program.avoids_of_allSyms not_isName_of_isForallNameB_false P h
theorem Goal.avoids_of_avoidsForallB (g : Goal) (h : Goal.avoidsForallB g = true) :
    g.Avoids (IsName forallName) :=
  Goal.avoids_of_allSyms not_isName_of_isForallNameB_false g h
theorem hyps_avoid_of_avoidForallB (Γ : List Atom) (h : hypsAvoidForallB Γ = true) :
    ∀ a ∈ Γ, a.Avoids (IsName forallName) :=
  hyps_avoid_of_allSyms not_isName_of_isForallNameB_false Γ h

/-- The harness's translation of `forall` (Prop side conditions). -/
theorem forall_by_opaque_constants (n : Nat) (P : Program) (Γ : List Atom) (g : Goal)
    (hP : P.Avoids (IsName forallName)) (hΓ : ∀ a ∈ Γ, a.Avoids (IsName forallName))
    (hg : g.Avoids (IsName forallName)) (hpos : g.Positive) :
    GHolds P Γ (g.inst (fun i => if i < n then .app (forallName i) .nil else .var i)) ↔
    ∀ τ : Nat → Tm, GHolds P Γ (g.inst (fun i => if i < n then τ i else .var i)) :=
  forall_by_fresh_constants forallName forallName_injective n P Γ g hP hΓ hg hpos

/-- The harness's translation of `forall`, executable side conditions: program, hypotheses and goal
    mention no symbol starting with `!f`, the goal has no `not`.  Then the goal with its variables
    `< n` replaced by `!f0 … !f(n-1)` holds iff it holds with them replaced by arbitrary terms. -/
theorem forall_by_opaque_constants_B (n : Nat) (P : Program) (Γ : List Atom) (g : Goal)
    (hP : Program.avoidsForallB P = true) (hΓ : hypsAvoidForallB Γ = true)
    (hg : Goal.avoidsForallB g = true) (hpos : g.positiveB = true) :
    GHolds P Γ (g.inst (fun i => if i < n then .app (forallName i) .nil else .var i)) ↔
    ∀ τ : Nat → Tm, GHolds P Γ (g.inst (fun i => if i < n then τ i else .var i)) :=
  forall_by_opaque_constants n P Γ g (Program.avoids_of_avoidsForallB P hP) (hyps_avoid_of_avoidForallB Γ hΓ)
    (Goal.avoids_of_avoidsForallB g hg) ((Goal.positive_iff_positiveB g).mpr hpos)

/-! ### the restriction to positive goals is necessary -/

theorem cexP_Foo_u32 : Holds cexP [] ⟨"Foo", .cons (.app "u32" .nil) .nil⟩ :=
  Chalk.C01gen.cexP_holds_Foo_u32

/-- With negation the translation is wrong: program `Foo(u32).`, goal `not Foo(x0)`, i.e.
    `forall<T> { not { T: Foo } }`.  All other side conditions hold; the goal holds for the fresh
    constant `!f0` and fails for `x0 := u32`. -/
theorem forall_fails_with_negation :
    Program.avoidsForallB cexP = true ∧ hypsAvoidForallB [] = true ∧ Goal.avoidsForallB cexG = true ∧
    cexG.positiveB = false ∧
    GHolds cexP [] (cexG.inst (fun i => if i < 1 then .app (forallName i) .nil else .var i)) ∧
    ¬ GHolds cexP [] (cexG.inst (fun i => if i < 1 then (fun _ => Tm.app "u32" .nil) i else .var i)) ∧
    ¬ ∀ τ : Nat → Tm, GHolds cexP [] (cexG.inst (fun i => if i < 1 then τ i else .var i)) := by
  have hno : ¬ GHolds cexP [] (cexG.inst (fun i => if i < 1 then (fun _ => Tm.app "u32" .nil) i else .var i)) := by
    intro hn
    exact hn cexP_Foo_u32
  exact ⟨by decide, by decide, by decide, rfl, Chalk.C01gen.cexP_not_holds_Foo _ (by decide), hno,
    fun hall => hno (hall _)⟩

/-- the same in the shape of `forall_by_fresh_constant` (one constant `c = "!f0"`, Prop side
    conditions): the iff fails. -/
theorem forall_fails_with_negation_single :
    cexP.Avoids (fun s => s = "!f0") ∧ (∀ a ∈ ([] : List Atom), a.Avoids (fun s => s = "!f0")) ∧
    cexG.Avoids (fun s => s = "!f0") ∧ ¬ cexG.Positive ∧
    ¬ (GHolds cexP [] (cexG.inst (fun i => if i = 0 then .app "!f0" .nil else .var i)) ↔
       ∀ t : Tm, GHolds cexP [] (cexG.inst (fun i => if i = 0 then t else .var i))) := by
  refine ⟨?_, by simp, ?_, fun h => h, ?_⟩
  · intro c hc
    simp only [cexP, List.mem_singleton] at hc
    subst hc
    refine ⟨?_, fun b hb => nomatch hb⟩
    simp only [Atom.Avoids, Tms.Avoids, Tm.Avoids, and_true]
    decide
  · simp [cexG, Goal.Avoids, Atom.Avoids, Tms.Avoids, Tm.Avoids]
  · intro hiff
    exact hiff.mp (Chalk.C01gen.cexP_not_holds_Foo "!f0" (by decide)) (.app "u32" .nil) cexP_Foo_u32

/-! ### non-vacuity: `forall<T> { if (T: Foo) { Vec<T>: Foo } }`
    program `Foo(Vec(x)) :- Foo(x).  Foo(u32).` (`ex2P`), translated goal `ex2G` of C01gen -/

example : Program.avoidsForallB ex2P = true ∧ hypsAvoidForallB [] = true ∧ Goal.avoidsForallB ex2G = true ∧
    ex2G.positiveB = true := by decide

/-- the translated goal holds for the fresh constant `!f0` (certified evaluator) -/
theorem ex2_holds_fresh :
    GHolds ex2P [] (ex2G.inst (fun i => if i < 1 then .app (forallName i) .nil else .var i)) :=
  (evalGoal_sound ex2P 4 _ []).1 rfl

/-- hence, through `forall_by_opaque_constants_B`, for every term `t` -/
theorem ex2_holds_every (t : Tm) :
    GHolds ex2P [⟨"Foo", .cons t .nil⟩] (.atom ⟨"Foo", .cons (.app "Vec" (.cons t .nil)) .nil⟩) :=
  (forall_by_opaque_constants_B 1 ex2P [] ex2G (by decide) (by decide) (by decide) (by decide)).mp
    ex2_holds_fresh (fun _ => t)

example : ∀ t : Tm,
    GHolds ex2P [⟨"Foo", .cons t .nil⟩] (.atom ⟨"Foo", .cons (.app "Vec" (.cons t .nil)) .nil⟩) :=
  ex2_holds_every

/-- and in the single-constant shape of `forall_by_fresh_constant`, directly from the semantics -/
example : ∀ t : Tm,
    GHolds ex2P [⟨"Foo", .cons t .nil⟩] (.atom ⟨"Foo", .cons (.app "Vec" (.cons t .nil)) .nil⟩) := by
  have hP : ex2P.Avoids (fun s => s = "!f0") :=
    Program.avoids_of_allSyms (p := fun c => c != "!f0") (fun c hc => by simpa using hc) ex2P (by decide)
  have hg : ex2G.Avoids (fun s => s = "!f0") :=
    Goal.avoids_of_allSyms (p := fun c => c != "!f0") (fun c hc => by simpa using hc) ex2G (by decide)
  have h0 : GHolds ex2P [] (ex2G.inst (fun i => if i = 0 then .app "!f0" .nil else .var i)) := by
    show Holds ex2P _ _
    apply Holds.closed
    refine Or.inr (Or.inr ⟨rfl, _, List.mem_cons_self .., fun _ => .app "!f0" .nil, rfl, ?_⟩)
    intro b hb
    simp only [List.mem_singleton] at hb
    subst hb
    exact Holds.closed (Or.inl (List.mem_cons_self ..))
  exact fun t => (forall_by_fresh_constant ex2P [] ex2G "!f0" hP (by simp) hg trivial).mp h0 t

end Chalk.C02gen

#print axioms Chalk.Sem.Tm.repl_of_avoids
#print axioms Chalk.Sem.Tms.repl_of_avoids
#print axioms Chalk.Sem.Atom.repl_of_avoids
#print axioms Chalk.Sem.map_repl_of_avoids
#print axioms Chalk.Sem.GHolds.repl_fixed
#print axioms Chalk.Sem.hyps_avoid_of_allSyms
#print axioms Chalk.C02gen.singleRepl_none
#print axioms Chalk.C02gen.singleRepl_self
#print axioms Chalk.C02gen.forall_by_fresh_constant
#print axioms Chalk.C02gen.forall_by_fresh_constants
#print axioms Chalk.C02gen.forallName_injective
#print axioms Chalk.C02gen.not_isName_of_isForallNameB_false
#print axioms Chalk.C02gen.Tm.avoids_of_avoidsForallB
#print axioms Chalk.C02gen.Program.avoids_of_avoidsForallB
#print axioms Chalk.C02gen.Goal.avoids_of_avoidsForallB
#print axioms Chalk.C02gen.hyps_avoid_of_avoidForallB
#print axioms Chalk.C02gen.forall_by_opaque_constants
#print axioms Chalk.C02gen.forall_by_opaque_constants_B
#print axioms Chalk.C02gen.cexP_Foo_u32
#print axioms Chalk.C02gen.forall_fails_with_negation
#print axioms Chalk.C02gen.forall_fails_with_negation_single
#print axioms Chalk.C02gen.ex2_holds_fresh
#print axioms Chalk.C02gen.ex2_holds_every
