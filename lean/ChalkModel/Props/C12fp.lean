/-
  C12fp — C12 ("a panic in a database callback leaves the solver usable") for CYCLIC ground instances
  of one polarity (`Props/C12.lean` has the acyclic case).

  Model: `FixedPoint.lean`.  A panic inside a solve is the work-budget panic
  (`Cfg.budget = some b` / `Call.budget`: the hook ticks at every `solve_goal` entry and at the head
  of every round of the loop of `solve_new_subgoal`, i.e. between any two database callbacks).
  Proofs: `Lemmas/FixedPointSem*.lean` — the invariant of `Props/C05fp.lean` holds at every work step,
  and it says that every cache entry is final (`Inv.cacheOK`); `solveGoal_spec` says "returns with invariant,
  frame and fact, or budget panic with a correct cache" for an arbitrary budget;
  `Lemmas/FixedPointHistory.lean` goes from `solve_root_goal` to histories of calls.

  Class of instances: `Cyc.Hyp c inst dom` (`dom` finite, closed under `deps`, all goals ground and of
  polarity `c`; any cyclic structure).  Configuration: F3 and F7 repairs, `dom.length ≤ overflowDepth`,
  `2 ≤ rounds`; the cache enabled or not.

    `panic_leaves_cache_correct` — for EVERY budget: `solve_root_goal` on a state whose cache is
        correct returns the fixed-point answer (then stack and graph are empty) or ends in the budget
        panic (only if a budget is set); in both cases the cache it leaves is correct;
    `history_with_panics_correct` — a history of calls each with an arbitrary budget on one fresh
        solver: every outcome is the fixed-point answer or the budget panic, the cache is correct
        at the end, and the next plain call returns the fixed-point answer;
    `coinductive_usable_after_panics`, `inductive_usable_after_panics` — the last part spelled out
        with `InGfp` / `InLfp`.
  Both polarities without a mixed cycle: `Props/C11C12mixed.lean`.  With a mixed cycle the statement is false
  (`C12.usable_after_panic_refuted`, finding `recursive_mixed_cycle_cached`, F24).
-/
import ChalkModel.Lemmas.FixedPointSemN

namespace Chalk.FixedPoint.C12fp
open Chalk.FixedPoint.Cyc

/-- a panic at any work step leaves a correct cache -/
theorem panic_leaves_cache_correct (c : Bool) (inst : Instance) (dom : List Nat) (hyp : Hyp c inst dom)
    (cfg : Cfg) (h3 : cfg.fixF3 = true) (h7 : cfg.fixF7 = true) (hov : dom.length ≤ cfg.overflowDepth)
    (hr : 2 ≤ cfg.rounds) (s : St) (hq : s.oracle = [] ∧ s.oracleDefault = true)
    (hok : ∀ k v, InCache s k v → Corr c inst k v) (g : Nat) (hg : g ∈ dom) :
    (∃ v s', solveRootGoal inst cfg g s = .ok v s' ∧ Corr c inst g v ∧ s'.stack = [] ∧ s'.graph = [] ∧
      (∀ k w, InCache s' k w → Corr c inst k w) ∧ s'.cache.isSome = s.cache.isSome) ∨
    (∃ s', solveRootGoal inst cfg g s = .panic .budget s' ∧ cfg.budget ≠ none ∧
      (∀ k w, InCache s' k w → Corr c inst k w)) :=
  (solveRootGoal_general (fx := false) hyp h3 h7 nofun nofun hov hr).quiet s hq hok g hg

/-- histories of calls with arbitrary budgets -/
theorem history_with_panics_correct (c : Bool) (inst : Instance) (dom : List Nat) (hyp : Hyp c inst dom)
    (cfg : Cfg) (h3 : cfg.fixF3 = true) (h7 : cfg.fixF7 = true) (hov : dom.length ≤ cfg.overflowDepth)
    (hr : 2 ≤ cfg.rounds) (b : Bool) (ks : List Call)
    (hd : ∀ k, k ∈ ks → (k.oracle = [] ∧ k.dflt = true) ∧ k.goal ∈ dom) (g : Nat) (hg : g ∈ dom) :
    (∀ (i : Nat) (k : Call), ks[i]? = some k →
      (outcomes inst cfg ks (St.fresh b))[i]? = some (.panic .budget) ∧ k.budget ≠ none ∨
      ∃ v, (outcomes inst cfg ks (St.fresh b))[i]? = some (.value v) ∧ Corr c inst k.goal v) ∧
    (∀ k w, InCache (runHistory inst cfg ks (St.fresh b)) k w → Corr c inst k w) ∧
    ∃ v, solveOn inst cfg g (runHistory inst cfg ks (St.fresh b)) = .value v ∧ Corr c inst g v :=
  RootSpec.history_quiet (fun _ => solveRootGoal_general (fx := false) hyp h3 h7 nofun nofun hov hr) ks hd _
    (CacheAll.fresh _ b) g hg

/-- coinductive instances: after any panics the next plain call gives the gfp answer -/
theorem coinductive_usable_after_panics (inst : Instance) (dom : List Nat) (hyp : Hyp true inst dom)
    (cfg : Cfg) (h3 : cfg.fixF3 = true) (h7 : cfg.fixF7 = true) (hov : dom.length ≤ cfg.overflowDepth)
    (hr : 2 ≤ cfg.rounds) (b : Bool) (ks : List Call)
    (hd : ∀ k, k ∈ ks → (k.oracle = [] ∧ k.dflt = true) ∧ k.goal ∈ dom) (g : Nat) (hg : g ∈ dom) :
    ∃ v, solveOn inst cfg g (runHistory inst cfg ks (St.fresh b)) = .value v ∧
      (v = .unique ↔ InGfp inst g) ∧ (v = .noSolution ↔ ¬ InGfp inst g) := by
  obtain ⟨v, h1, h2⟩ := (history_with_panics_correct _ inst dom hyp cfg h3 h7 hov hr b ks hd g hg).2.2
  obtain ⟨a, b, _⟩ := definite_iff ((corr_true inst g v).mp h2)
  exact ⟨v, h1, a, b⟩

/-- inductive instances: … the lfp answer -/
theorem inductive_usable_after_panics (inst : Instance) (dom : List Nat) (hyp : Hyp false inst dom)
    (cfg : Cfg) (h3 : cfg.fixF3 = true) (h7 : cfg.fixF7 = true) (hov : dom.length ≤ cfg.overflowDepth)
    (hr : 2 ≤ cfg.rounds) (b : Bool) (ks : List Call)
    (hd : ∀ k, k ∈ ks → (k.oracle = [] ∧ k.dflt = true) ∧ k.goal ∈ dom) (g : Nat) (hg : g ∈ dom) :
    ∃ v, solveOn inst cfg g (runHistory inst cfg ks (St.fresh b)) = .value v ∧
      (v = .unique ↔ InLfp inst g) ∧ (v = .noSolution ↔ ¬ InLfp inst g) := by
  obtain ⟨v, h1, h2⟩ := (history_with_panics_correct _ inst dom hyp cfg h3 h7 hov hr b ks hd g hg).2.2
  obtain ⟨a, b, _⟩ := definite_iff ((corr_false inst g v).mp h2)
  exact ⟨v, h1, a, b⟩

/-! ### non-vacuity -/

/-- `0 :- 3, 2, 1.  1 :- 0.  2 :- 1.` (`3` has no clause) -/
def retract (co : Bool) : Instance :=
  Instance.ofTable [(co, true, [[3, 2, 1]]), (co, true, [[0]]), (co, true, [[1]]), (co, true, [])]

/-- `0 :- 1.  1 :- 2 | 0.  2 :- 0, 1.` -/
def knot (co : Bool) : Instance :=
  Instance.ofTable [(co, true, [[1]]), (co, true, [[2], [0]]), (co, true, [[0, 1]])]

theorem retract_hyp (co : Bool) : Hyp co (retract co) [0, 1, 2, 3] := by
  cases co <;> exact ⟨by decide, by decide, by decide⟩

theorem knot_hyp (co : Bool) : Hyp co (knot co) [0, 1, 2] := by
  cases co <;> exact ⟨by decide, by decide, by decide⟩

/-- a clean solve of goal `0` of `retract` takes 14 work steps -/
example : (runCall (retract true) (Cfg.current 4 2) (Call.plain 0) (St.fresh true)).state.work = 14 := by decide +kernel

/-- a panic at work step 11 — in the middle of the first round, while `1` and `2` hold the provisional
    answer `unique` and after `3` has been cached: the cache holds only the final entry for `3`,
    and the next solves (goal `0`, then goal `2`, whose provisional `unique` was lost) are exact -/
example :
    outcomes (retract true) (Cfg.current 4 2) [{ goal := 0, budget := some 10 }, Call.plain 0, Call.plain 2]
        (St.fresh true) = [.panic .budget, .value .noSolution, .value .noSolution] ∧
    cacheDump (runHistory (retract true) (Cfg.current 4 2) [{ goal := 0, budget := some 10 }] (St.fresh true)) =
      [(3, .noSolution)] := by decide +kernel

/-- every crash point of the clean run (budget `0 … 13`), each followed by two plain calls -/
example :
    ((List.range 14).all fun b =>
      outcomes (retract true) (Cfg.current 4 2) [{ goal := 0, budget := some b }, Call.plain 0, Call.plain 2]
        (St.fresh true) == [.panic .budget, .value .noSolution, .value .noSolution]) = true := by decide +kernel

example :
    outcomes (knot true) (Cfg.current 3 2) [{ goal := 0, budget := some 5 }, Call.plain 1] (St.fresh true) =
      [.panic .budget, .value .unique] ∧
    cacheDump (runHistory (knot true) (Cfg.current 3 2) [{ goal := 0, budget := some 5 }] (St.fresh true)) = [] := by
  decide +kernel

/-- the theorem, instantiated: whatever the budgets, goal `2` of `retract` is then refuted -/
example (bs : List Nat) (b : Bool) :
    solveOn (retract true) (Cfg.current 4 2) 2
      (runHistory (retract true) (Cfg.current 4 2) (bs.map fun n => ({ goal := 0, budget := some n } : Call))
        (St.fresh b)) = .value .noSolution := by
  obtain ⟨v, h1, _, h3⟩ := coinductive_usable_after_panics (retract true) [0, 1, 2, 3] (retract_hyp true)
    (Cfg.current 4 2) rfl rfl (by decide) (by decide) b
    (bs.map fun n => ({ goal := 0, budget := some n } : Call))
    (by
      intro k hk
      obtain ⟨n, _, rfl⟩ := List.mem_map.mp hk
      exact ⟨⟨rfl, rfl⟩, by simp⟩) 2 (by decide)
  have hn : ¬ InGfp (retract true) 2 := by
    obtain ⟨w, e1, _, e3⟩ := coinductive_usable_after_panics (retract true) [0, 1, 2, 3] (retract_hyp true)
      (Cfg.current 4 2) rfl rfl (by decide) (by decide) true [] (by simp) 2 (by decide)
    have : w = .noSolution := by
      have h2 : solveOn (retract true) (Cfg.current 4 2) 2
          (runHistory (retract true) (Cfg.current 4 2) [] (St.fresh true)) = .value .noSolution := by decide +kernel
      rw [h2] at e1
      cases e1
      rfl
    exact e3.mp this
  rw [h1, h3.mpr hn]

end Chalk.FixedPoint.C12fp

#print axioms Chalk.FixedPoint.C12fp.panic_leaves_cache_correct
#print axioms Chalk.FixedPoint.C12fp.history_with_panics_correct
#print axioms Chalk.FixedPoint.C12fp.coinductive_usable_after_panics
#print axioms Chalk.FixedPoint.C12fp.inductive_usable_after_panics
#print axioms Chalk.FixedPoint.C12fp.retract_hyp
#print axioms Chalk.FixedPoint.C12fp.knot_hyp
