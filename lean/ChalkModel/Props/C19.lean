/-
  C19 — coherence checking is total and its accepted priorities are consistent.
  Property theorems only; the model is `ChalkModel/Coherence.lean` (it mirrors /repo AFTER the
  repair of finding F4), helper lemmas are in `Lemmas/CoherenceLemmas.lean`.

  Conventions: impls of one trait are numbered `0..n-1` in source order; `inp.oracle l r` holds the
  three solver answers for the pair `l < r`; `specializationPriorities inp` is the outcome of
  `CoherenceSolver::specialization_priorities` (`ok` with the priority map / `overlap` =
  `Err(OverlappingImpls)` / `panic`).  In the set-theoretic reading impl `i` applies exactly to the
  trait references in `S i` (any type `τ` of trait references, sets of any size).
-/
import ChalkModel.Lemmas.CoherenceLemmas

namespace Chalk.C19
open Chalk.Coherence

/-! ## Totality (full strength: every number of impls, every table of solver answers, every
    assignment of the marker / negative flags) -/

/-- The coherence check of a trait never panics. -/
theorem coherence_total (inp : Input) : specializationPriorities inp ≠ .panic :=
  specializationPriorities_ne_panic inp

/-- … it ends with acceptance or with the overlap error. -/
theorem coherence_total_cases (inp : Input) :
    (∃ pm, specializationPriorities inp = .ok pm) ∨ specializationPriorities inp = .overlap := by
  cases h : specializationPriorities inp with
  | ok pm => exact Or.inl ⟨pm, rfl⟩
  | overlap => exact Or.inr rfl
  | panic => exact absurd h (coherence_total inp)

/-- Finding F4, on the code before the repair: three impls that specialize one another in a chain
    (`impl<T> Foo for T`, `impl<T> Foo for Vec<T>`, `impl Foo for Vec<I32>`: every pair overlaps
    and the later impl is the more special one) trip `assert!(old_value.is_none())`. -/
theorem legacy_assert_trips_on_chain :
    Legacy.specializationPriorities
      (Input.ofTable 3 false [false, false, false]
        [⟨false, true, false⟩, ⟨false, true, false⟩, ⟨false, true, false⟩]) = .panic := by
  decide

/-- The same table on the repaired code: accepted, priorities 0, 1, 2. -/
theorem chain_accepted :
    specializationPriorities
      (Input.ofTable 3 false [false, false, false]
        [⟨false, true, false⟩, ⟨false, true, false⟩, ⟨false, true, false⟩])
      = .ok [(0, 0), (2, 2), (1, 1)] := by
  decide

/-- A table no set-theoretic oracle produces (cyclic "specializes" answers 0 → 1 → 2 → 3 → 1
    below the root 0): the depth test of `set_priorities` reports it as an overlap. -/
example :
    specializationPriorities
      (Input.ofTable 4 false []
        [⟨false, true, false⟩, ⟨true, false, false⟩, ⟨true, false, false⟩,
         ⟨false, true, false⟩, ⟨false, false, true⟩, ⟨false, true, false⟩]) = .overlap := by
  decide

/-! ## Consistency of accepted priorities under the set-theoretic oracle -/

/-- The property's sentence read literally, for every impl whatever its flags. -/
def PrioritiesConsistent {τ : Type} (S : Nat → τ → Prop) (inp : Input) (pm : PMap) : Prop :=
  (∀ i j, i < inp.n → j < inp.n → i ≠ j → ∀ p, pm.get? i = some p → pm.get? j = some p →
      ¬ Overlap (S i) (S j)) ∧
  (∀ i j, i < inp.n → j < inp.n → StrictSub (S j) (S i) →
      ∃ pi pj, pm.get? i = some pi ∧ pm.get? j = some pj ∧ pi < pj)

/-- What holds (and is what the code intends): for a trait that is not a marker trait, and for
    impls `i ≠ j` that are not both negative,
    * if they apply to a common trait reference, both have a priority and the two differ — so
      equal priorities (or no priority at all) imply disjoint sets;
    * if `j` applies to a non-empty strict subset of what `i` applies to, `j` has the strictly
      higher priority. -/
theorem priorities_consistent_partial {τ : Type} (S : Nat → τ → Prop) (inp : Input) (pm : PMap)
    (hS : SetOracle S inp) (hmarker : inp.marker = false)
    (h : specializationPriorities inp = .ok pm) :
    (∀ i j, i < inp.n → j < inp.n → i ≠ j →
        ¬ (inp.negative i = true ∧ inp.negative j = true) →
        pm.get? i = pm.get? j → ¬ Overlap (S i) (S j)) ∧
    (∀ i j, i < inp.n → j < inp.n →
        ¬ (inp.negative i = true ∧ inp.negative j = true) →
        StrictSub (S j) (S i) → (∃ x, S j x) →
        ∃ pi pj, pm.get? i = some pi ∧ pm.get? j = some pj ∧ pi < pj) := by
  refine ⟨?_, ?_⟩
  · intro i j hi hj hij hneg heq hov
    obtain ⟨pa, pb, ha, hb, hne, _⟩ := overlap_priorities S inp pm hS hmarker h i j hi hj hij hneg hov
    rw [ha, hb] at heq
    simp only [Option.some.injEq] at heq
    exact hne heq
  · intro i j hi hj hneg hsub ⟨x, hx⟩
    have hij : i ≠ j := by
      rintro rfl; exact StrictSub.irrefl _ hsub
    have hov : Overlap (S i) (S j) := ⟨x, hsub.1 x hx, hx⟩
    obtain ⟨pa, pb, ha, hb, _, hlt⟩ := overlap_priorities S inp pm hS hmarker h i j hi hj hij hneg hov
    exact ⟨pa, pb, ha, hb, hlt hsub⟩

/-- Same hypotheses, in the literal form "equal priority ⇒ no common trait reference". -/
theorem equal_priority_disjoint_partial {τ : Type} (S : Nat → τ → Prop) (inp : Input) (pm : PMap)
    (hS : SetOracle S inp) (hmarker : inp.marker = false)
    (h : specializationPriorities inp = .ok pm)
    (i j : Nat) (hi : i < inp.n) (hj : j < inp.n) (hij : i ≠ j)
    (hneg : ¬ (inp.negative i = true ∧ inp.negative j = true))
    (p : Nat) (hpi : pm.get? i = some p) (hpj : pm.get? j = some p) (x : τ) :
    ¬ (S i x ∧ S j x) := by
  intro hx
  exact (priorities_consistent_partial S inp pm hS hmarker h).1 i j hi hj hij hneg
    (hpi.trans hpj.symm) ⟨x, hx⟩

/-! ### The literal sentence is false of the code in four corner classes (all intended by the
    code: marker traits may overlap, two negative impls never conflict, an impl that applies to
    nothing is disjoint from everything).  Witnesses over `τ = Bool`. -/

/-- sets of trait references over `Bool` from a membership table -/
def setOf (tbl : Nat → Bool → Bool) : Nat → Bool → Prop := fun i x => tbl i x = true

/-- W1: `impl Foo for T` (positive, everything), two negative impls for the same single
    reference.  The negative pair is skipped, both get priority 1, and they overlap. -/
def w1 : Input := Input.ofTable 3 false [false, true, true]
  [⟨false, true, false⟩, ⟨false, true, false⟩, ⟨false, false, false⟩]
def w1S : Nat → Bool → Prop := setOf (fun i x => i == 0 || x)

/-- W2: marker trait, impl 1 inside impl 0: accepted with no priorities. -/
def w2 : Input := Input.ofTable 2 true [false, false] [⟨false, true, false⟩]
/-- W3: impl 1 applies to nothing (disjoint from impl 0, yet a strict subset of it). -/
def w3 : Input := Input.ofTable 2 false [false, false] [⟨true, true, false⟩]
def w3S : Nat → Bool → Prop := setOf (fun i x => i == 0 && x)
/-- W4: two negative impls, impl 1 inside impl 0: pair skipped, no priorities. -/
def w4 : Input := Input.ofTable 2 false [true, true] [⟨false, true, false⟩]

theorem setOracle2 (S : Nat → Bool → Prop) (inp : Input) (hn : inp.n = 2)
    (h0 : (inp.oracle 0 1).disjoint = true ↔ ¬ Overlap (S 0) (S 1))
    (h1 : (inp.oracle 0 1).specLR = true ↔ StrictSub (S 1) (S 0))
    (h2 : (inp.oracle 0 1).specRL = true ↔ StrictSub (S 0) (S 1)) : SetOracle S inp := by
  refine SetOracle.of_pairs fun l r hlr hr => ?_
  obtain ⟨rfl, rfl⟩ : l = 0 ∧ r = 1 := by omega
  exact ⟨h0, h1, h2⟩

theorem w1_setOracle : SetOracle w1S w1 := by
  refine SetOracle.of_pairs fun l r hlr (hr : r < 3) => ?_
  obtain ⟨rfl, rfl⟩ | ⟨rfl, rfl⟩ | ⟨rfl, rfl⟩ :
      (l = 0 ∧ r = 1) ∨ (l = 0 ∧ r = 2) ∨ (l = 1 ∧ r = 2) := by omega
  all_goals simp only [StrictSub, Overlap, w1S, setOf]; decide

theorem w2_setOracle : SetOracle w1S w2 := by
  apply setOracle2 _ _ rfl <;> simp only [StrictSub, Overlap, w1S, setOf] <;> decide

theorem w3_setOracle : SetOracle w3S w3 := by
  apply setOracle2 _ _ rfl <;> simp only [StrictSub, Overlap, w3S, setOf] <;> decide

theorem w4_setOracle : SetOracle w1S w4 := by
  apply setOracle2 _ _ rfl <;> simp only [StrictSub, Overlap, w1S, setOf] <;> decide

/-- Equal priorities, overlapping sets: two negative impls below a common positive one. -/
theorem equal_priority_overlap_negative_pair :
    specializationPriorities w1 = .ok [(0, 0), (2, 1), (1, 1)] ∧
    PMap.get? [(0, 0), (2, 1), (1, 1)] 1 = some 1 ∧ PMap.get? [(0, 0), (2, 1), (1, 1)] 2 = some 1 ∧
    Overlap (w1S 1) (w1S 2) := by
  refine ⟨by decide, by decide, by decide, ?_⟩
  simp only [Overlap, w1S, setOf]; decide

/-- Strict subset without a higher priority: marker trait. -/
theorem strict_subset_no_priority_marker :
    specializationPriorities w2 = .ok [] ∧ StrictSub (w1S 1) (w1S 0) := by
  refine ⟨by decide, ?_⟩
  simp only [StrictSub, w1S, setOf]; decide

/-- Strict subset without a higher priority: the smaller impl applies to nothing. -/
theorem strict_subset_no_priority_empty_impl :
    specializationPriorities w3 = .ok [] ∧ StrictSub (w3S 1) (w3S 0) := by
  refine ⟨by decide, ?_⟩
  simp only [StrictSub, w3S, setOf]; decide

/-- Strict subset without a higher priority: two negative impls. -/
theorem strict_subset_no_priority_negative_pair :
    specializationPriorities w4 = .ok [] ∧ StrictSub (w1S 1) (w1S 0) := by
  refine ⟨by decide, ?_⟩
  simp only [StrictSub, w1S, setOf]; decide

/-- Hence the literal statement, quantified over all flags, is refuted (both of its clauses). -/
theorem priorities_consistent_literal_false :
    ¬ (∀ (S : Nat → Bool → Prop) (inp : Input) (pm : PMap), SetOracle S inp →
        specializationPriorities inp = .ok pm → PrioritiesConsistent S inp pm) := by
  intro hall
  obtain ⟨hrun, h1, h2, hov⟩ := equal_priority_overlap_negative_pair
  exact (hall w1S w1 _ w1_setOracle hrun).1 1 2 (by decide) (by decide) (by decide) 1 h1 h2 hov

theorem priorities_consistent_literal_false_clause2 :
    ¬ (∀ (S : Nat → Bool → Prop) (inp : Input) (pm : PMap), SetOracle S inp → inp.marker = false →
        (∀ i, inp.negative i = false) →
        specializationPriorities inp = .ok pm → PrioritiesConsistent S inp pm) := by
  intro hall
  obtain ⟨hrun, hsub⟩ := strict_subset_no_priority_empty_impl
  obtain ⟨pi, pj, hi, _⟩ :=
    (hall w3S w3 _ w3_setOracle rfl (by intro i; rcases i with _ | _ | i <;> rfl) hrun).2
      0 1 (by decide) (by decide) hsub
  simp [PMap.get?] at hi

/-! ### Non-vacuity of the hypotheses of `priorities_consistent_partial` -/

/-- the chain `everything ⊋ {1, 2} ⊋ {2}` over `Fin 3` -/
def chainS : Nat → Fin 3 → Prop := fun i x => i ≤ x.val

def chain3 : Input := Input.ofTable 3 false [false, false, false]
  [⟨false, true, false⟩, ⟨false, true, false⟩, ⟨false, true, false⟩]

theorem chain3_setOracle : SetOracle chainS chain3 := by
  refine SetOracle.of_pairs fun l r hlr (hr : r < 3) => ?_
  obtain ⟨rfl, rfl⟩ | ⟨rfl, rfl⟩ | ⟨rfl, rfl⟩ :
      (l = 0 ∧ r = 1) ∨ (l = 0 ∧ r = 2) ∨ (l = 1 ∧ r = 2) := by omega
  all_goals simp only [StrictSub, Overlap, chainS]; decide

example : ∃ pm, specializationPriorities chain3 = .ok pm ∧ chain3.marker = false ∧
    SetOracle chainS chain3 ∧ StrictSub (chainS 2) (chainS 1) ∧ (∃ x, chainS 2 x) ∧
    pm.get? 0 = some 0 ∧ pm.get? 1 = some 1 ∧ pm.get? 2 = some 2 :=
  ⟨[(0, 0), (2, 2), (1, 1)], by decide, rfl, chain3_setOracle,
    by simp only [StrictSub, chainS]; decide, ⟨2, by simp [chainS]⟩, by decide, by decide, by decide⟩

/-- two identical impls: rejected -/
example : specializationPriorities (Input.ofTable 2 false [] [⟨false, false, false⟩]) = .overlap := by
  decide

end Chalk.C19

#print axioms Chalk.C19.coherence_total
#print axioms Chalk.C19.coherence_total_cases
#print axioms Chalk.C19.legacy_assert_trips_on_chain
#print axioms Chalk.C19.chain_accepted
#print axioms Chalk.C19.priorities_consistent_partial
#print axioms Chalk.C19.equal_priority_disjoint_partial
#print axioms Chalk.C19.setOracle2
#print axioms Chalk.C19.w1_setOracle
#print axioms Chalk.C19.w2_setOracle
#print axioms Chalk.C19.w3_setOracle
#print axioms Chalk.C19.w4_setOracle
#print axioms Chalk.C19.equal_priority_overlap_negative_pair
#print axioms Chalk.C19.strict_subset_no_priority_marker
#print axioms Chalk.C19.strict_subset_no_priority_empty_impl
#print axioms Chalk.C19.strict_subset_no_priority_negative_pair
#print axioms Chalk.C19.priorities_consistent_literal_false
#print axioms Chalk.C19.priorities_consistent_literal_false_clause2
#print axioms Chalk.C19.chain3_setOracle
