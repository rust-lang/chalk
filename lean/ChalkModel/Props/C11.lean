/-
  C11 — interrupted solving is a safe approximation (recursive solver side; SLG: differential).

  Model: `FixedPoint.lean`; the callback `should_continue` is an oracle (`Call.oracle`, then
  `Call.dflt` for ever) read at the head of every `solve_iteration`.  Every interruption schedule
  is an oracle: false on the k-th call only (`true^k false`, default `true`), from the k-th call on
  (default `false`), always (`[]`, default `false`), never.

  * `legacy_interrupt_then_fresh_refuted` (F3, code as found): the placeholder `Ambig` of the
    interrupted iteration was moved to the cache; every later solve of that goal returned it.
  * `legacy_unwrap_panics` (`recursive_unwrap_after_interrupt`, F25; code as found): with the cache disabled
    (or, after the F3 repair, always) a callback that says "stop" once and "go on" afterwards made the last pass of
    `Fulfill::solve` unwrap a `NoSolution`.
  * `interrupt_weaker_partial`, `interrupt_then_fresh_partial`: proved on the repaired code for
    every acyclic instance (`Ranked`), every history and every schedule: an interrupted call
    that returns gives the full answer or `ambig`; whatever was interrupted before (or panicked),
    a later uninterrupted solve gives the answer of a fresh solver.
  * `interrupt_then_fresh_refuted`: read literally for ALL instances the second sentence is still
    false of the repaired code — not through interruption but through the mixed-cycle finding
    (`recursive_mixed_cycle_cached`, F24; C10): the witness is that instance with an interrupted call in front.
  Instances WITH cycles, ground: `Props/C11fp.lean` (one polarity) and `Props/C11C12mixed.lean` (both
  polarities, no mixed cycle) prove both sentences for every oracle and every work budget.
  NOT YET THEOREMS (differential only): cyclic instances with unknowns.
-/
import ChalkModel.Lemmas.FixedPointLemmas

namespace Chalk.FixedPoint.C11

/-- `V<V<A>>: Foo`-like chain: 0 :- 1, 1 :- 2, 2. -/
def chain : Instance := Instance.ofTable [(false, true, [[1]]), (false, true, [[2]]), (false, true, [[]])]

/-- goal 0 = `exists<X> { X: Q }` with `impl<X> Q for X where X: Q` and the `FromEnv` clause whose
    sub-goal (goal 1) has no clause -/
def selfCycle : Instance := Instance.ofTable [(false, false, [[0], [1]]), (false, false, [])]

def f13 : Instance := Instance.ofTable [(false, true, [[1], []]), (true, true, [[0]])]

/-- F3: callback false at its second call, then a plain solve on the same instance -/
theorem legacy_interrupt_then_fresh_refuted :
    outcomes chain (Cfg.legacy 100 8) [{ goal := 0, oracle := [true, false] }, Call.plain 0] (St.fresh true)
      = [.value .ambig, .value .ambig] ∧
    solveOn chain (Cfg.legacy 100 8) 0 (St.fresh true) = .value .unique := by decide +kernel

/-- the same script on the repaired code -/
theorem interrupt_then_fresh_repaired :
    outcomes chain (Cfg.current 100 8) [{ goal := 0, oracle := [true, false] }, Call.plain 0] (St.fresh true)
      = [.value .ambig, .value .unique] := by decide +kernel

/-- the unwrap finding (F25): callback false at its second call only, cache disabled -/
theorem legacy_unwrap_panics :
    outcomes selfCycle (Cfg.legacy 100 8) [{ goal := 0, oracle := [true, false], dflt := true }] (St.fresh false)
      = [.panic .unwrapNoSolution] ∧
    outcomes selfCycle (Cfg.current 100 8) [{ goal := 0, oracle := [true, false], dflt := true }] (St.fresh false)
      = [.value .noSolution] ∧
    solveOn selfCycle (Cfg.current 100 8) 0 (St.fresh false) = .value .noSolution := by decide +kernel

/-- first sentence: a call interrupted by ANY schedule, after ANY history, returns the answer of
    a fresh solver or `ambig` (acyclic instances, repaired code) -/
theorem interrupt_weaker_partial (inst : Instance) (rank : Nat → Nat) (hrank : Ranked inst rank)
    (cfg : Cfg) (h3 : cfg.fixF3 = true) (h7 : cfg.fixF7 = true)
    (h : List Call) (caching caching' : Bool) (c : Call) (v w : V)
    (hv : (runCall inst cfg c (runHistory inst cfg h (St.fresh caching))).outcome = .value v)
    (hw : solveOn inst cfg c.goal (St.fresh caching') = .value w) :
    v = w ∨ v = .ambig := by
  have hsem := semOf_isSem inst rank hrank
  have e1 := (history_answer h3 h7 hsem hrank h caching c v hv).1
  have e2 := (history_answer h3 h7 hsem hrank [] caching' (Call.plain c.goal) w hw).2
    ⟨rfl, fun b hb => by cases hb⟩
  rw [e2]
  exact e1

/-- second sentence: after any history of interrupted (and panicking) calls an uninterrupted solve
    returns what a fresh solver returns (acyclic instances, repaired code) -/
theorem interrupt_then_fresh_partial (inst : Instance) (rank : Nat → Nat) (hrank : Ranked inst rank)
    (cfg : Cfg) (h3 : cfg.fixF3 = true) (h7 : cfg.fixF7 = true)
    (h : List Call) (caching caching' : Bool) (c : Call) (hc : c.Uninterrupted) (v w : V)
    (hv : (runCall inst cfg c (runHistory inst cfg h (St.fresh caching))).outcome = .value v)
    (hw : solveOn inst cfg c.goal (St.fresh caching') = .value w) :
    v = w := by
  have hsem := semOf_isSem inst rank hrank
  have e1 := (history_answer h3 h7 hsem hrank h caching c v hv).2 hc
  have e2 := (history_answer h3 h7 hsem hrank [] caching' (Call.plain c.goal) w hw).2
    ⟨rfl, fun b hb => by cases hb⟩
  rw [e1, e2]
  rfl

/-- the second sentence for all instances is false of the repaired code too, through the mixed cycle (F24) -/
theorem interrupt_then_fresh_refuted :
    outcomes f13 (Cfg.current 100 8) [{ goal := 0, dflt := false }, Call.plain 0, Call.plain 1] (St.fresh true)
      = [.value .ambig, .value .unique, .value .noSolution] ∧
    solveOn f13 (Cfg.current 100 8) 1 (St.fresh true) = .value .unique := by decide +kernel

/-! non-vacuity -/
example : Ranked chain (fun g => 3 - g) :=
  ranked_of_table [(false, true, [[1]]), (false, true, [[2]]), (false, true, [[]])] _ (by decide)
example : (⟨0, [true, true], true, none⟩ : Call).Uninterrupted :=
  ⟨rfl, fun b hb => by simp at hb; exact hb⟩

end Chalk.FixedPoint.C11

#print axioms Chalk.FixedPoint.C11.legacy_interrupt_then_fresh_refuted
#print axioms Chalk.FixedPoint.C11.interrupt_then_fresh_repaired
#print axioms Chalk.FixedPoint.C11.legacy_unwrap_panics
#print axioms Chalk.FixedPoint.C11.interrupt_weaker_partial
#print axioms Chalk.FixedPoint.C11.interrupt_then_fresh_partial
#print axioms Chalk.FixedPoint.C11.interrupt_then_fresh_refuted
