/-
  C18 — clause pre-filtering never discards an applicable clause.
  "Unifiable" is stated in the strongest syntactic form available without the unifier model: the
  two terms have a *common instance* under two arbitrary folders `F`, `G` — arbitrary replacement
  of free (bound) variables, inference variables and placeholders by anything, at arbitrary binder
  depths.  For such terms the pre-filter does not answer `false` (it answers `true`, or hits the
  variance-index panic of `zip_substs`, which the model makes explicit).  That a unifier of the
  unifier model yields such a common instance is NOT proved here.
-/
import ChalkModel.Lemmas.CouldMatchLemmas

namespace Chalk.C18

theorem couldMatch_of_unifiable_ty (db : UDb) (F G : Folder) (o1 o2 : Nat) (a b c : Ty)
    (h1 : foldTy F o1 a = .ok c) (h2 : foldTy G o2 b = .ok c) : cmTy db a b ≠ .ok false :=
  cmTy_common_instance db F G a o1 o2 b c h1 h2

/-- clause conclusion vs goal (`ProgramClause::could_match(goal)` is `consequence.could_match(goal)`) -/
theorem couldMatch_of_unifiable (db : UDb) (F G : Folder) (o1 o2 : Nat) (concl goal c : DomainGoal)
    (h1 : foldDomainGoal F o1 concl = .ok c) (h2 : foldDomainGoal G o2 goal = .ok c) :
    cmDomainGoal db concl goal ≠ .ok false :=
  cmDomainGoal_common_instance db F G o1 o2 concl goal c h1 h2

/-- impl header vs trait-reference argument list -/
theorem couldMatch_of_unifiable_args (db : UDb) (F G : Folder) (o1 o2 : Nat) (a b c : Args)
    (h1 : foldArgs F o1 a = .ok c) (h2 : foldArgs G o2 b = .ok c) : cmSlice db a b ≠ .ok false :=
  cmSlice_common_instance db F G o1 o2 a b c h1 h2

/-- `impls_for_trait` returns every impl of the trait whose header has a common instance with the
    argument list: whenever it returns at all, the index of each such impl is in the result. -/
theorem implsFor_superset (db : UDb) (traitId : Nat) (params : Args) (F G : Folder) (o1 o2 : Nat)
    (impls : List (Nat × Args)) (kept : List Nat)
    (hk : implsForTrait db traitId params impls 0 = .ok kept)
    (j : Nat) (hdr : Args) (hj : impls[j]? = some (traitId, hdr))
    (hc : ∃ c, foldArgs F o1 params = .ok c ∧ foldArgs G o2 hdr = .ok c) : j ∈ kept := by
  obtain ⟨c, hp, hh⟩ := hc
  have := implsForTrait_keeps db traitId params impls 0 kept hk j hdr hj
    (cmSlice_common_instance db F G o1 o2 _ _ _ hp hh)
  rwa [Nat.zero_add] at this

/-- Non-vacuity: `Vec<?0>` and `Vec<^0.0>` have the common instance `Vec<u32>` (so the theorem
    applies), and the filter does reject something (`Vec<..>` vs `Box<..>` with distinct ids). -/
example : ∃ F G c, foldTy F 0 (.app (.adt 1) (.cons (.ty (.infer 0 .general)) .nil)) = .ok c ∧
    foldTy G 0 (.app (.adt 1) (.cons (.ty (.bound 0 0)) .nil)) = .ok c :=
  ⟨{ inferTy := some fun _ _ _ => .ok (.scalar 23) }, { freeVarTy := some fun _ _ _ => .ok (.scalar 23) },
   .app (.adt 1) (.cons (.ty (.scalar 23)) .nil), by rfl, by rfl⟩
example : cmTy ⟨fun _ => [.co], fun _ => []⟩ (.app (.adt 1) (.cons (.ty .str) .nil))
    (.app (.adt 2) (.cons (.ty .str) .nil)) = .ok false := by rfl

end Chalk.C18

#print axioms Chalk.C18.couldMatch_of_unifiable_ty
#print axioms Chalk.C18.couldMatch_of_unifiable
#print axioms Chalk.C18.couldMatch_of_unifiable_args
#print axioms Chalk.C18.implsFor_superset
