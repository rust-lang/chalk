/-
  C09 (and C02) — "proof search stays within the solver's configured size limits": what the size
  limit MEASURES.  Theorems about the exact model (`Truncate.lean`) of
  `chalk_solve::solve::truncate::{needs_truncation, TySizeVisitor}`, tied to the Rust code by the
  `ty-size` / `args-size` / `tys-size` / `garg-size` / `wc-size` / `goal-size` lines of the C09
  correspondence (harness/src/ops/trunc.rs, inference table without bound variables).
-/
import ChalkModel.Lemmas.TruncateLemmas

namespace Chalk.C09trunc
open Chalk.Truncate

/-- The generalised invariant of `TySizeVisitor::visit_ty`, all types, all states (`size ≤ max_size`,
    which every reachable state satisfies, is assumed but not needed): visiting `t` adds the number
    of type nodes of `t` to `size`, records the new `size` in `max_size`, leaves `depth` alone - and
    resets `size` to 0 exactly when the visit returns to `depth = 0`. -/
theorem visitTy_invariant (t : Ty) (s d m : Nat) (hs : s ≤ m) :
    visitTy ⟨s, d, m⟩ t = ⟨if d = 0 then 0 else s + tyNodes t, d, max m (s + tyNodes t)⟩ :=
  visitTy_inv t s d m

/-- ... and it keeps `size ≤ max_size`. -/
theorem visitTy_size_le_max (t : Ty) (s d m : Nat) (hs : s ≤ m) :
    (visitTy ⟨s, d, m⟩ t).size ≤ (visitTy ⟨s, d, m⟩ t).maxSize := by
  rw [visitTy_invariant t s d m hs]
  show (if d = 0 then 0 else _) ≤ _
  split
  · exact Nat.zero_le _
  · exact Nat.le_max_right ..

/-- Inside a type (`depth > 0`) the sizes of the types of a substitution ADD UP. -/
theorem visitArgs_inside (a : Args) (s d m : Nat) (hs : s ≤ m) :
    visitArgs ⟨s, d + 1, m⟩ a = ⟨s + argsNodes a, d + 1, max m (s + argsNodes a)⟩ :=
  visitArgs_pos a s d m hs

/-- The stateful visitor run from `TySizeVisitor::new` on a value ends in
    `size = 0, depth = 0, max_size = maxTop v`: the size of the LARGEST top-level type of the value
    (for a type: the number of its type nodes). -/
theorem visit_eq_spec (v : Value) : visitValue St.init v = ⟨0, 0, maxTop v⟩ :=
  visitValue_init v

theorem maxSizeOf_eq_maxTop (v : Value) : maxSizeOf v = maxTop v := by
  rw [maxSizeOf, visit_eq_spec]

/-- `needs_truncation(.., max_size, value)` iff some top-level type of the value has more than
    `max_size` type nodes. -/
theorem needsTruncation_iff (max : Nat) (v : Value) :
    needsTruncation max v = true ↔ max < maxTop v := by
  rw [← Nat.not_le, ← needsTruncation_eq_false_iff, Bool.not_eq_false]

theorem needsTruncation_iff_exists (max : Nat) (v : Value) :
    needsTruncation max v = true ↔ ∃ t ∈ v.topTys, max < tyNodes t := by
  rw [needsTruncation_iff, maxTop]
  generalize v.topTys = ts
  induction ts with
  | nil => simp [maxNodes]
  | cons t ts ih =>
    simp only [maxNodes, List.mem_cons, exists_eq_or_imp, ← ih]
    omega

/-- Monotone in the limit: what fits under a limit fits under every larger one. -/
theorem needsTruncation_mono (max max' : Nat) (v : Value) (h : needsTruncation max v = false)
    (hle : max ≤ max') : needsTruncation max' v = false :=
  needsTruncation_eq_false_iff.mpr (Nat.le_trans (needsTruncation_eq_false_iff.mp h) hle)

/-- Closed under the arguments of a substitution: if a substitution does not need truncation, none
    of its type arguments does. -/
theorem needsTruncation_args_closed (max : Nat) (a : Args)
    (h : needsTruncation max (.args a) = false) (t : Ty) (ht : GArg.ty t ∈ a.toList) :
    needsTruncation max (.ty t) = false :=
  needsTruncation_eq_false_iff.mpr <| maxTop_ty t ▸
    Nat.le_trans (le_maxNodes (mem_argsTopTys.mpr ht)) (needsTruncation_eq_false_iff.mp h)

/-- A type argument of an application is strictly smaller than the application ... -/
theorem tyNodes_arg_lt (n : TyName) (args : Args) (t : Ty) (ht : GArg.ty t ∈ args.toList) :
    tyNodes t < tyNodes (.app n args) := by
  have := gargNodes_le_argsNodes ht
  simp only [gargNodes, tyNodes] at this ⊢; omega

/-- ... so a type that fits under the limit has only type arguments that fit. -/
theorem needsTruncation_subterm_closed (max : Nat) (n : TyName) (args : Args) (t : Ty)
    (ht : GArg.ty t ∈ args.toList) (h : needsTruncation max (.ty (.app n args)) = false) :
    needsTruncation max (.ty t) = false :=
  needsTruncation_eq_false_iff.mpr <| maxTop_ty t ▸
    Nat.le_trans (Nat.le_of_lt (tyNodes_arg_lt n args t ht))
      (maxTop_ty (.app n args) ▸ needsTruncation_eq_false_iff.mp h)

/-- every type has at least one node: with `max_size = 0` every type needs truncation -/
theorem tyNodes_pos (t : Ty) : 0 < tyNodes t := by
  cases t <;> simp only [tyNodes] <;> omega

theorem needsTruncation_zero (t : Ty) : needsTruncation 0 (.ty t) = true :=
  (needsTruncation_iff 0 (.ty t)).mpr (maxTop_ty t ▸ tyNodes_pos t)

/-- an ADT (tuple, fn-def, closure, ...) application: 1 + the sum over its type arguments;
    lifetime and constant arguments (including the constants' types) count 0 -/
@[simp] theorem tyNodes_app (n : TyName) (args : Args) :
    tyNodes (.app n args) = 1 + (args.toList.map gargNodes).sum := by
  rw [tyNodes, argsNodes_eq_sum]

@[simp] theorem gargNodes_ty (t : Ty) : gargNodes (.ty t) = tyNodes t := by rw [gargNodes]
@[simp] theorem gargNodes_lt (l : Lifetime) : gargNodes (.lt l) = 0 := by rw [gargNodes]
@[simp] theorem gargNodes_ct (c : Const) : gargNodes (.ct c) = 0 := by rw [gargNodes]

/-- QUIRK of the code, mirrored: the type of a constant is not reached by the traversal
    (`Const::super_visit_with` looks at `value` only), so an array's size ignores its length's type
    and a constant argument never needs truncation, whatever its type. -/
@[simp] theorem tyNodes_array (t cty : Ty) (v : ConstValue) :
    tyNodes (.array t (.mk cty v)) = 1 + tyNodes t := by rw [tyNodes]

theorem const_never_needs_truncation (max : Nat) (c : Const) :
    needsTruncation max (.garg (.ct c)) = false :=
  needsTruncation_eq_false_iff.mpr (Nat.zero_le max)

/-- The limit is per top-level type (maximum), never more than the sum. -/
theorem maxTop_args_le_sum (a : Args) : maxTop (.args a) ≤ argsNodes a :=
  maxNodes_argsTopTys_le a

/-- `Vec<Vec<Vec<Vec<T>>>>` of the tests `one_type` / `multiple_types` -/
def vec (t : Ty) : Ty := .app (.adt 0) (.cons (.ty t) .nil)
def ty0 : Ty := vec (vec (vec (vec (.placeholder 1 0))))
def ty1 : Ty := vec (vec (vec (.placeholder 1 0)))

/-- test `one_type`: `visitor.max_size == 5` -/
example : (visitValue St.init (.ty ty0)).maxSize = 5 := by decide
example : needsTruncation 4 (.ty ty0) = true ∧ needsTruncation 5 (.ty ty0) = false := by decide

/-- test `multiple_types`: `vec![&ty0, &ty1]` has `max_size == 5` (the maximum, NOT the sum 9),
    also as a substitution -/
example : (visitValue St.init (.tys [ty0, ty1])).maxSize = 5 := by decide
example : visitValue St.init (.args (.cons (.ty ty0) (.cons (.lt .static) (.cons (.ty ty1) .nil)))) = ⟨0, 0, 5⟩ := by
  decide
example : argsNodes (.cons (.ty ty0) (.cons (.ty ty1) .nil)) = 9 ∧
    maxTop (.args (.cons (.ty ty0) (.cons (.ty ty1) .nil))) = 5 := by decide

/-- nested: inside ONE type everything adds up - the types inside a `dyn` bound, a fn pointer, a
    reference, an alias; lifetimes and the constant (with its big type `ty0`) count 0 -/
def nested : Ty :=
  .app (.tuple 3) (.cons (.ty (.ref false .static (.slice (.scalar 1))))
    (.cons (.ty (.dyn [.ty .general] (.cons (.mk [] (.implemented 2 (.cons (.ty (.bound 0 0)) (.cons (.ty ty1) .nil))))
        (.cons (.mk [] (.aliasEqProj 1 (.cons (.ty (.bound 1 0)) .nil) (.infer 0 .general))) .nil)) .erased))
    (.cons (.ty (.function 1 0 (.cons (.ty (.array .str (.mk ty0 (.concrete 3)))) (.cons (.ty .never) .nil)))) .nil)))

example : visitValue St.init (.ty nested) = ⟨0, 0, 16⟩ ∧ tyNodes nested = 16 := by decide
example : needsTruncation 15 (.ty nested) = true ∧ needsTruncation 16 (.ty nested) = false := by decide
/-- the same three types as a top-level substitution: the largest one (the `dyn`, 8 nodes) decides -/
example : (match nested with | .app _ args => visitValue St.init (.args args) | _ => St.init) = ⟨0, 0, 8⟩ := by
  decide
/-- a goal: `Normalize(<T as Tr>::Assoc<ty1> -> ty0)`: top-level types `T`, `ty1`, `ty0` -/
example : maxSizeOf (.goal (.normalize (.proj 0 (.cons (.ty (.placeholder 0 0)) (.cons (.ty ty1) .nil))) ty0)) = 5 := by
  decide

end Chalk.C09trunc

#print axioms Chalk.C09trunc.visitTy_invariant
#print axioms Chalk.C09trunc.visitTy_size_le_max
#print axioms Chalk.C09trunc.visitArgs_inside
#print axioms Chalk.C09trunc.visit_eq_spec
#print axioms Chalk.C09trunc.maxSizeOf_eq_maxTop
#print axioms Chalk.C09trunc.needsTruncation_iff
#print axioms Chalk.C09trunc.needsTruncation_iff_exists
#print axioms Chalk.C09trunc.needsTruncation_mono
#print axioms Chalk.C09trunc.needsTruncation_args_closed
#print axioms Chalk.C09trunc.tyNodes_arg_lt
#print axioms Chalk.C09trunc.needsTruncation_subterm_closed
#print axioms Chalk.C09trunc.tyNodes_pos
#print axioms Chalk.C09trunc.needsTruncation_zero
#print axioms Chalk.C09trunc.tyNodes_app
#print axioms Chalk.C09trunc.gargNodes_ty
#print axioms Chalk.C09trunc.gargNodes_lt
#print axioms Chalk.C09trunc.gargNodes_ct
#print axioms Chalk.C09trunc.tyNodes_array
#print axioms Chalk.C09trunc.const_never_needs_truncation
#print axioms Chalk.C09trunc.maxTop_args_le_sum
