/-
  C22 — the program writer (`chalk-solve/src/display.rs` …) can be read back.
  Models: `ChalkModel/Display.lean` (the writer `print`, and `reparse` =
  what parsing + lowering does to a printed program) and `ChalkModel/Parse.lean` (`parseProgram`, a
  parser for the writer's token language); both are differentially validated against the Rust code.
  Helper lemmas: `Lemmas/Display*.lean`.

  Vocabulary (defined in the lemma files; all but `Faithful` decidable):
  * `Faithful p` (`Lemmas/DisplayDefs.lean`): the parser state `p : PSt` (writer state `p.st` +
    kinds `p.env` of the binders in scope) has `p.st.deep = p.env.length` and decodes every in-scope
    variable token the writer state produces back to the variable.
  * `WfTy p t` = `wfTy p.env t = true`: every bound variable of `t` refers to an existing binder
    of the right kind (type variables and `GArg.ty (.bound ..)`: `ty`, constants: `ct`, lifetimes:
    `lt`), binders being introduced as writer and parser introduce them (`fnPtr nb`:
    `List.replicate nb .lt`; `dyn`: `[.ty]`, then each bound's own `ks`); a `dyn` has at least
    one bound.  `WfWC`, `WfQWC` likewise for where-clauses (`Lemmas/DisplayWhere.lean`).
  * `WfProgram p` (`Lemmas/DisplayItems.lean`): every item is well-formed: a struct has exactly one
    field list, a trait's `kinds` start with `.ty` (`Self`), an associated type's `kinds` are the
    trait's followed by its own, a value's `kinds` are the impl's followed by its own, and all
    clauses / types / bounds are well-formed in the state they are printed in.  (Flags, `repr`
    and `lang` attributes round-trip unconditionally.)
  * `p ≈ q` (`Program.Equiv`, `Lemmas/DisplayEquiv.lean`): same items, where-clause lists and the
    bound lists of `dyn` types compared as sets.  `Lowered p`: every alias-eq where-clause is
    accompanied by its `Implemented` clause and every alias-eq bound of a `dyn` by its trait bound
    (what lowering always produces).  `NoAliasEq p`: no alias-eq clause / `dyn` bound at all.
-/
import ChalkModel.Lemmas.DisplayItems
import ChalkModel.Lemmas.DisplayEquiv

namespace Chalk.C22
open Chalk.Display Chalk.Display.Parse

/-! ## P1: types -/

/-- the initial state is faithful -/
theorem faithful_init : Faithful PSt.init := Faithful.init

/-- faithfulness is preserved by entering a binder (`add_debrujin_index(None)`) -/
theorem faithful_deeper {p : PSt} (h : Faithful p) (ks : List VK) : Faithful (p.deeper ks none) :=
  h.deeper ks

/-- the state of a trait (`Self` is binder 0 of the first level) -/
theorem faithful_trait (own : List VK) : Faithful (PSt.init.deeper (.ty :: own) (some 0)) :=
  Parse.faithful_trait own

/-- the state inside an associated type (value) of an item with binders `ks0`: the binder level
    `ks0 ++ own`, whose first `ks0.length` binders are written under the item's names -/
theorem faithful_mapped {p : PSt} (h : Faithful p) (hre : p.st.remap = []) {ks0 : List VK}
    {tl : List (List VK)} (henv : p.env = ks0 :: tl) (own : List VK) :
    Faithful (p.mapped ks0.length (ks0 ++ own)) :=
  h.mapped hre henv own

/-- Continuation form: in a faithful state the parser reads a printed well-formed type back and
    stops exactly behind it, whatever follows (provided it does not start with `<`, which never
    follows a type in the writer's output), with any fuel `≥ szTy t`. -/
theorem parseTy_printTy_cont {p : PSt} {t : Ty} {fuel : Nat} {rest : List Tok}
    (hp : Faithful p) (hwf : WfTy p t) (hfuel : szTy t ≤ fuel) (hrest : ∀ r, rest ≠ .kw "<" :: r) :
    parseTy fuel p (printTy p.st t ++ rest) = some (t, rest) :=
  parseTy_print hp hwf hfuel hrest

/-- the fuel `parseTyTop`/`parseProgram` supply is enough -/
theorem szTy_le_fuelFor (s : St) (t : Ty) : szTy t ≤ fuelFor (printTy s t) := by
  have := szTy_le t s
  simp only [fuelFor]; omega

/-- **Types round-trip.** -/
theorem parseTy_printTy (p : PSt) (t : Ty) (hp : Faithful p) (hwf : WfTy p t) :
    parseTyTop p (printTy p.st t) = some t :=
  parseTyTop_print hp hwf

/-- non-empty lists of bounds (of a `dyn`, of an associated type), continuation form: what follows
    may start with `+` only if a lifetime comes next -/
theorem parseBounds_printBounds {p : PSt} {bs : Bounds} {fuel : Nat} {rest : List Tok}
    (hp : Faithful p) (hne : bs ≠ .nil) (hwf : wfBounds p.env bs = true) (hfuel : szBounds bs ≤ fuel)
    (h1 : ∀ r, rest ≠ .kw "<" :: r) (h2 : ∀ r, rest = .kw "+" :: r → isLtStart r = true) :
    parseBounds fuel p (printBounds p.st bs ++ rest) = some (bs, rest) :=
  parseBounds_of_all bs (boundsOK bs) p fuel rest hp hne hwf hfuel h1 h2

/-! ## P2: where-clauses -/

theorem parseQWC_printQWC {p : PSt} {q : QWC} {fuel : Nat} {rest : List Tok}
    (hp : Faithful p) (hwf : WfQWC p q) (hfuel : 8 * (printQWC p.st q).length ≤ fuel)
    (hrest : ∀ r, rest ≠ .kw "<" :: r) :
    parseQWC fuel p (printQWC p.st q ++ rest) = some (q, rest) :=
  parseQWC_print hp hwf hfuel hrest

/-- the `where` part of an item; it is followed by `{` or `;` -/
theorem parseWhere_printWhere {p : PSt} {ws : List QWC} {fuel : Nat} {rest : List Tok}
    (hp : Faithful p) (hwf : ∀ q ∈ ws, WfQWC p q) (hfuel : 8 * (printWhere p.st ws).length + 1 ≤ fuel)
    (h0 : ∀ r, rest ≠ .kw "where" :: r) (h1 : ∀ r, rest ≠ .kw "<" :: r) (h2 : ∀ r, rest ≠ .kw "," :: r) :
    parseWhere fuel p (printWhere p.st ws ++ rest) = some (ws, rest) :=
  parseWhere_print hp (List.all_eq_true.2 hwf) hfuel h0 h1 h2

/-! ## P3: items and programs -/

theorem parseItem_printItem (it : Item) (hwf : WfItem it) (fuel : Nat)
    (hfuel : 8 * (printItem it).length + 16 ≤ fuel) (rest : List Tok) :
    parseItem fuel (printItem it ++ rest) = some (it, rest) :=
  parseItem_print it hwf fuel hfuel rest

/-- **Programs round-trip**: the parser inverts the writer. -/
theorem parse_print (p : Program) (hwf : WfProgram p) : parseProgram (print p) = some p :=
  parseProgram_print p hwf

/-! ## P4: the property's own sentences -/

/-- lowering again (`reparse`) changes a lowered program only up to `≈` -/
theorem reparse_equiv (p : Program) (h : Lowered p = true) : reparse p ≈ p :=
  Display.reparse_equiv p h

/-- **The round trip `print; parse; lower` preserves the program up to `≈`.** -/
theorem parse_print_equiv (p : Program) (hwf : WfProgram p) (hl : Lowered p = true) :
    ∃ p', parseProgram (print p) = some p' ∧ reparse p' ≈ p :=
  ⟨p, parse_print p hwf, reparse_equiv p hl⟩

/-- without alias-eq clauses and bounds the rendering is stable under the round trip -/
theorem print_stable_partial (p : Program) (h : NoAliasEq p = true) : print (reparse p) = print p :=
  Display.print_stable_partial p h

/-- … and so is the second rendering of the parsed program -/
theorem print_stable_partial_parsed (p : Program) (hwf : WfProgram p) (h : NoAliasEq p = true) :
    ∃ p', parseProgram (print p) = some p' ∧ print (reparse p') = print p :=
  ⟨p, parse_print p hwf, print_stable_partial p h⟩

/-- The unrestricted statement "the rendering is stable" is false of the model, as it is of the
    code: every round trip adds the implied bound once more.  Witness:
    `trait Baux { type Assoc; }  struct Foo<T> where T: Baux<Assoc = T>, T: Baux {}`. -/
theorem print_stable_refuted :
    WfProgram refuteW ∧ Lowered refuteW = true ∧ parseProgram (print refuteW) = some refuteW ∧
      print (reparse refuteW) ≠ print refuteW :=
  have hwf : WfProgram refuteW := by decide
  ⟨hwf, refuteW_lowered, parse_print refuteW hwf, Display.print_stable_refuted⟩

/-! ## Non-vacuity -/

/-- `exBig` (`Lemmas/DisplayEquiv.lean`): a struct with lifetime, type and const parameters,
    `&'a mut T`, `[T; N]`, `for<'x> fn(&'x u8, T) -> u8`, `dyn A + B + B<X = u8> + 'static`,
    `<T as Tr>::Assoc`; a trait with an associated type with a bound and a where-clause; an impl
    with a value. -/
example : WfProgram exBig := by decide
example : Lowered exBig = true := exBig_lowered
example : parseProgram (print exBig) = some exBig := parse_print exBig (by decide)
example : reparse exBig ≠ exBig := exBig_reparse_ne
example : reparse exBig ≈ exBig := reparse_equiv exBig exBig_lowered

/-- more syntax: attributes, an enum with an empty variant, the 1-tuple and unit, a marker trait,
    `forall<'a>` clauses, a generic associated type with own parameters and a quantified bound,
    an alias-eq where-clause with its implied clause, raw pointer / slice / `fn() -> !` / `str`,
    constant arguments, a `dyn` with quantified alias-eq bound, a negative impl, an impl with
    const parameter and generic associated type value -/
def exMore : Program :=
  [ .adt ⟨"E", true, true, false, false, true, false, some .u8, true, [.ty], [],
      [[.tuple (.cons (.bound 0 0) .nil), .tuple .nil], []]⟩,
    .trait ⟨"Sz", true, false, false, false, false, false, false, some "sized", [.ty], [], []⟩,
    .trait ⟨"Conv", false, true, false, false, true, true, true, none, [.ty, .ty], [], []⟩,
    .trait ⟨"Iter", false, false, false, false, false, false, false, none, [.ty, .ty],
      [⟨[.lt], .tyOutlives (.bound 1 1) (.bound 0 0)⟩],
      [⟨"Item", [.ty, .ty, .lt, .ty],
        [.trait [] "Sz" .nil, .trait [.lt] "Conv" (.cons (.ty (.ref false (.bound 0 0) (.bound 1 3))) .nil)],
        [⟨[], .implemented (.bound 1 3) "Sz" .nil⟩, ⟨[], .ltOutlives (.bound 1 2) .static⟩]⟩]⟩,
    .adt ⟨"W", false, false, true, true, false, true, none, false, [.ty, .ty],
      [⟨[], .aliasEq (.bound 1 0) "Iter" "Item" (.cons (.ty (.bound 1 1)) .nil)
          (.cons (.lt .static) (.cons (.ty (.bound 1 1)) .nil)) (.scalar .u8)⟩,
       ⟨[], .implemented (.bound 1 0) "Iter" (.cons (.ty (.bound 1 1)) .nil)⟩],
      [[.raw true (.slice (.bound 0 0)), .fnPtr 0 .nil .never, .ref false .erased .str]]⟩,
    .adt ⟨"Arr", false, false, false, false, false, false, none, false, [.ct], [],
      [[.array (.scalar .u8) (.bound 0 0), .adt "Arr" (.cons (.ct (.val 3)) .nil),
        .adt "Arr" (.cons (.ct (.bound 0 0)) .nil)]]⟩,
    .adt ⟨"D", false, false, false, false, false, false, none, false, [.lt], [],
      [[.dyn (.cons (.trait [.lt] "Iter" (.cons (.ty (.scalar .u8)) .nil))
          (.cons (.aliasEq [.lt] "Iter" "Item" (.cons (.ty (.scalar .u8)) .nil)
            (.cons (.lt (.bound 0 0)) (.cons (.ty (.bound 1 0)) .nil)) (.bound 1 0)) .nil)) (.bound 0 0)]]⟩,
    .impl ⟨false, [.ty], true, "Sz", .nil,
      .adt "W" (.cons (.ty (.bound 0 0)) (.cons (.ty (.bound 0 0)) .nil)), [], []⟩,
    .impl ⟨true, [.ty, .ct], false, "Iter", .cons (.ty (.bound 0 0)) .nil, .array (.bound 0 0) (.bound 0 1),
      [⟨[], .implemented (.bound 1 0) "Sz" .nil⟩],
      [⟨"Item", [.ty, .ct, .lt, .ty], .ref false (.bound 0 2) (.bound 0 3)⟩]⟩ ]

example : WfProgram exMore := by decide
example : Lowered exMore = true := by decide
set_option maxRecDepth 100000 in
example : parseProgram (print exMore) = some exMore := parse_print exMore (by decide)
set_option maxRecDepth 100000 in
example : print (reparse exMore) ≠ print exMore := by decide +kernel
example : ∃ p', parseProgram (print exMore) = some p' ∧ reparse p' ≈ exMore :=
  parse_print_equiv exMore (by decide) (by decide)

/-- a type in the scope `['a, T, const N]`, read back by `parseTyTop` -/
example : parseTyTop (PSt.init.deeper [.lt, .ty, .ct] none)
    (printTy (St.init.deeper none)
      (.fnPtr 1 (.cons (.ref true (.bound 0 0) (.array (.bound 1 1) (.bound 1 2))) .nil) (.tuple .nil)))
    = some (.fnPtr 1 (.cons (.ref true (.bound 0 0) (.array (.bound 1 1) (.bound 1 2))) .nil) (.tuple .nil)) :=
  parseTy_printTy _ _ (faithful_deeper faithful_init _) (by decide)

/-- well-formedness is not vacuous the other way: a dangling variable, a type variable used as a
    constant, and an empty `dyn` are rejected -/
example : ¬ WfTy (PSt.init.deeper [.ty] none) (.bound 0 1) := by decide
example : ¬ WfTy (PSt.init.deeper [.ty] none) (.array (.scalar .u8) (.bound 0 0)) := by decide
example : ¬ WfTy PSt.init (.dyn .nil .static) := by decide
/-- … and the parser indeed cannot read an empty `dyn` back -/
example : parseTyTop PSt.init (printTy St.init (.dyn .nil .static)) = none := by decide

end Chalk.C22

#print axioms Chalk.C22.faithful_init
#print axioms Chalk.C22.faithful_deeper
#print axioms Chalk.C22.faithful_trait
#print axioms Chalk.C22.faithful_mapped
#print axioms Chalk.C22.parseTy_printTy_cont
#print axioms Chalk.C22.szTy_le_fuelFor
#print axioms Chalk.C22.parseTy_printTy
#print axioms Chalk.C22.parseBounds_printBounds
#print axioms Chalk.C22.parseQWC_printQWC
#print axioms Chalk.C22.parseWhere_printWhere
#print axioms Chalk.C22.parseItem_printItem
#print axioms Chalk.C22.parse_print
#print axioms Chalk.C22.reparse_equiv
#print axioms Chalk.C22.parse_print_equiv
#print axioms Chalk.C22.print_stable_partial
#print axioms Chalk.C22.print_stable_partial_parsed
#print axioms Chalk.C22.print_stable_refuted
