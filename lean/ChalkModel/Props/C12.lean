/-
  C12 — a panic in a database callback leaves the solver usable (recursive solver side; SLG:
  differential — the crash-point enumeration found strands lost after a panic, see props.py).

  Model: `FixedPoint.lean`.  A panic that escapes from inside a solve leaves `stack` and
  `search_graph` exactly as they are (there is no unwinding cleanup in the Rust code); it is
  injected at a chosen work step (`Call.budget`: the hook ticks at every `solve_goal` entry and at
  the head of every iteration, i.e. between any two database callbacks that see different contexts).

  * `legacy_recursive_usable_after_panic_refuted` (F7, code as found): `solve_root_goal` asserted
    `stack.is_empty()`, so after a mid-solve panic every later solve panicked.
  * `legacy_panic_before_push_partial`: on the code as found the solver stayed usable exactly when
    the panic came before the first `stack.push` (first work step of the root call).
  * `root_ignores_leftovers` (repaired code, ALL instances): a root call does not see what a
    panic left on the stack and in the search graph; only the cache survives.
  * `usable_after_panic_partial` (repaired code, acyclic instances): after any history of calls
    that panicked at any work step (and interrupted calls) a solve returns what a fresh solver
    returns.
  * `usable_after_panic_refuted`: for ALL instances the statement is still false of the repaired
    code, through the mixed-cycle finding (`recursive_mixed_cycle_cached`, F24: what was cached BEFORE the
    panic is wrong), not through the panic.
  Instances WITH cycles, ground: `Props/C12fp.lean` (one polarity) and `Props/C11C12mixed.lean` (both
  polarities, no mixed cycle): a panic at any work step leaves a correct cache, later solves are exact.
  NOT YET THEOREMS (differential only): cyclic instances with unknowns.
-/
import ChalkModel.Lemmas.FixedPointLemmas

namespace Chalk.FixedPoint.C12

def chain : Instance := Instance.ofTable [(false, true, [[1]]), (false, true, [[2]]), (false, true, [[]])]
def f13 : Instance := Instance.ofTable [(false, true, [[1], []]), (true, true, [[0]])]

/-- F7: a panic at the third work step (inside `solve_iteration` of the root goal), then a solve -/
theorem legacy_recursive_usable_after_panic_refuted :
    outcomes chain (Cfg.legacy 100 8) [{ goal := 0, budget := some 3 }, Call.plain 0] (St.fresh true)
      = [.panic .budget, .panic .stackNotEmpty] ∧
    solveOn chain (Cfg.legacy 100 8) 0 (St.fresh true) = .value .unique := by decide +kernel

/-- the same script on the repaired code -/
theorem usable_after_panic_repaired :
    outcomes chain (Cfg.current 100 8) [{ goal := 0, budget := some 3 }, Call.plain 0] (St.fresh true)
      = [.panic .budget, .value .unique] := by decide +kernel

/-- code as found: a panic at the first work step of a root call (before the first `push`: the
    database calls of `is_coinductive_goal` / `initial_value` of the root goal) leaves stack,
    search graph and cache as they were -/
theorem legacy_panic_before_push_partial (inst : Instance) (cfg : Cfg) (g : Nat) (o : List Bool)
    (d : Bool) (s : St) (hs : s.stack = []) (h7 : cfg.fixF7 = false) :
    (runCall inst cfg ⟨g, o, d, some 0⟩ s).outcome = .panic .budget ∧
    (runCall inst cfg ⟨g, o, d, some 0⟩ s).state.stack = [] ∧
    (runCall inst cfg ⟨g, o, d, some 0⟩ s).state.graph = s.graph ∧
    (runCall inst cfg ⟨g, o, d, some 0⟩ s).state.cache = s.cache := by
  simp only [runCall, solveRootGoal, h7, hs, solveGoal, tick]
  cases cfg.fixF3 <;> simp [Res.outcome, Res.state]

/-- repaired code, every instance: a root call starts from an empty stack and search graph,
    whatever an earlier panic left there -/
theorem root_ignores_leftovers (inst : Instance) (cfg : Cfg) (h7 : cfg.fixF7 = true) (g : Nat) (s : St) :
    solveRootGoal inst cfg g s = solveRootGoal inst cfg g { s with stack := [], graph := [] } := by
  simp [solveRootGoal, h7]

/-- repaired code, acyclic instances: after any history (calls that panicked at any work step,
    interrupted calls, plain calls) a solve that returns gives the answer of a fresh solver -/
theorem usable_after_panic_partial (inst : Instance) (rank : Nat → Nat) (hrank : Ranked inst rank)
    (cfg : Cfg) (h3 : cfg.fixF3 = true) (h7 : cfg.fixF7 = true)
    (h : List Call) (caching caching' : Bool) (g : Nat) (v w : V)
    (hv : solveOn inst cfg g (runHistory inst cfg h (St.fresh caching)) = .value v)
    (hw : solveOn inst cfg g (St.fresh caching') = .value w) :
    v = w := by
  have hsem := semOf_isSem inst rank hrank
  have hu : (Call.plain g).Uninterrupted := ⟨rfl, fun b hb => by cases hb⟩
  have e1 := (history_answer h3 h7 hsem hrank h caching (Call.plain g) v hv).2 hu
  have e2 := (history_answer h3 h7 hsem hrank [] caching' (Call.plain g) w hw).2 hu
  rw [e1, e2]

/-- a panic never corrupts the cache (acyclic instances): every entry is the semantic value -/
theorem cache_sound_after_panics (inst : Instance) (rank : Nat → Nat) (hrank : Ranked inst rank)
    (cfg : Cfg) (h3 : cfg.fixF3 = true) (h7 : cfg.fixF7 = true) (h : List Call) (caching : Bool) :
    CacheSound (semOf inst rank) (runHistory inst cfg h (St.fresh caching)) :=
  runHistory_sound h3 h7 (semOf_isSem inst rank hrank) hrank h _ (fresh_sound _ caching)

/-- for all instances the statement is false of the repaired code too, through the mixed cycle (F24) -/
theorem usable_after_panic_refuted :
    outcomes f13 (Cfg.current 100 8) [{ goal := 0, budget := some 2 }, Call.plain 0, Call.plain 1] (St.fresh true)
      = [.panic .budget, .value .unique, .value .noSolution] ∧
    solveOn f13 (Cfg.current 100 8) 1 (St.fresh true) = .value .unique := by decide +kernel

/-! non-vacuity -/
example : Ranked chain (fun g => 3 - g) :=
  ranked_of_table [(false, true, [[1]]), (false, true, [[2]]), (false, true, [[]])] _ (by decide)
example : outcomes chain (Cfg.current 100 8)
    [{ goal := 0, budget := some 4 }, { goal := 1, budget := some 1 }, Call.plain 0] (St.fresh true)
    = [.panic .budget, .panic .budget, .value .unique] := by decide +kernel
example : (St.fresh true).stack = [] ∧ (Cfg.legacy 100 8).fixF7 = false := ⟨rfl, rfl⟩

end Chalk.FixedPoint.C12

#print axioms Chalk.FixedPoint.C12.legacy_recursive_usable_after_panic_refuted
#print axioms Chalk.FixedPoint.C12.usable_after_panic_repaired
#print axioms Chalk.FixedPoint.C12.legacy_panic_before_push_partial
#print axioms Chalk.FixedPoint.C12.root_ignores_leftovers
#print axioms Chalk.FixedPoint.C12.usable_after_panic_partial
#print axioms Chalk.FixedPoint.C12.cache_sound_after_panics
#print axioms Chalk.FixedPoint.C12.usable_after_panic_refuted
