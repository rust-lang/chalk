/-
  C10fp — C10 ("answers do not depend on what the same solver solved before", "the recursive solver
  gives the same answers with its cache enabled or disabled") for CYCLIC ground instances of one
  polarity (`Props/C10.lean` has the acyclic case).

  Model: `FixedPoint.lean`.  Proofs: `Lemmas/FixedPointSem*.lean` (see `Props/C05fp.lean`:
  every answer of a plain call — cache on or off, after any history of plain calls — is the
  greatest- resp. least-fixed-point answer; two correct answers are equal).

  Class of instances (`Cyc.Hyp c inst dom`): `dom` finite and closed under `deps`, every goal of
  `dom` ground and of polarity `c` (all coinductive or all inductive); any cyclic structure.
  Configuration: F3 and F7 repairs, `dom.length ≤ overflowDepth`, `2 ≤ rounds`.  Histories: plain
  `Solver::solve` calls on goals of `dom`.

    `answer_is_fixed_point_cyclic` — a plain call after any history, cache on or off, returns
        (no panic) the fixed-point answer `Corr c inst g`;
    `history_independent_cyclic` — any two histories, each with the cache on or off: same answer;
    `cache_on_off_agree_cyclic` — the named special cases: after `gs` with cache = fresh with
        cache = fresh without cache = after `gs` without cache.
  Both polarities without a mixed cycle: `C05mixed.mixed_answers_agree`.  With a mixed cycle the statement
  is false (`C10.cache_transparent_refuted`, finding `recursive_mixed_cycle_cached`, F24).
-/
import ChalkModel.Lemmas.FixedPointSemN

namespace Chalk.FixedPoint.C10fp
open Chalk.FixedPoint.Cyc

/-- a plain call after any history of plain calls, caching enabled (`b = true`) or disabled,
    returns the fixed-point answer -/
theorem answer_is_fixed_point_cyclic (c : Bool) (inst : Instance) (dom : List Nat) (hyp : Hyp c inst dom)
    (cfg : Cfg) (h3 : cfg.fixF3 = true) (h7 : cfg.fixF7 = true) (hov : dom.length ≤ cfg.overflowDepth)
    (hr : 2 ≤ cfg.rounds) (b : Bool) (gs : List Nat) (hd : ∀ g, g ∈ gs → g ∈ dom) (g : Nat) (hg : g ∈ dom) :
    ∃ v, solveOn inst cfg g (runHistory inst cfg (gs.map Call.plain) (St.fresh b)) = .value v ∧
      Corr c inst g v :=
  history_correct hyp h3 h7 hov hr b gs hd g hg

/-- answers do not depend on the history, nor on whether the cache is enabled -/
theorem history_independent_cyclic (c : Bool) (inst : Instance) (dom : List Nat) (hyp : Hyp c inst dom)
    (cfg : Cfg) (h3 : cfg.fixF3 = true) (h7 : cfg.fixF7 = true) (hov : dom.length ≤ cfg.overflowDepth)
    (hr : 2 ≤ cfg.rounds) (b b' : Bool) (gs gs' : List Nat) (hd : ∀ g, g ∈ gs → g ∈ dom)
    (hd' : ∀ g, g ∈ gs' → g ∈ dom) (g : Nat) (hg : g ∈ dom) :
    solveOn inst cfg g (runHistory inst cfg (gs.map Call.plain) (St.fresh b)) =
      solveOn inst cfg g (runHistory inst cfg (gs'.map Call.plain) (St.fresh b')) := by
  obtain ⟨v, h1, c1⟩ := answer_is_fixed_point_cyclic c inst dom hyp cfg h3 h7 hov hr b gs hd g hg
  obtain ⟨w, h2, c2⟩ := answer_is_fixed_point_cyclic c inst dom hyp cfg h3 h7 hov hr b' gs' hd' g hg
  rw [h1, h2, c1.unique c2]

/-- cache on = cache off, after a history = fresh -/
theorem cache_on_off_agree_cyclic (c : Bool) (inst : Instance) (dom : List Nat) (hyp : Hyp c inst dom)
    (cfg : Cfg) (h3 : cfg.fixF3 = true) (h7 : cfg.fixF7 = true) (hov : dom.length ≤ cfg.overflowDepth)
    (hr : 2 ≤ cfg.rounds) (gs : List Nat) (hd : ∀ g, g ∈ gs → g ∈ dom) (g : Nat) (hg : g ∈ dom) :
    solveOn inst cfg g (runHistory inst cfg (gs.map Call.plain) (St.fresh true)) =
      solveOn inst cfg g (St.fresh true) ∧
    solveOn inst cfg g (St.fresh true) = solveOn inst cfg g (St.fresh false) ∧
    solveOn inst cfg g (St.fresh false) =
      solveOn inst cfg g (runHistory inst cfg (gs.map Call.plain) (St.fresh false)) :=
  ⟨history_independent_cyclic c inst dom hyp cfg h3 h7 hov hr true true gs [] hd (by simp) g hg,
   history_independent_cyclic c inst dom hyp cfg h3 h7 hov hr true false [] [] (by simp) (by simp) g hg,
   history_independent_cyclic c inst dom hyp cfg h3 h7 hov hr false false [] gs (by simp) hd g hg⟩

/-! ### non-vacuity -/

/-- `0 :- 3, 2, 1.  1 :- 0.  2 :- 1.` (`3` has no clause): two cycles sharing the edge `1 → 0` -/
def retract (co : Bool) : Instance :=
  Instance.ofTable [(co, true, [[3, 2, 1]]), (co, true, [[0]]), (co, true, [[1]]), (co, true, [])]

/-- `0 :- 1.  1 :- 2 | 0.  2 :- 0, 1.`: three interlocking cycles -/
def knot (co : Bool) : Instance :=
  Instance.ofTable [(co, true, [[1]]), (co, true, [[2], [0]]), (co, true, [[0, 1]])]

theorem retract_hyp (co : Bool) : Hyp co (retract co) [0, 1, 2, 3] := by
  cases co <;> exact ⟨by decide, by decide, by decide⟩

theorem knot_hyp (co : Bool) : Hyp co (knot co) [0, 1, 2] := by
  cases co <;> exact ⟨by decide, by decide, by decide⟩

example : (Cfg.current 4 2).fixF3 = true ∧ (Cfg.current 4 2).fixF7 = true ∧
    [0, 1, 2, 3].length ≤ (Cfg.current 4 2).overflowDepth ∧ 2 ≤ (Cfg.current 4 2).rounds := by decide +kernel

/-- the history matters for what is in the cache (so the statement is not about equal states) … -/
example : cacheDump (runHistory (retract true) (Cfg.current 4 2) [Call.plain 0] (St.fresh true)) =
      [(0, .noSolution), (1, .noSolution), (3, .noSolution)] ∧
    cacheDump (runHistory (retract true) (Cfg.current 4 2) [Call.plain 2] (St.fresh true)) =
      [(0, .noSolution), (1, .noSolution), (2, .noSolution), (3, .noSolution)] := by decide +kernel

/-- … and the answers agree, as computed … -/
example :
    solveOn (retract true) (Cfg.current 4 2) 2
        (runHistory (retract true) (Cfg.current 4 2) [Call.plain 0] (St.fresh true)) = .value .noSolution ∧
    solveOn (retract true) (Cfg.current 4 2) 2 (St.fresh true) = .value .noSolution ∧
    solveOn (retract true) (Cfg.current 4 2) 2 (St.fresh false) = .value .noSolution ∧
    solveOn (retract true) (Cfg.current 4 2) 2
        (runHistory (retract true) (Cfg.current 4 2) [Call.plain 0] (St.fresh false)) = .value .noSolution := by
  decide +kernel

/-- … and as the theorem says (instantiated) -/
example :
    solveOn (knot true) (Cfg.current 3 2) 0
        (runHistory (knot true) (Cfg.current 3 2) ([2, 1].map Call.plain) (St.fresh true)) =
      solveOn (knot true) (Cfg.current 3 2) 0 (St.fresh false) :=
  history_independent_cyclic true (knot true) [0, 1, 2] (knot_hyp true) (Cfg.current 3 2) rfl rfl
    (by decide) (by decide) true false [2, 1] [] (by decide) (by decide) 0 (by decide)

example : solveOn (knot true) (Cfg.current 3 2) 0 (St.fresh false) = .value .unique := by decide +kernel
example : solveOn (knot false) (Cfg.current 3 2) 0 (St.fresh false) = .value .noSolution := by decide +kernel

end Chalk.FixedPoint.C10fp

#print axioms Chalk.FixedPoint.C10fp.answer_is_fixed_point_cyclic
#print axioms Chalk.FixedPoint.C10fp.history_independent_cyclic
#print axioms Chalk.FixedPoint.C10fp.cache_on_off_agree_cyclic
#print axioms Chalk.FixedPoint.C10fp.retract_hyp
#print axioms Chalk.FixedPoint.C10fp.knot_hyp
