/-
  C29 — subtyping follows declared variance.

  Model: `relate` (`ChalkModel/Unify.lean`), `Variance.xform/invert` (`ChalkModel/Variance.lean`).
  Specification (`Lemmas/UnifyDefs.lean`, written from the variance rules, not from the unifier):
  `Ty.eraseLt` (the structure of a type = the type with every lifetime erased) and
  `subConstraints db v a b` (the outlives constraints dictated by the variance of every lifetime
  position: covariant position ⇒ `b: a`, contravariant ⇒ `a: b`, invariant ⇒ both; `&'a T`
  contravariant in `'a` — chalk's orientation of lifetimes, under which `&'a T <: &'b T` demands
  `'a: 'b` —, `&mut T` / `*mut T` invariant in `T`, fn pointers contravariant in parameters and
  covariant in the result, ADT / fn-def parameters by declared variance composed with `xform`).

  Fragment of the `relate_*` theorems (`Ty.rigid`): no inference variables of any sort (type,
  const, lifetime), no bound variables, no aliases, no `dyn`, no error type; function pointers
  without binders; every lifetime is `'static`, a placeholder, erased or the error lifetime.
  Lifetime *variables* are excluded on purpose: the unifier may bind or unify them instead of
  returning obligations (`unify_lifetime_var`), and for two lifetime variables under a
  covariant / contravariant relation it does so although the variance only dictates one outlives
  obligation (known finding F16, reproduced by the harness). Types respect an arity table
  (`arityOk`): `zip_substs` does not compare the lengths of argument lists.
  Goal lists are compared as lists (same order, same multiplicity).
-/
import ChalkModel.Lemmas.UnifyRigidSymm
import ChalkModel.Lemmas.UnifyRigidLt

namespace Chalk.C29

/-! ## the algebra of `Variance` -/

theorem xform_assoc (a b c : Variance) : (a.xform b).xform c = a.xform (b.xform c) := by
  cases a <;> cases b <;> cases c <;> rfl
theorem xform_comm (a b : Variance) : a.xform b = b.xform a := by cases a <;> cases b <;> rfl
theorem xform_invert (a b : Variance) : (a.xform b).invert = a.invert.xform b :=
  Variance.xform_invert a b
theorem xform_co (a : Variance) : a.xform .co = a ∧ Variance.co.xform a = a := by cases a <;> exact ⟨rfl, rfl⟩
theorem xform_inv (a : Variance) : a.xform .inv = .inv ∧ Variance.inv.xform a = .inv := by
  cases a <;> exact ⟨rfl, rfl⟩
theorem invert_invert (a : Variance) : a.invert.invert = a := Variance.invert_invert a
theorem invert_eq_xform_contra (a : Variance) : a.invert = a.xform .contra := by cases a <;> rfl

/-! ## structure -/

/-- On the rigid fragment `relate` succeeds exactly when the two types have the same structure
    (are equal once lifetimes are erased) — whatever the variance, the table and the fuel (at
    least the depth of the left type) —, it then leaves the table as it was, and otherwise it
    answers `NoSolution` (never a panic). -/
theorem relate_variance_struct (db : UDb) (ar : TyName → Nat) (hdb : db.arityOk ar) (jf fuel : Nat)
    (t : Table) (v : Variance) (a b : Ty)
    (ha : a.rigid = true) (hb : b.rigid = true) (haa : a.arityOk ar = true) (hab : b.arityOk ar = true)
    (hd : a.depth ≤ fuel) :
    ((∃ gs, relate db jf fuel t v a b = (t, .ok gs)) ↔ a.eraseLt = b.eraseLt) ∧
    (a.eraseLt ≠ b.eraseLt → relate db jf fuel t v a b = (t, .noSolution)) :=
  relate_rigid_struct db ar hdb jf fuel t v a b ha hb haa hab hd

/-- The same with LIFETIME inference variables allowed (`Ty.rigidT`: no type / const inference
    variables, no aliases, no binders): on every well-formed table in which the lifetime variables of
    the two types are unbound or bound to rigid lifetimes, `relate` succeeds exactly when the
    structures agree, and otherwise answers `NoSolution` with the table untouched. (What it returns
    on success is then goals AND bindings of lifetime variables; see the note on F16 above.) -/
theorem relate_variance_struct_ltvars (db : UDb) (ar : TyName → Nat) (hdb : db.arityOk ar) (jf fuel : Nat)
    (t : Table) (v : Variance) (a b : Ty) (hwf : t.WF)
    (har : a.rigidT = true) (hbr : b.rigidT = true)
    (hSa : ∀ x ∈ a.ltVars, LtVarOk t x) (hSb : ∀ x ∈ b.ltVars, LtVarOk t x)
    (haa : a.arityOk ar = true) (hab : b.arityOk ar = true) (hd : a.depth ≤ fuel) :
    (Succeeds (relate db jf fuel t v a b) ↔ a.eraseLt = b.eraseLt) ∧
    (a.eraseLt ≠ b.eraseLt → relate db jf fuel t v a b = (t, .noSolution)) :=
  relate_rigidT db ar hdb jf fuel (fun x => LtVarOk t x) t v a b hwf (fun _ h => h) har hbr hSa hSb haa hab hd

/-! ## constraints -/

/-- On the rigid fragment the goals `relate` returns are exactly (as a list) the outlives
    constraints dictated by variance. -/
theorem relate_variance_constraints (db : UDb) (ar : TyName → Nat) (hdb : db.arityOk ar) (jf fuel : Nat)
    (t : Table) (v : Variance) (a b : Ty)
    (ha : a.rigid = true) (hb : b.rigid = true) (haa : a.arityOk ar = true) (hab : b.arityOk ar = true)
    (hd : a.depth ≤ fuel) (he : a.eraseLt = b.eraseLt) :
    relate db jf fuel t v a b = (t, .ok (outlivesGoals (subConstraints db v a b))) :=
  relate_rigid db ar hdb jf fuel t v a b ha hb haa hab hd he

/-- Swapping the two types and inverting the variance dictates the same constraints, up to order. -/
theorem subConstraints_swap (db : UDb) (v : Variance) (a b : Ty) (h : a.eraseLt = b.eraseLt) :
    (subConstraints db v.invert b a).Perm (subConstraints db v a b) :=
  Chalk.subConstraints_swap db v a b h

/-- Equal types impose nothing. -/
theorem subConstraints_self (db : UDb) (v : Variance) (a : Ty) : subConstraints db v a a = [] :=
  subConstraints_refl db v a

/-! ## non-vacuity -/

/-! `Foo<'a, T>` declared (covariant, invariant); `&'static Foo<'!0, &'static u32>` related to
  `&'!1 Foo<'!2, &'erased u32>` covariantly: rigid, arities respected, same structure, and the
  constraints are `'static: '!1` (reference), `'!2: '!0` (covariant parameter in chalk's
  orientation) and both directions for the lifetime below the invariant parameter. -/

def exDb : UDb := { adtVariance := fun _ => [.co, .inv], fnDefVariance := fun _ => [] }
def exAr : TyName → Nat
  | .adt _ => 2
  | .tuple n => n
  | _ => 0
def exA : Ty := .ref false .static (.app (.adt 0) (.cons (.lt (.placeholder 0 0))
  (.cons (.ty (.ref false .static (.scalar 23))) .nil)))
def exB : Ty := .ref false (.placeholder 1 0) (.app (.adt 0) (.cons (.lt (.placeholder 2 0))
  (.cons (.ty (.ref false .erased (.scalar 23))) .nil)))

example : exDb.arityOk exAr := by
  intro n vs h
  cases n <;> simp [declaredVariances, exDb] at h <;> subst h <;> simp [exAr]
example : exA.rigid = true ∧ exB.rigid = true ∧ exA.arityOk exAr = true ∧ exB.arityOk exAr = true ∧
    exA.eraseLt = exB.eraseLt ∧ exA.depth = 4 := by decide
example : subConstraints exDb .co exA exB =
    [(.static, .placeholder 1 0), (.placeholder 2 0, .placeholder 0 0), (.static, .erased), (.erased, .static)] := by
  decide
example : relate exDb 0 4 Table.new .co exA exB = (Table.new, .ok (outlivesGoals (subConstraints exDb .co exA exB))) := by
  decide

end Chalk.C29

#print axioms Chalk.C29.xform_assoc
#print axioms Chalk.C29.xform_comm
#print axioms Chalk.C29.xform_invert
#print axioms Chalk.C29.xform_co
#print axioms Chalk.C29.xform_inv
#print axioms Chalk.C29.invert_invert
#print axioms Chalk.C29.invert_eq_xform_contra
#print axioms Chalk.C29.relate_variance_struct
#print axioms Chalk.C29.relate_variance_struct_ltvars
#print axioms Chalk.C29.relate_variance_constraints
#print axioms Chalk.C29.subConstraints_swap
#print axioms Chalk.C29.subConstraints_self
