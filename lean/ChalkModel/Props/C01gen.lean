/-
  C01, generalisation ("theorem on constants").  `Props/C01.lean` certifies an accepted `Unique σ`
  for the GENERIC instantiation of `σ`'s own variables (variable `i` ↦ the opaque constant `!g<i>`).
  The property says "for EVERY instantiation".  Here: opaque constants that occur nowhere in the
  program, the goal and the answer may be replaced by arbitrary terms, for positive goals (no `not`),
  hence the generic instance implies every instance; for goals with negation this is false
  (`generalisation_fails_with_negation`).  Helpers: `Lemmas/GenericLemmas.lean`.
-/
import ChalkModel.Lemmas.GenericLemmas
import ChalkModel.Props.C01
import Std.Data.String.ToNat

namespace Chalk.C01gen
open Chalk.Sem

/-! ### any injective naming of fresh constants -/

/-- variable `i` ↦ the constant `name i` -/
def genericSubstN (name : Nat → String) : Nat → Tm := fun i => .app (name i) .nil

/-- the symbol `c` is one of the names -/
def IsName (name : Nat → String) (c : String) : Prop := ∃ j, name j = c

open Classical in
/-- the replacement `name j ↦ τ j` (a proof device, not executable) -/
noncomputable def nameRepl (name : Nat → String) (τ : Nat → Tm) : String → Option Tm :=
  fun c => if h : ∃ j, name j = c then some (τ (Classical.choose h)) else none

theorem nameRepl_none (name : Nat → String) (τ : Nat → Tm) (c : String) (h : ¬ IsName name c) :
    nameRepl name τ c = none := by
  unfold nameRepl
  exact dif_neg h

theorem nameRepl_name (name : Nat → String) (hinj : ∀ i j, name i = name j → i = j) (τ : Nat → Tm) (j : Nat) :
    nameRepl name τ (name j) = some (τ j) := by
  have h : ∃ i, name i = name j := ⟨j, rfl⟩
  unfold nameRepl
  rw [dif_pos h, hinj _ _ (Classical.choose_spec h)]

/-- The theorem on constants for goals with an answer substitution, for ANY injective naming of
    fresh constants: if the positive goal instantiated by `σ`, with `σ`'s own variables replaced by
    the fresh constants, holds, then it holds with `σ`'s variables replaced by arbitrary terms. -/
theorem generic_instance_generalises_named (name : Nat → String) (hinj : ∀ i j, name i = name j → i = j)
    (P : Program) (g : Goal) (σ : List Tm) (τ : Nat → Tm)
    (hP : P.Avoids (IsName name)) (hg : g.Avoids (IsName name)) (hpos : g.Positive)
    (hσ : ∀ t ∈ σ, t.Avoids (IsName name))
    (h : GHolds P [] (g.inst (fun i => (σ.getD i (.var i)).inst (genericSubstN name)))) :
    GHolds P [] (g.inst (fun i => (σ.getD i (.var i)).inst τ)) := by
  have hρ := nameRepl_none name τ
  have h2 := GHolds.repl hρ hP _ (Goal.positive_inst _ g hpos) [] h
  rw [Goal.repl_inst hρ _ g hg] at h2
  have hfun : (fun i => ((σ.getD i (.var i)).inst (genericSubstN name)).repl (nameRepl name τ)) =
      (fun i => (σ.getD i (.var i)).inst τ) := by
    funext i
    rw [Tm.repl_inst hρ _ _ (avoids_getD hσ i)]
    congr 1
    funext j
    simp [genericSubstN, Tm.repl, nameRepl_name name hinj τ j]
  rw [hfun] at h2
  exact h2

/-! ### the concrete naming `!g<i>` of `Contract.lean` -/

def genericName (i : Nat) : String := "!g" ++ toString i

theorem genericSubst_eq : genericSubst = genericSubstN genericName := rfl

theorem genericName_injective : ∀ i j, genericName i = genericName j → i = j := by
  intro i j h
  unfold genericName at h
  rw [String.append_right_inj] at h
  exact Nat.repr_injective h

/-- executable: the symbol starts with `!g` -/
def isGenericNameB (c : String) : Bool :=
  match c.toList with
  | '!' :: 'g' :: _ => true
  | _ => false

theorem not_isName_of_isGenericNameB_false (c : String) (h : (!isGenericNameB c) = true) :
    ¬ IsName genericName c := by
  rintro ⟨j, rfl⟩
  simp [isGenericNameB, genericName, String.toList_append] at h

/-- executable side conditions: no symbol starting with `!g` occurs -/
def Tm.avoidsGenericB (t : Tm) : Bool := t.allSyms (fun c => !isGenericNameB c)
def Program.avoidsGenericB (P : Program) : Bool := P.allSyms (fun c => !isGenericNameB c)
def Goal.avoidsGenericB (g : Goal) : Bool := g.allSyms (fun c => !isGenericNameB c)
def answerAvoidsGenericB (σ : List Tm) : Bool := σ.all Tm.avoidsGenericB

theorem Tm.avoids_of_avoidsGenericB (t : Tm) (h : Tm.avoidsGenericB t = true) : t.Avoids (IsName genericName) :=
  Tm.avoids_of_allSyms not_isName_of_isGenericNameB_false t h
theorem Program.avoids_of_avoidsGenericB (P : Program) (h : Program.avoidsGenericB P = true) :
    P.Avoids (IsName genericName) :=
  Program.avoids_of_allSyms not_isName_of_isGenericNameB_false P h
theorem Goal.avoids_of_avoidsGenericB (g : Goal) (h : Goal.avoidsGenericB g = true) :
    g.Avoids (IsName genericName) :=
  Goal.avoids_of_allSyms not_isName_of_isGenericNameB_false g h
theorem answer_avoids_of_avoidsGenericB (σ : List Tm) (h : answerAvoidsGenericB σ = true) :
    ∀ t ∈ σ, t.Avoids (IsName genericName) := by
  simp only [answerAvoidsGenericB, List.all_eq_true] at h
  exact fun t ht => Tm.avoids_of_avoidsGenericB t (h t ht)

/-- The generic instance of an answer generalises to every instance (Prop side conditions). -/
theorem generic_instance_generalises (P : Program) (g : Goal) (σ : List Tm) (τ : Nat → Tm)
    (hP : P.Avoids (IsName genericName)) (hg : g.Avoids (IsName genericName)) (hpos : g.Positive)
    (hσ : ∀ t ∈ σ, t.Avoids (IsName genericName)) :
    GHolds P [] (g.inst (fun i => (σ.getD i (.var i)).inst genericSubst)) →
    GHolds P [] (g.inst (fun i => (σ.getD i (.var i)).inst τ)) := by
  rw [genericSubst_eq]
  exact generic_instance_generalises_named genericName genericName_injective P g σ τ hP hg hpos hσ

/-- The same with the executable side conditions. -/
theorem generic_instance_generalises_B (P : Program) (g : Goal) (σ : List Tm) (τ : Nat → Tm)
    (hP : Program.avoidsGenericB P = true) (hg : Goal.avoidsGenericB g = true) (hpos : g.positiveB = true)
    (hσ : answerAvoidsGenericB σ = true) :
    GHolds P [] (g.inst (fun i => (σ.getD i (.var i)).inst genericSubst)) →
    GHolds P [] (g.inst (fun i => (σ.getD i (.var i)).inst τ)) :=
  generic_instance_generalises P g σ τ (Program.avoids_of_avoidsGenericB P hP) (Goal.avoids_of_avoidsGenericB g hg)
    ((Goal.positive_iff_positiveB g).mpr hpos) (answer_avoids_of_avoidsGenericB σ hσ)

/-- C01, soundness half in full: an accepted `Unique σ` for a positive goal holds for EVERY
    instantiation of `σ`'s variables (program, goal and answer do not mention `!g…` symbols). -/
theorem accepted_unique_holds_every_instance (P : Program) (fuel : Nat) (g : Goal) (cands : List (List Tm))
    (slg : Bool) (σ : List Tm) (st : String)
    (h : judgeAnswer P fuel g cands slg (.unique σ) = .accepted st)
    (hP : Program.avoidsGenericB P = true) (hg : Goal.avoidsGenericB g = true) (hpos : g.positiveB = true)
    (hσ : answerAvoidsGenericB σ = true) :
    ∀ τ : Nat → Tm, GHolds P [] (g.inst (fun i => (σ.getD i (.var i)).inst τ)) :=
  fun τ => generic_instance_generalises_B P g σ τ hP hg hpos hσ
    (Chalk.C01.accepted_unique_holds P fuel g cands slg σ st h)

/-! ### non-vacuity: `impl<T> Foo for Vec<T>`, goal `Foo(?0)`, answer `?0 := Vec<^0>` -/

def exP : Program := ⟨[⟨⟨"Foo", .cons (.app "Vec" (.cons (.var 0) .nil)) .nil⟩, []⟩], fun _ => false⟩
def exG : Goal := .atom ⟨"Foo", .cons (.var 0) .nil⟩
def exσ : List Tm := [.app "Vec" (.cons (.var 0) .nil)]

example : Program.avoidsGenericB exP = true ∧ Goal.avoidsGenericB exG = true ∧ exG.positiveB = true ∧
    answerAvoidsGenericB exσ = true := by decide

example : ∃ st, judgeAnswer exP 3 exG [] false (.unique exσ) = .accepted st := ⟨_, rfl⟩

/-- the conclusion used at a concrete `τ`: `Foo(Vec<u32>)` holds -/
example : GHolds exP [] (.atom ⟨"Foo", .cons (.app "Vec" (.cons (.app "u32" .nil) .nil)) .nil⟩) := by
  have h : judgeAnswer exP 3 exG [] false (.unique exσ) = .accepted "unique:A+bounded" := rfl
  exact accepted_unique_holds_every_instance exP 3 exG [] false exσ _ h (by decide) (by decide) (by decide)
    (by decide) (fun _ => .app "u32" .nil)

/-! a second one with a where clause and a hypothetical goal: `impl<T: Foo> Foo for Vec<T>`,
    `impl Foo for u32`, goal `if (Foo(?0)) { Foo(Vec<?0>) }` with the identity answer -/

def ex2P : Program :=
  ⟨[⟨⟨"Foo", .cons (.app "Vec" (.cons (.var 0) .nil)) .nil⟩, [⟨"Foo", .cons (.var 0) .nil⟩]⟩,
    ⟨⟨"Foo", .cons (.app "u32" .nil) .nil⟩, []⟩], fun _ => false⟩
def ex2G : Goal :=
  .implies [⟨"Foo", .cons (.var 0) .nil⟩] (.atom ⟨"Foo", .cons (.app "Vec" (.cons (.var 0) .nil)) .nil⟩)

example (t : Tm) : GHolds ex2P [⟨"Foo", .cons t .nil⟩] (.atom ⟨"Foo", .cons (.app "Vec" (.cons t .nil)) .nil⟩) := by
  have h : judgeAnswer ex2P 4 ex2G [] false (.unique []) = .accepted "unique:A+bounded" := rfl
  exact accepted_unique_holds_every_instance ex2P 4 ex2G [] false [] _ h (by decide) (by decide) (by decide)
    (by decide) (fun _ => t)

/-! ### the restriction to positive goals is necessary -/

def cexP : Program := ⟨[⟨⟨"Foo", .cons (.app "u32" .nil) .nil⟩, []⟩], fun _ => false⟩
def cexG : Goal := .not (.atom ⟨"Foo", .cons (.var 0) .nil⟩)

theorem cexP_holds_only (a : Atom) (h : Holds cexP [] a) : a = ⟨"Foo", .cons (.app "u32" .nil) .nil⟩ := by
  obtain ⟨c, hc, σ, hs, _⟩ := ((holds_ind_iff rfl).mp h).resolve_left List.not_mem_nil
  rw [← hs, List.mem_singleton.mp hc]
  rfl

theorem cexP_holds_Foo_u32 : Holds cexP [] ⟨"Foo", .cons (.app "u32" .nil) .nil⟩ := by
  apply Holds.closed
  refine Or.inr (Or.inr ⟨rfl, _, List.mem_singleton.mpr rfl, fun i => .var i, rfl, ?_⟩)
  intro b hb
  cases hb

/-- `Foo` holds of no other constant (in particular of no opaque one) -/
theorem cexP_not_holds_Foo (c : String) (hc : c ≠ "u32") :
    ¬ Holds cexP [] ⟨"Foo", .cons (.app c .nil) .nil⟩ :=
  fun h => hc (by simpa using cexP_holds_only _ h)

/-- With negation the generic instance does NOT generalise: `not Foo(?0)` with the identity answer
    holds for the opaque constant `!g0` and fails for `?0 := u32`; all other side conditions hold. -/
theorem generalisation_fails_with_negation :
    Program.avoidsGenericB cexP = true ∧ Goal.avoidsGenericB cexG = true ∧ answerAvoidsGenericB [] = true ∧
    cexG.positiveB = false ∧
    GHolds cexP [] (cexG.inst (fun i => (([] : List Tm).getD i (.var i)).inst genericSubst)) ∧
    ¬ GHolds cexP [] (cexG.inst (fun i => (([] : List Tm).getD i (.var i)).inst (fun _ => .app "u32" .nil))) := by
  exact ⟨by decide, by decide, by decide, rfl, cexP_not_holds_Foo _ (by decide),
    fun hn => hn cexP_holds_Foo_u32⟩

end Chalk.C01gen

#print axioms Chalk.Sem.Tm.repl_inst
#print axioms Chalk.Sem.Tms.repl_inst
#print axioms Chalk.Sem.Atom.repl_inst
#print axioms Chalk.Sem.Goal.repl_inst
#print axioms Chalk.Sem.ViaClause.repl
#print axioms Chalk.Sem.ViaClause.repl_image
#print axioms Chalk.Sem.CoHolds.repl
#print axioms Chalk.Sem.Holds.closed
#print axioms Chalk.Sem.Holds.repl
#print axioms Chalk.Sem.GHolds.repl
#print axioms Chalk.Sem.Goal.positive_iff_positiveB
#print axioms Chalk.Sem.Program.avoids_of_allSyms
#print axioms Chalk.Sem.Goal.avoids_of_allSyms
#print axioms Chalk.C01gen.nameRepl_none
#print axioms Chalk.C01gen.nameRepl_name
#print axioms Chalk.C01gen.generic_instance_generalises_named
#print axioms Chalk.C01gen.genericSubst_eq
#print axioms Chalk.C01gen.genericName_injective
#print axioms Chalk.C01gen.not_isName_of_isGenericNameB_false
#print axioms Chalk.C01gen.Tm.avoids_of_avoidsGenericB
#print axioms Chalk.C01gen.Program.avoids_of_avoidsGenericB
#print axioms Chalk.C01gen.Goal.avoids_of_avoidsGenericB
#print axioms Chalk.C01gen.answer_avoids_of_avoidsGenericB
#print axioms Chalk.C01gen.generic_instance_generalises
#print axioms Chalk.C01gen.generic_instance_generalises_B
#print axioms Chalk.C01gen.accepted_unique_holds_every_instance
#print axioms Chalk.C01gen.cexP_holds_Foo_u32
#print axioms Chalk.C01gen.cexP_not_holds_Foo
#print axioms Chalk.C01gen.cexP_holds_only
#print axioms Chalk.C01gen.generalisation_fails_with_negation
