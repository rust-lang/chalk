/-
  C17ms — `make_solution` (chalk-engine/src/slg/aggregate.rs) over a completed table: what the
  aggregate of a table's answers guarantees.

  The property's sentence for the aggregate: "combining candidate answers only generalizes" — the
  guidance handed out as DEFINITE must not exclude any answer of the table.
-/
import ChalkModel.Lemmas.AuLinearLemmas
import ChalkModel.Props.C17

namespace Chalk.C17ms

/-- `None` ("No possible solution") exactly for the empty table. -/
theorem none_iff_no_answers (us : List Nat) (answers : List CAnswer) :
    makeSolution us answers = .ok none ↔ answers = [] := by
  cases answers with
  | nil => simp [makeSolution]
  | cons a rest =>
    simp only [makeSolution]
    split
    · simp
    · split <;> simp

/-- `Unique` exactly when the table holds one answer and that answer is unconditional; the
    solution is that answer (substitution and region constraints). -/
theorem unique_iff_single_unconditional (us : List Nat) (answers : List CAnswer) (b : List (VarKind × Nat))
    (s : Args) (cs : List Constraint) :
    makeSolution us answers = .ok (some (.unique b s cs)) ↔
      ∃ a, answers = [a] ∧ a.ambiguous = false ∧ a.binders = b ∧ a.subst = s ∧ a.constraints = cs := by
  cases answers with
  | nil => simp [makeSolution]
  | cons a rest =>
    simp only [makeSolution]
    split
    · rename_i hc
      simp only [Bool.and_eq_true, List.isEmpty_iff, Bool.not_eq_true'] at hc
      constructor
      · intro h
        simp at h
        exact ⟨a, by simp [hc.1], hc.2, h.1, h.2.1, h.2.2⟩
      · rintro ⟨a', h1, _, h3, h4, h5⟩
        simp at h1
        rw [← h1.1] at h3 h4 h5
        simp [h3, h4, h5]
    · rename_i hc
      constructor
      · intro h
        split at h <;> simp at h
      · rintro ⟨a', h1, h2, _⟩
        simp at h1
        rw [← h1.1] at h2
        simp [h1.2, h2] at hc

/-- PARTIAL (structural) form of "definite guidance excludes no answer": when `make_solution`
    hands out `Ambig(Definite(g))`, every stored answer of the table — merged into the guidance or
    skipped because `any_future_answer` found nothing that `may_invalidate` — is covered by `g`:
    equal to it or a STRUCTURAL instance (`genOf`: pattern variables match anything, everything
    else agrees); `Props/C17lin.lean` says when that is the instance relation.
    All tables, any number of answers; the hypothesis says that the answers' substitutions have the
    kinds of the first one position by position (answers to one query always do). -/
theorem definite_guidance_covers_every_answer_partial (us : List Nat) (answers : List CAnswer) (g : Canon Args)
    (h : makeSolution us answers = .ok (some (.ambig (.definite g))))
    (hk : ∀ a0, answers.head? = some a0 → ∀ a, a ∈ answers → a0.subst.sameKinds a.subst = true) :
    ∀ a, a ∈ answers → Covers g.value a.subst := by
  cases answers with
  | nil => exact fun _ ha => nomatch ha
  | cons a0 rest =>
    obtain ⟨m, hl⟩ := makeSolution_definite h
    obtain ⟨j1, j2, _⟩ := (guidanceLoop_inv us rest ⟨a0.binders, a0.subst⟩ 1 g m hl).2
      fun a ha => hk a0 rfl a (List.mem_cons_of_mem _ ha)
    intro a ha
    rcases List.mem_cons.mp ha with rfl | ha'
    · exact j1.imp (congrArg Canon.value) id
    · exact .inr (j2 a ha')

def f1Table : List CAnswer :=
  [⟨[(.ty .general, 0)], C17.pairAA, [], false⟩, ⟨[], C17.pairAB, [], false⟩]

/-- FULL STATEMENT, false of the code (F1): "every answer is an INSTANCE of the definite guidance".
    Table `[Pair<^0, ^0>] ; [Pair<A, B>]` (answers of `impl<T> Tr for Pair<T, T>` and
    `impl Tr for Pair<A, B>` to `exists<X> { X: Tr }`): `make_solution` returns
    `Ambig(Definite([Pair<^0, ^0>]))` although no substitution maps it to `[Pair<A, B>]`. -/
theorem definite_guidance_excludes_answer_refuted :
    makeSolution [0] f1Table = .ok (some (.ambig (.definite ⟨[(.ty .general, 0)], C17.pairAA⟩))) ∧
    ∀ θ : List GArg, C17.pairAA.subst θ ≠ .ok C17.pairAB := by
  refine ⟨?_, C17.mayInvalidate_sound_refuted.2⟩
  simp [makeSolution, f1Table, guidanceLoop, anyFutureInvalidates, C17.mayInvalidate_sound_refuted.1]
  simp [C17.pairAA, Args.isNil, isTrivial, isTrivialFrom]

def vecVar : Args := .cons (.ty (.app (.adt 0) (.cons (.ty (.bound 0 0)) .nil))) .nil
def vecA : Args := .cons (.ty (.app (.adt 0) (.cons (.ty (.app (.adt 2) .nil)) .nil))) .nil
def demoTable : List CAnswer :=
  [⟨[(.ty .general, 0)], vecVar, [], false⟩, ⟨[], vecA, [], false⟩]

/-- non-vacuity of the partial theorem: a table `Vec<^0>`, `Vec<A>` (`adt 0` = Vec, `adt 2` = A)
    whose kinds agree: the second answer cannot invalidate the first, the guidance is
    `Definite(Vec<^0>)` and covers both. -/
theorem demo_definite : makeSolution [0] demoTable = .ok (some (.ambig (.definite ⟨[(.ty .general, 0)], vecVar⟩))) := by
  simp [makeSolution, demoTable, guidanceLoop, anyFutureInvalidates, mayInvalidate, miAny, miGArg, miTy, miNamed,
    TyName.sameKind, Args.length, Args.toList, vecVar, vecA, Args.isNil, isTrivial, isTrivialFrom]

example : ∀ a, a ∈ demoTable → Covers vecVar a.subst :=
  definite_guidance_covers_every_answer_partial [0] demoTable ⟨[(.ty .general, 0)], vecVar⟩ demo_definite
    (by intro a0 h a ha; simp [demoTable] at h; subst h; revert a ha; decide)

end Chalk.C17ms

#print axioms Chalk.C17ms.none_iff_no_answers
#print axioms Chalk.C17ms.unique_iff_single_unconditional
#print axioms Chalk.C17ms.definite_guidance_covers_every_answer_partial
#print axioms Chalk.C17ms.definite_guidance_excludes_answer_refuted
#print axioms Chalk.C17ms.demo_definite
