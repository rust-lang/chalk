/-
  C08 — built-in traits follow the language's structural rules.
  Property theorems only.  Model: `ChalkModel/Builtin.lean` (spec `BuiltinHolds`: one rule per
  sentence of the property / the Rust reference, plus the program's explicit impls; clause model
  `ClauseInst` after `add_builtin_program_clauses`, `sized.rs`, `copy.rs`, `clone.rs`, `tuple.rs`,
  `last_field_of_struct`, `ImplDatum::to_program_clauses`; meaning `Holds` = least fixed point;
  `decideGoal` = resolution with ancestor check, what the driver runs and what is compared with both
  real solvers).  Lemmas: `Lemmas/BuiltinLemmas.lean`, `Lemmas/GroundResLemmas.lean`.

  All statements are for every program (any table of type constructors, any struct / enum / union
  declarations with any fields, generic or recursive; any list of explicit impls, generic,
  overlapping or recursive) and every type term of any size.
-/
import ChalkModel.Lemmas.BuiltinLemmas

namespace Chalk.C08
open Chalk.Builtin
open Chalk.Sem (Tm Tms Verdict)

/-- The atoms derivable from the clauses chalk generates for Sized / Copy / Clone / Tuple / FnPtr
    are exactly the ones the rules grant. -/
theorem builtinClauses_iff_spec (P : Program) (tr : Trait) (ty : Tm) :
    Holds P ⟨tr, ty⟩ ↔ BuiltinHolds P tr ty :=
  holds_iff_spec P tr ty

/-- The executable enumeration of matching clause instances produces only instances … -/
theorem clausesFor_sound (P : Program) (g : Goal) (body : List Goal) (h : body ∈ clausesFor P g) :
    ClauseInst P g body :=
  Builtin.clausesFor_sound P g body h

/-- … and all of them, when every impl parameter occurs in the impl header (rustc's E0207;
    otherwise the clause has an existential variable and matching the header cannot find it). -/
theorem clausesFor_complete (P : Program) (hp : P.implParamsInHeader = true) (g : Goal) (body : List Goal)
    (h : ClauseInst P g body) : body ∈ clausesFor P g :=
  Builtin.clausesFor_complete P hp g body h

/-- A `yes` of the model's decision procedure certifies the spec (any program, any fuel). -/
theorem decide_yes (P : Program) (fuel : Nat) (g : Goal) (h : decideGoal P fuel g = .yes) :
    BuiltinHolds P g.tr g.ty :=
  (holds_iff_spec P g.tr g.ty).1 (holds_of_derivable P g (GroundRes.solve_yes _ fuel [] g h))

/-- A `no` refutes it (the ancestor check is sound: an inductive cycle proves nothing). -/
theorem decide_no (P : Program) (hp : P.implParamsInHeader = true) (fuel : Nat) (g : Goal)
    (h : decideGoal P fuel g = .no) : ¬ BuiltinHolds P g.tr g.ty := by
  intro hs
  have hh : Holds P g := (holds_iff_spec P g.tr g.ty).2 hs
  exact GroundRes.solve_no _ fuel g h ((derivable_iff_holds P hp g).2 hh)

/-! ### the sentences of the property, read off the spec (programs without an explicit impl of
    the trait in question, so that only the structural rules speak) -/

/-- "slices, str and trait objects are never Sized" -/
theorem unsized_never_sized (P : Program) (hno : ∀ im ∈ P.impls, im.trait ≠ .sized) (c : String) (args : Tms)
    (hk : P.ctor c = .slice ∨ P.ctor c = .str ∨ P.ctor c = .dyn) :
    ¬ BuiltinHolds P .sized (.app c args) := by
  intro h
  obtain ⟨body, hb, _⟩ := spec_inv_builtin P hno h
  rcases hk with hk | hk | hk <;> simp [builtinClauses, sizedClauses, hk] at hb

/-- "tuples are Copy exactly when their elements are" -/
theorem tuple_copy_iff_elements (P : Program) (hno : ∀ im ∈ P.impls, im.trait ≠ .copy) (c : String) (args : Tms)
    (hk : P.ctor c = .tuple) :
    BuiltinHolds P .copy (.app c args) ↔ ∀ t ∈ Tms.toList args, BuiltinHolds P .copy t := by
  constructor
  · intro h
    obtain ⟨body, hb, hall⟩ := spec_inv_builtin P hno h
    cases args with
    | nil => simp [Tms.toList]
    | cons t ts =>
        simp only [builtinClauses, copyClauses, hk, List.mem_singleton] at hb
        subst hb
        exact fun u hu => hall ⟨.copy, u⟩ (by simpa [needsImplForTys] using hu)
  · exact .copy_tuple rfl hk

/-- "arrays are Copy exactly when their elements are" -/
theorem array_copy_iff_element (P : Program) (hno : ∀ im ∈ P.impls, im.trait ≠ .copy) (c : String)
    (elem : Tm) (rest : Tms) (hk : P.ctor c = .array) :
    BuiltinHolds P .copy (.app c (.cons elem rest)) ↔ BuiltinHolds P .copy elem := by
  constructor
  · intro h
    obtain ⟨body, hb, hall⟩ := spec_inv_builtin P hno h
    simp only [builtinClauses, copyClauses, hk, List.mem_singleton] at hb
    subst hb
    exact hall ⟨.copy, elem⟩ (by simp [needsImplForTys])
  · exact .copy_array rfl hk

/-- "a struct is Sized exactly when it has no fields or its last field is" -/
theorem struct_sized_iff_last_field (P : Program) (hno : ∀ im ∈ P.impls, im.trait ≠ .sized) (c : String)
    (args : Tms) (id : Nat) (fields : List Tm) (hk : P.ctor c = .adt id) (hd : P.adt id = .struct fields) :
    BuiltinHolds P .sized (.app c args) ↔
      (fields = [] ∨ ∃ last, fields.getLast? = some last ∧ BuiltinHolds P .sized (substArgs args last)) := by
  constructor
  · intro h
    obtain ⟨body, hb, hall⟩ := spec_inv_builtin P hno h
    simp only [builtinClauses, sizedClauses, hk, hd, lastFieldOfStruct, List.mem_singleton] at hb
    subst hb
    cases hl : fields.getLast? with
    | none => exact Or.inl (by simpa using hl)
    | some last =>
        exact Or.inr ⟨last, rfl, hall ⟨.sized, substArgs args last⟩ (by simp [needsImplForTys, hl])⟩
  · rintro (rfl | ⟨last, hl, hs⟩)
    · exact .sized_struct_empty hk hd
    · exact .sized_struct hk hd hl hs

/-- "an enum is always Sized" (what chalk does: only structs look at a field) -/
theorem enum_sized (P : Program) (c : String) (args : Tms) (id : Nat) (vs : List (List Tm))
    (hk : P.ctor c = .adt id) (hd : P.adt id = .enum vs) : BuiltinHolds P .sized (.app c args) :=
  .sized_enum hk hd

/-- "Tuple: exactly the tuples; FnPtr: exactly the fn pointers" -/
theorem tuple_trait_iff (P : Program) (hno : ∀ im ∈ P.impls, im.trait ≠ .tuple) (c : String) (args : Tms) :
    BuiltinHolds P .tuple (.app c args) ↔ P.ctor c = .tuple := by
  refine ⟨fun h => ?_, .tuple_tuple⟩
  obtain ⟨body, hb, _⟩ := spec_inv_builtin P hno h
  exact ctor_of_mem_tupleClauses hb

theorem fnPtr_trait_iff (P : Program) (hno : ∀ im ∈ P.impls, im.trait ≠ .fnPtr) (c : String) (args : Tms) :
    BuiltinHolds P .fnPtr (.app c args) ↔ P.ctor c = .fnPtr := by
  refine ⟨fun h => ?_, .fnPtr_fnPtr⟩
  obtain ⟨body, hb, _⟩ := spec_inv_builtin P hno h
  exact ctor_of_mem_fnPtrClauses hb

/-- scalars are Copy only through an explicit impl (chalk leaves these impls to the program:
    "these impls are in libcore") -/
theorem scalar_copy_only_by_impl (P : Program) (hno : ∀ im ∈ P.impls, im.trait ≠ .copy) (c : String) (args : Tms)
    (hk : P.ctor c = .scalar) : ¬ BuiltinHolds P .copy (.app c args) := by
  intro h
  obtain ⟨body, hb, _⟩ := spec_inv_builtin P hno h
  simp [builtinClauses, copyClauses, hk] at hb

/-! ### non-vacuity -/

def u8 : Tm := .app "u8" .nil
def tup (ts : List Tm) : Tm := .app "tuple" (ts.foldr .cons .nil)
def slice (t : Tm) : Tm := .app "slice" (.cons t .nil)
def vec (t : Tm) : Tm := .app "Vec" (.cons t .nil)

/-- `struct Foo { a: u8, b: [u8] }  struct Vec<T> { p: *const T }  struct A { b: B }  struct B { a: A }`
    `impl Copy for u8 {}  impl Clone for u8 {}  impl<T> Clone for Vec<T> where T: Clone {}` -/
def demo : Program :=
  ⟨fun n => if n = "u8" then .scalar else if n = "tuple" then .tuple else if n = "slice" then .slice
      else if n = "raw" then .raw else if n = "Foo" then .adt 0 else if n = "Vec" then .adt 1
      else if n = "A" then .adt 2 else if n = "B" then .adt 3 else .other,
   fun id => match id with
      | 0 => .struct [u8, slice u8]
      | 1 => .struct [.app "raw" (.cons (.var 0) .nil)]
      | 2 => .struct [.app "B" .nil]
      | _ => .struct [.app "A" .nil],
   [⟨.copy, u8, []⟩, ⟨.clone, u8, []⟩, ⟨.clone, vec (.var 0), [(.clone, .var 0)]⟩]⟩

example : demo.implParamsInHeader = true := by decide
example : decideGoal demo 8 ⟨.copy, tup [u8, tup [u8]]⟩ = .yes := by decide
example : decideGoal demo 8 ⟨.copy, tup [u8, slice u8]⟩ = .no := by decide
example : decideGoal demo 8 ⟨.sized, tup [slice u8, u8]⟩ = .yes := by decide
example : decideGoal demo 8 ⟨.sized, tup [u8, slice u8]⟩ = .no := by decide
example : decideGoal demo 8 ⟨.sized, .app "Foo" .nil⟩ = .no := by decide
example : decideGoal demo 8 ⟨.sized, vec (slice u8)⟩ = .yes := by decide
example : decideGoal demo 8 ⟨.clone, vec (vec u8)⟩ = .yes := by decide
example : decideGoal demo 8 ⟨.clone, vec (slice u8)⟩ = .no := by decide
-- mutually recursive structs: the inductive cycle proves nothing
example : decideGoal demo 8 ⟨.sized, .app "A" .nil⟩ = .no := by decide
example : decideGoal demo 8 ⟨.tuple, tup []⟩ = .yes := by decide
example : decideGoal demo 8 ⟨.tuple, u8⟩ = .no := by decide

end Chalk.C08

#print axioms Chalk.C08.builtinClauses_iff_spec
#print axioms Chalk.C08.clausesFor_sound
#print axioms Chalk.C08.clausesFor_complete
#print axioms Chalk.C08.decide_yes
#print axioms Chalk.C08.decide_no
#print axioms Chalk.C08.unsized_never_sized
#print axioms Chalk.C08.tuple_copy_iff_elements
#print axioms Chalk.C08.array_copy_iff_element
#print axioms Chalk.C08.struct_sized_iff_last_field
#print axioms Chalk.C08.enum_sized
#print axioms Chalk.C08.scalar_copy_only_by_impl
#print axioms Chalk.C08.tuple_trait_iff
#print axioms Chalk.C08.fnPtr_trait_iff
