/-
  C17lin — results of the anti-unifier are LINEAR, and for a linear pattern the structural instance
  relation `genOf` of C17/C17ms IS the instance relation.  For every guidance that went through at
  least one `merge_into_guidance` this turns the structural coverage of
  `C17ms.definite_guidance_covers_every_answer_partial` into coverage by instance.
  `vars0`, `Linear`, `top0` and `ctAgree` are explained at the head of `Lemmas/AuLinearLemmas.lean`;
  the `…_refuted` theorems below show what happens without the `ctAgree` hypotheses.
-/
import ChalkModel.Lemmas.AuLinearLemmas
import ChalkModel.Props.C17ms

namespace Chalk.C17lin

/-- `AntiUnifier::aggregate_tys`: the variables of the result are exactly the indices created by
    this call (`st.length … st'.length - 1`), each once, left to right, all at depth 0. -/
theorem auTy_linear (u : Nat) (t1 t2 r : Ty) (st st' : AuSt) (h : auTy u t1 t2 st = .ok (r, st')) :
    r.vars0 = List.range' st.length (st'.length - st.length) ∧ st.length ≤ st'.length ∧
      r.Linear ∧ r.top0 = true := by
  obtain ⟨a1, a2, _⟩ := auTy_spec u t1 t2 st r st' h
  exact ⟨a1.2, a1.1, a1.nodup, a2⟩

/-- the same for `aggregate_name_and_substs`' zip over two substitutions -/
theorem auArgs_linear (u : Nat) (a1 a2 r : Args) (st st' : AuSt) (h : auArgs u a1 a2 st = .ok (r, st')) :
    r.vars0 = List.range' st.length (st'.length - st.length) ∧ st.length ≤ st'.length ∧
      r.Linear ∧ r.top0 = true := by
  obtain ⟨b1, b2, _⟩ := auArgs_spec u a1 a2 st r st' h
  exact ⟨b1.2, b1.1, b1.nodup, b2⟩

/-- lifetimes and constants (total functions): a kept lifetime / constant VALUE is never a variable -/
theorem auLifetime_linear (u : Nat) (l1 l2 r : Lifetime) (st st' : AuSt) (h : auLifetime u l1 l2 st = (r, st')) :
    r.vars0 = List.range' st.length (st'.length - st.length) ∧ st.length ≤ st'.length ∧ r.top0 = true := by
  obtain ⟨b1, b2, _⟩ := auLifetime_spec true h
  exact ⟨b1.2, b1.1, b2⟩

theorem auConst_linear (u : Nat) (c1 c2 r : Const) (st st' : AuSt) (h : auConst u c1 c2 st = (r, st')) :
    r.vars0 = List.range' st.length (st'.length - st.length) ∧ st.length ≤ st'.length ∧ r.top0 = true := by
  obtain ⟨b1, b2, _⟩ := auConst_spec h
  exact ⟨b1.2, b1.1, b2⟩

/-- the loop of `merge_into_guidance` (top-level lifetimes are always re-generalised), from any
    start index and any state -/
theorem mergeLoop_linear (us : List Nat) (idx : Nat) (g a r : Args) (st st' : AuSt)
    (h : mergeLoop us idx g a st = .ok (r, st')) :
    r.vars0 = List.range' st.length (st'.length - st.length) ∧ st.length ≤ st'.length ∧
      r.Linear ∧ r.top0 = true := by
  obtain ⟨b1, b2, _⟩ := mergeLoop_spec us idx g a st r st' h
  exact ⟨b1.2, b1.1, b1.nodup, b2⟩

/-- Every result of `merge_into_guidance` is linear: its `k` binders occur as `^0.0 … ^0.(k-1)`,
    once each, left to right.  No hypothesis on the inputs. -/
theorem merge_result_linear (us : List Nat) (g a : Args) (r : Canon Args)
    (h : mergeIntoGuidance us g a = .ok r) :
    r.value.vars0 = List.range' 0 r.binders.length ∧ r.value.Linear ∧ r.value.top0 = true := by
  have := (mergeIntoGuidance_spec h).1
  exact ⟨this.1, this.linear, this.2⟩

/-- If no variable of `r` repeats, all its variables are `^0.i` with `i < n`, `t` is a structural
    instance of `r` and the constant types agree, then a substitution of length `n` maps `r` to `t`
    (`Subst::apply`, exactly: `Args.subst`). -/
theorem genOf_linear_instance (r t : Args) (n : Nat) (hlin : r.Linear) (hg : r.genOf t = true)
    (h0 : r.top0 = true) (hc : r.ctAgree t = true) (hn : ∀ i, i ∈ r.vars0 → i < n) :
    ∃ θ : List GArg, θ.length = n ∧ r.subst θ = .ok t :=
  Args.genOf_linear_instance r t n hlin hg h0 hc hn

/-- the same for single types -/
theorem genOf_linear_instance_ty (r t : Ty) (n : Nat) (hlin : r.Linear) (hg : r.genOf t = true)
    (h0 : r.top0 = true) (hc : r.ctAgree t = true) (hn : ∀ i, i ∈ r.vars0 → i < n) :
    ∃ θ : List GArg, θ.length = n ∧ r.subst θ = .ok t :=
  Ty.genOf_linear_instance r t n hlin hg h0 hc hn

/-- More generally (no linearity): ANY substitution that realises the bindings of the structural
    match maps the pattern to the term; a repeated variable is harmless when it is matched against
    equal subterms. -/
theorem genOf_instance_of_bindings (θ : List GArg) (r t : Args) (hg : r.genOf t = true)
    (h0 : r.top0 = true) (hc : r.ctAgree t = true)
    (hb : ∀ p, p ∈ r.bindings t → θ[p.1]? = some p.2) : r.subst θ = .ok t :=
  Args.subst_of_bindings θ r t hg h0 hc hb

/-- Both the old guidance and the new answer are genuine INSTANCES of the merge result, by
    substitutions for exactly its binders. -/
theorem merged_guidance_instances (us : List Nat) (g a : Args) (r : Canon Args)
    (h : mergeIntoGuidance us g a = .ok r) (hk : g.sameKinds a = true) (hc : g.ctAgree a = true) :
    (∃ θ : List GArg, θ.length = r.binders.length ∧ r.value.subst θ = .ok g) ∧
    (∃ θ : List GArg, θ.length = r.binders.length ∧ r.value.subst θ = .ok a) := by
  obtain ⟨hs, hct⟩ := mergeIntoGuidance_spec h
  have hct := hct hc
  have hgen := C17.merge_generalizes us g a r h hk
  exact ⟨Args.genOf_linear_instance _ _ _ hs.linear hgen.1 hs.2 hct.1 hs.lt,
    Args.genOf_linear_instance _ _ _ hs.linear hgen.2 hs.2 hct.2 hs.lt⟩

def c3T0 : Args := .cons (.ct (.mk (.scalar 0) (.concrete 3))) .nil
def c3T1 : Args := .cons (.ct (.mk (.scalar 1) (.concrete 3))) .nil

/-- The hypothesis on constant types cannot be dropped (1): `aggregate_consts` keeps its FIRST
    argument when the two values agree and never looks at the second one's type.  Merging
    `[3: T0]` with `[3: T1]` (`T0 = scalar 0`, `T1 = scalar 1`) gives `[3: T0]` with no binder,
    which no substitution maps to the answer. -/
theorem merged_guidance_instances_const_type_refuted :
    mergeIntoGuidance [0] c3T0 c3T1 = .ok ⟨[], c3T0⟩ ∧ c3T0.sameKinds c3T1 = true ∧
    ∀ θ : List GArg, c3T0.subst θ ≠ .ok c3T1 := by
  refine ⟨rfl, rfl, ?_⟩
  intro θ h
  simp [c3T0, c3T1, Args.subst, foldArgs, foldGArg, foldConst, foldTy] at h

def cVarA : Args := .cons (.ct (.mk (.bound 0 0) (.concrete 3))) (.cons (.ty (.app (.adt 1) .nil)) .nil)
def cVarB : Args := .cons (.ct (.mk (.bound 0 0) (.concrete 3))) (.cons (.ty (.app (.adt 2) .nil)) .nil)
def cVarR : Args := .cons (.ct (.mk (.bound 0 0) (.concrete 3))) (.cons (.ty (.bound 0 0)) .nil)

/-- The hypothesis on constant types cannot be dropped (2) — the one place where the anti-unifier
    KEEPS a bound variable instead of replacing it: the type of a constant is copied from the first
    argument, never aggregated.  A variable `^0.0` inside it survives the merge and is CAPTURED by
    the fresh numbering: merging `[3: ^0.0, A]` with `[3: ^0.0, B]` gives `[3: ^0.0, ^0.0]` with ONE
    binder.  `vars0` (which does not look into constant types, as `auConst` does not) is `[0]`, the
    result is linear in that sense, and yet it is not an instance-generalisation of its inputs:
    the substitution `[A]` yields `[3: A, A]`. -/
theorem const_type_variable_kept_refuted :
    mergeIntoGuidance [0, 0] cVarA cVarB = .ok ⟨[(.ty .general, 0)], cVarR⟩ ∧
    cVarR.vars0 = [0] ∧ cVarA.ctAgree cVarB = false ∧
    ∀ θ : List GArg, cVarR.subst θ ≠ .ok cVarA := by
  refine ⟨rfl, rfl, rfl, ?_⟩
  intro θ h
  simp only [cVarR, cVarA, Args.subst, foldArgs, foldGArg, foldConst, foldTy, substFolder] at h
  cases h0 : θ[0]? with
  | none => simp [h0] at h
  | some x =>
    cases x with
    | ty t =>
      simp [h0] at h
      cases ht : foldTy (shifter 0) 0 t with
      | error e => simp [ht] at h
      | ok t' =>
        simp [ht] at h
        obtain ⟨h1, h2⟩ := h
        subst h1
        cases h2
    | lt l => simp [h0] at h
    | ct c => simp [h0] at h

/-- The definite guidance of `make_solution` is the first stored answer's substitution unchanged
    (no merge happened), or it has the shape of a merge result — in particular it is linear. -/
theorem guidance_unchanged_or_linear (us : List Nat) (answers : List CAnswer) (g : Canon Args)
    (h : makeSolution us answers = .ok (some (.ambig (.definite g)))) :
    ∃ a0 rest, answers = a0 :: rest ∧
      (g = ⟨a0.binders, a0.subst⟩ ∨
        (g.value.vars0 = List.range' 0 g.binders.length ∧ g.value.Linear ∧ g.value.top0 = true)) := by
  cases answers with
  | nil => simp [makeSolution] at h
  | cons a0 rest =>
    refine ⟨a0, rest, rfl, ?_⟩
    obtain ⟨m, hl⟩ := makeSolution_definite h
    rcases (guidanceLoop_inv us rest _ 1 g m hl).1 with ⟨e, _⟩ | ⟨_, hs⟩
    · exact Or.inl e
    · exact Or.inr ⟨hs.1, hs.linear, hs.2⟩

/-- the loop of `make_solution` itself: the initial substitution unchanged (and no merge counted),
    or a linear guidance (and at least one merge counted) -/
theorem guidanceLoop_unchanged_or_linear (us : List Nat) (rest : List CAnswer) (subst g : Canon Args) (n m : Nat)
    (h : guidanceLoop us rest subst n = .ok (.definite g, m)) :
    (g = subst ∧ m = n) ∨
      (n < m ∧ g.value.vars0 = List.range' 0 g.binders.length ∧ g.value.Linear ∧ g.value.top0 = true) := by
  rcases (guidanceLoop_inv us rest subst n g m h).1 with e | ⟨e, hs⟩
  · exact Or.inl e
  · exact Or.inr ⟨e, hs.1, hs.linear, hs.2⟩

/-- the invariant of `make_solution` behind the two theorems below: the guidance is the first answer
    unchanged or a merge result generalising it, and it generalises every later stored answer, with
    constant types in agreement -/
theorem makeSolution_invariant (us : List Nat) (a0 : CAnswer) (rest : List CAnswer) (g : Canon Args)
    (h : makeSolution us (a0 :: rest) = .ok (some (.ambig (.definite g))))
    (hk : ∀ a, a ∈ rest → a0.subst.sameKinds a.subst = true)
    (hc : ∀ a, a ∈ rest → a0.subst.ctAgree a.subst = true) :
    (g = ⟨a0.binders, a0.subst⟩ ∨
      (MergedShape g ∧ g.value.genOf a0.subst = true ∧ g.value.ctAgree a0.subst = true)) ∧
    ∀ a, a ∈ rest → g.value.genOf a.subst = true ∧ g.value.ctAgree a.subst = true := by
  obtain ⟨m, hl⟩ := makeSolution_definite h
  obtain ⟨i1, i2⟩ := guidanceLoop_inv us rest ⟨a0.binders, a0.subst⟩ 1 g m hl
  obtain ⟨j1, j2, j3⟩ := i2 hk
  obtain ⟨k1, k2⟩ := j3 hc
  refine ⟨?_, fun a ha => ⟨j2 a ha, k2 a ha⟩⟩
  rcases i1 with ⟨e, _⟩ | ⟨_, hs⟩
  · exact .inl e
  · rcases j1 with e | e3
    · exact .inl e
    · exact k1.imp id fun e4 => ⟨hs, e3, e4⟩

/-- `C17ms.definite_guidance_covers_every_answer_partial` with "instance" in place of "structural
    instance": when `make_solution` hands out `Ambig(Definite(g))` and `g` is linear (no variable
    repeats; all variables are `^0.i`, `i` below the number of binders), every stored answer of the
    table is `g`'s own value or a genuine INSTANCE of it: `g.value.subst θ = a.subst` for a `θ` of
    the length of `g`'s binders.  All tables; hypotheses on the table as in C17ms (kinds agree with
    the first answer position by position) plus agreement of constant types of the first answer
    with every later one. -/
theorem definite_guidance_after_merge_covers_by_instance (us : List Nat) (answers : List CAnswer) (g : Canon Args)
    (h : makeSolution us answers = .ok (some (.ambig (.definite g))))
    (hk : ∀ a0, answers.head? = some a0 → ∀ a, a ∈ answers → a0.subst.sameKinds a.subst = true)
    (hc : ∀ a0, answers.head? = some a0 → ∀ a, a ∈ answers.tail → a0.subst.ctAgree a.subst = true)
    (hlin : g.value.Linear) (h0 : g.value.top0 = true) (hn : ∀ i, i ∈ g.value.vars0 → i < g.binders.length) :
    ∀ a, a ∈ answers →
      g.value = a.subst ∨ ∃ θ : List GArg, θ.length = g.binders.length ∧ g.value.subst θ = .ok a.subst := by
  cases answers with
  | nil => simp
  | cons a0 rest =>
    obtain ⟨i1, i2⟩ := makeSolution_invariant us a0 rest g h
      (fun a ha => hk a0 (by simp) a (List.mem_cons_of_mem _ ha))
      (fun a ha => hc a0 (by simp) a (by simpa using ha))
    intro a ha
    rcases List.mem_cons.mp ha with e | ha'
    · subst e
      rcases i1 with e | ⟨_, e3, e4⟩
      · left; rw [e]
      · right; exact Args.genOf_linear_instance _ _ _ hlin e3 h0 e4 hn
    · right
      exact Args.genOf_linear_instance _ _ _ hlin (i2 a ha').1 h0 (i2 a ha').2 hn

/-- …and whenever at least one merge happened (the guidance is not the first answer unchanged) the
    linearity hypotheses hold by themselves: the guidance is linear and EVERY stored answer,
    the first one included, is an instance of it. -/
theorem definite_guidance_merged_covers_by_instance (us : List Nat) (answers : List CAnswer) (g : Canon Args)
    (h : makeSolution us answers = .ok (some (.ambig (.definite g))))
    (hk : ∀ a0, answers.head? = some a0 → ∀ a, a ∈ answers → a0.subst.sameKinds a.subst = true)
    (hc : ∀ a0, answers.head? = some a0 → ∀ a, a ∈ answers.tail → a0.subst.ctAgree a.subst = true)
    (hm : ∀ a0, answers.head? = some a0 → g ≠ ⟨a0.binders, a0.subst⟩) :
    g.value.Linear ∧
    ∀ a, a ∈ answers → ∃ θ : List GArg, θ.length = g.binders.length ∧ g.value.subst θ = .ok a.subst := by
  cases answers with
  | nil => simp [makeSolution] at h
  | cons a0 rest =>
    obtain ⟨i1, i2⟩ := makeSolution_invariant us a0 rest g h
      (fun a ha => hk a0 (by simp) a (List.mem_cons_of_mem _ ha))
      (fun a ha => hc a0 (by simp) a (by simpa using ha))
    rcases i1 with e | ⟨hs, e3, e4⟩
    · exact (hm a0 (by simp) e).elim
    · refine ⟨hs.linear, fun a ha => ?_⟩
      rcases List.mem_cons.mp ha with e | ha'
      · subst e
        exact Args.genOf_linear_instance _ _ _ hs.linear e3 hs.2 e4 hs.lt
      · exact Args.genOf_linear_instance _ _ _ hs.linear (i2 a ha').1 hs.2 (i2 a ha').2 hs.lt

/-- The hypothesis `hc` of the two theorems above cannot be dropped: on the table `[3: T0]`, `[3: T1]`
    (`may_invalidate` DOES compare constant types and says "invalidates"; the merge then keeps the
    first constant) `make_solution` returns `Definite([3: T0])`, which excludes the second answer.
    Such a table is ill-typed (one query position, two constant types); the refutation shows that
    the model — like the code — relies on typing here. -/
theorem definite_guidance_const_type_refuted :
    makeSolution [0] [⟨[], c3T0, [], false⟩, ⟨[], c3T1, [], false⟩]
      = .ok (some (.ambig (.definite ⟨[], c3T0⟩))) ∧
    c3T0 ≠ c3T1 ∧ ∀ θ : List GArg, c3T0.subst θ ≠ .ok c3T1 := by
  refine ⟨?_, by decide, merged_guidance_instances_const_type_refuted.2.2⟩
  simp [makeSolution, guidanceLoop, anyFutureInvalidates, mayInvalidate, miAny, miGArg, miConst, miTy,
    c3T0, c3T1, Args.isNil, isTrivial, isTrivialFrom, mergeIntoGuidance, mergeLoop, auGArg, auConst]

def vecA : Args := .cons (.ty (.app (.adt 0) (.cons (.ty (.app (.adt 2) .nil)) .nil))) .nil
def vecB : Args := .cons (.ty (.app (.adt 0) (.cons (.ty (.app (.adt 3) .nil)) .nil))) .nil
def vecVar : Args := .cons (.ty (.app (.adt 0) (.cons (.ty (.bound 0 0)) .nil))) .nil

/-- a table on which a merge happens: `Vec<A>`, `Vec<B>` ⟶ `Definite(Vec<^0.0>)` -/
def mergeTable : List CAnswer := [⟨[], vecA, [], false⟩, ⟨[], vecB, [], false⟩]

theorem mergeTable_definite :
    makeSolution [0] mergeTable = .ok (some (.ambig (.definite ⟨[(.ty .general, 0)], vecVar⟩))) := by
  simp [makeSolution, mergeTable, guidanceLoop, anyFutureInvalidates, mayInvalidate, miAny, miGArg, miTy, miNamed,
    TyName.sameKind, Args.length, Args.toList, vecVar, vecA, vecB, Args.isNil, isTrivial, isTrivialFrom,
    mergeIntoGuidance, mergeLoop, auGArg, auTy, auArgs, newTyVar]

/-- the merged theorem applies to it: both answers are instances of `Vec<^0.0>` -/
example : vecVar.Linear ∧ ∀ a, a ∈ mergeTable →
    ∃ θ : List GArg, θ.length = 1 ∧ vecVar.subst θ = .ok a.subst :=
  definite_guidance_merged_covers_by_instance [0] mergeTable ⟨[(.ty .general, 0)], vecVar⟩ mergeTable_definite
    (by intro a0 h a ha; simp [mergeTable] at h; subst h; revert a ha; decide)
    (by intro a0 h a ha; simp [mergeTable] at h; subst h; revert a ha; decide)
    (by intro a0 h; simp [mergeTable] at h; subst h; decide)

/-- …and the substitutions are the expected ones -/
example : vecVar.subst [.ty (.app (.adt 2) .nil)] = .ok vecA ∧ vecVar.subst [.ty (.app (.adt 3) .nil)] = .ok vecB :=
  ⟨rfl, rfl⟩

/-- the linear theorem on a table WITHOUT merge (C17ms' demo table `Vec<^0>`, `Vec<A>`): the first
    answer is linear as it stands -/
example : ∀ a, a ∈ C17ms.demoTable →
    C17ms.vecVar = a.subst ∨ ∃ θ : List GArg, θ.length = 1 ∧ C17ms.vecVar.subst θ = .ok a.subst :=
  definite_guidance_after_merge_covers_by_instance [0] C17ms.demoTable ⟨[(.ty .general, 0)], C17ms.vecVar⟩
    C17ms.demo_definite
    (by intro a0 h a ha; simp [C17ms.demoTable] at h; subst h; revert a ha; decide)
    (by intro a0 h a ha; simp [C17ms.demoTable] at h; subst h; revert a ha; decide)
    (by decide) (by decide) (by decide)

/-- the refuted table of C17ms (`Pair<^0,^0>`, `Pair<A,B>`) is excluded exactly by linearity -/
example : ¬ C17.pairAA.Linear := by decide

/-- a merge through every kind of position: type, lifetime, constant, nested -/
def mixG : Args :=
  .cons (.ty (.ref true .static (.array (.scalar 1) (.mk (.scalar 7) (.concrete 3)))))
    (.cons (.lt .static) (.cons (.ct (.mk (.scalar 7) (.concrete 4))) .nil))
def mixA : Args :=
  .cons (.ty (.ref true .erased (.array (.scalar 2) (.mk (.scalar 7) (.concrete 5)))))
    (.cons (.lt .static) (.cons (.ct (.mk (.scalar 7) (.concrete 4))) .nil))

example : mergeIntoGuidance [0, 1, 2] mixG mixA = .ok
    ⟨[(.lt, 0), (.ty .general, 0), (.const 7, 0), (.lt, 1)],
     .cons (.ty (.ref true (.bound 0 0) (.array (.bound 0 1) (.mk (.scalar 7) (.bound 0 2)))))
       (.cons (.lt (.bound 0 3)) (.cons (.ct (.mk (.scalar 7) (.concrete 4))) .nil))⟩ := rfl

example : mixG.sameKinds mixA = true ∧ mixG.ctAgree mixA = true := by decide

example : ∀ r, mergeIntoGuidance [0, 1, 2] mixG mixA = .ok r →
    (∃ θ : List GArg, θ.length = r.binders.length ∧ r.value.subst θ = .ok mixG) ∧
    (∃ θ : List GArg, θ.length = r.binders.length ∧ r.value.subst θ = .ok mixA) :=
  fun r h => merged_guidance_instances [0, 1, 2] mixG mixA r h (by decide) (by decide)

end Chalk.C17lin

#print axioms Chalk.C17lin.auTy_linear
#print axioms Chalk.C17lin.auArgs_linear
#print axioms Chalk.C17lin.auLifetime_linear
#print axioms Chalk.C17lin.auConst_linear
#print axioms Chalk.C17lin.mergeLoop_linear
#print axioms Chalk.C17lin.merge_result_linear
#print axioms Chalk.C17lin.genOf_linear_instance
#print axioms Chalk.C17lin.genOf_linear_instance_ty
#print axioms Chalk.C17lin.genOf_instance_of_bindings
#print axioms Chalk.C17lin.merged_guidance_instances
#print axioms Chalk.C17lin.merged_guidance_instances_const_type_refuted
#print axioms Chalk.C17lin.const_type_variable_kept_refuted
#print axioms Chalk.C17lin.guidance_unchanged_or_linear
#print axioms Chalk.C17lin.guidanceLoop_unchanged_or_linear
#print axioms Chalk.C17lin.makeSolution_invariant
#print axioms Chalk.C17lin.definite_guidance_after_merge_covers_by_instance
#print axioms Chalk.C17lin.definite_guidance_merged_covers_by_instance
#print axioms Chalk.C17lin.definite_guidance_const_type_refuted
#print axioms Chalk.C17lin.mergeTable_definite
