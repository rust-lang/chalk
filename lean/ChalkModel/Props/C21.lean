/-
  C21 — well-formedness checking guarantees the bounds it lets code assume.
  The universal meta-theorem (accepted ⇒ implied bounds hold for ALL well-formed types) is not
  proved; what is certified is every *instance* checked, and every reported counterexample:
  a rejection exhibits a program that the real checker accepted together with a closed
  instantiation for which the premises (type well-formed, trait implemented) are certified true
  and the implied bound certified false.
-/
import ChalkModel.WfCheck
import ChalkModel.Lemmas.EvalLemmas

namespace Chalk.C21
open Chalk.Sem

theorem checkImplication_witness (P : Program) (fuel : Nat) (imp : Implication) (pool : List Tm) (maxc : Nat)
    (θ : List Tm) (c u : Nat) (h : checkImplication P fuel imp pool maxc = (some θ, c, u)) :
    (∀ a ∈ imp.premises, Holds P [] (a.inst (listSubst θ))) ∧ ¬ Holds P [] (imp.conclusion.inst (listSubst θ)) := by
  unfold checkImplication at h
  generalize ((assignments pool imp.nvars).take maxc) = L at h
  -- invariant of the fold: an accumulated witness is a certified counterexample
  have key : ∀ (L : List (List Tm)) (acc : Option (List Tm) × Nat × Nat),
      (∀ w, acc.1 = some w → (∀ a ∈ imp.premises, Holds P [] (a.inst (listSubst w))) ∧
          ¬ Holds P [] (imp.conclusion.inst (listSubst w))) →
      ∀ w, (L.foldl (wfStep P fuel imp) acc).1 = some w →
        (∀ a ∈ imp.premises, Holds P [] (a.inst (listSubst w))) ∧ ¬ Holds P [] (imp.conclusion.inst (listSubst w)) := by
    intro L
    induction L with
    | nil => intro acc hacc w hw; exact hacc w hw
    | cons x xs ih =>
      intro acc hacc w hw
      simp only [List.foldl_cons] at hw
      refine ih _ ?_ w hw
      intro w' hw'
      obtain ⟨o, c0, u0⟩ := acc
      cases o with
      | some w0 => simp [wfStep] at hw'; subst hw'; exact hacc w0 rfl
      | none =>
        simp only [wfStep] at hw'
        split at hw'
        · rename_i hall
          split at hw'
          · rename_i hno
            simp at hw'; subst hw'
            refine ⟨?_, evalInd_no_holds P [] fuel _ hno⟩
            intro a ha
            simp only [List.all_eq_true, decide_eq_true_eq] at hall
            exact evalInd_yes P [] fuel [] _ (hall a ha)
          · simp at hw'
          · simp at hw'
        · simp at hw'
  exact key L (none, 0, 0) (by simp) θ (by rw [h])

/-- a rejection of an accepted program is a certified violation of the property -/
theorem rejected_is_counterexample (P : Program) (fuel : Nat) (pool : List Tm) (maxc : Nat) :
    (imps : List Implication) → (i0 c0 u0 : Nat) → (i : Nat) → (θ : List Tm) →
    judgeWf P fuel pool maxc imps i0 c0 u0 = .rejected i θ →
    ∃ imp ∈ imps, (∀ a ∈ imp.premises, Holds P [] (a.inst (listSubst θ))) ∧
      ¬ Holds P [] (imp.conclusion.inst (listSubst θ))
  | [], _, _, _, _, _, h => by simp [judgeWf] at h
  | imp :: rest, i0, c0, u0, i, θ, h => by
      simp only [judgeWf] at h
      split at h
      · rename_i θ' c u hc
        injection h with _ hθ; subst hθ
        exact ⟨imp, by simp, checkImplication_witness P fuel imp pool maxc _ c u hc⟩
      · obtain ⟨imp', hm, hw⟩ := rejected_is_counterexample P fuel pool maxc rest _ _ _ i θ h
        exact ⟨imp', by simp [hm], hw⟩

end Chalk.C21

#print axioms Chalk.C21.checkImplication_witness
#print axioms Chalk.C21.rejected_is_counterexample
