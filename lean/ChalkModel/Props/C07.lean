/-
  C07 — associated types normalize to the value of the applicable impl.
  Oracle: the certified contract of C01/C02 on the clauses
      norm:A(x̄, value) :- impl where-clauses        aeq:A(x̄, u) :- norm:A(x̄, u)
      aeq:A(x̄, assocty:A(x̄))
  read off chalk's lowered Program.  Theorems: what the semantics of these clauses says.
-/
import ChalkModel.Lemmas.ContractLemmas
import ChalkModel.Props.C17

namespace Chalk.C07
open Chalk.Sem

/-- inversion: a fact of an inductive predicate without hypotheses comes from a clause instance
    whose conditions are facts (the least fixed point is a fixed point) -/
theorem holds_inv (P : Program) (a : Atom) (hind : P.coind a.pred = false) (h : Holds P [] a) :
    ViaClause P (Holds P []) a :=
  ((holds_ind_iff hind).mp h).resolve_left List.not_mem_nil

/-- "inputs" of a normalization atom: all arguments but the last; "output": the last -/
def inputs : Tms → Tms
  | .nil => .nil
  | .cons _ .nil => .nil
  | .cons t ts => .cons t (inputs ts)
def output : Tms → Option Tm
  | .nil => none
  | .cons t .nil => some t
  | .cons _ ts => output ts

/-- coherence for the predicate `p`: two clause instances with the same inputs have the same output -/
def Functional (P : Program) (p : String) : Prop :=
  ∀ c1 ∈ P.clauses, ∀ c2 ∈ P.clauses, c1.head.pred = p → c2.head.pred = p →
    ∀ σ1 σ2 : Nat → Tm, inputs (c1.head.args.inst σ1) = inputs (c2.head.args.inst σ2) →
      output (c1.head.args.inst σ1) = output (c2.head.args.inst σ2)

/-- A projection has at most one normal form in a coherent program: any two solutions of
    `Normalize(proj -> U)` agree. -/
theorem normalize_unique (P : Program) (p : String) (hind : P.coind p = false) (hf : Functional P p)
    (a b : Atom) (ha : a.pred = p) (hb : b.pred = p) (hin : inputs a.args = inputs b.args)
    (h1 : Holds P [] a) (h2 : Holds P [] b) : output a.args = output b.args := by
  obtain ⟨c1, hc1, σ1, hs1, _⟩ := holds_inv P a (by rw [ha]; exact hind) h1
  obtain ⟨c2, hc2, σ2, hs2, _⟩ := holds_inv P b (by rw [hb]; exact hind) h2
  have e1 : c1.head.pred = p := by rw [← ha, ← hs1]; rfl
  have e2 : c2.head.pred = p := by rw [← hb, ← hs2]; rfl
  have a1 : a.args = c1.head.args.inst σ1 := by rw [← hs1]; rfl
  have b1 : b.args = c2.head.args.inst σ2 := by rw [← hs2]; rfl
  rw [a1, b1] at hin ⊢
  exact hf c1 hc1 c2 hc2 e1 e2 σ1 σ2 hin

/-- An `AliasEq` fact is the normalized value or the placeholder associated type — nothing else —
    when the `aeq` predicate is defined by exactly the two clauses above. -/
theorem aliasEq_sols (P : Program) (aeq : String) (cNorm cPh : Clause) (hind : P.coind aeq = false)
    (hdef : ∀ c ∈ P.clauses, c.head.pred = aeq → c = cNorm ∨ c = cPh)
    (a : Atom) (ha : a.pred = aeq) (h : Holds P [] a) :
    (∃ σ : Nat → Tm, cNorm.head.inst σ = a ∧ ∀ b ∈ cNorm.body, Holds P [] (b.inst σ)) ∨
    (∃ σ : Nat → Tm, cPh.head.inst σ = a) := by
  obtain ⟨c, hc, σ, hs, hb⟩ := holds_inv P a (by rw [ha]; exact hind) h
  have e : c.head.pred = aeq := by rw [← ha, ← hs]; rfl
  rcases hdef c hc e with rfl | rfl
  · exact Or.inl ⟨σ, hs, hb⟩
  · exact Or.inr ⟨σ, hs⟩

/-- With equal inputs the high-priority (impl) solution wins over the low-priority (placeholder)
    one in the recursive solver's combination — so a unique answer to an `AliasEq` goal is the value. -/
theorem withPriorities_prefers_high (goal : DomainGoal) (hi lo : Solution) (i : List Ty)
    (h1 : calculateInputs goal hi = .ok i) (h2 : calculateInputs goal lo = .ok i) :
    withPriorities goal hi true lo false = .ok (hi, true) ∧
    withPriorities goal lo false hi true = .ok (hi, true) :=
  Chalk.C17.withPriorities_prefers_high goal hi lo i h1 h2

/-- `C02.decide_yes`, `C02.decide_no` at `Γ = []`: the two halves of `evalGoal_sound`. -/
theorem decide_yes (P : Program) (fuel : Nat) (g : Goal) (h : evalGoal P fuel [] g = .yes) : GHolds P [] g :=
  (evalGoal_sound P fuel g []).1 h
theorem decide_no (P : Program) (fuel : Nat) (g : Goal) (h : evalGoal P fuel [] g = .no) : ¬ GHolds P [] g :=
  (evalGoal_sound P fuel g []).2 h

/-- Non-vacuity: `impl<T> Tr for V<T> { type A = W<T>; }`: the normal form of `<V<u32> as Tr>::A`
    is certified to be `W<u32>`, and `W<bool>` is refuted. -/
def demo : Program :=
  ⟨[⟨⟨"norm:A", .cons (.app "V" (.cons (.var 0) .nil)) (.cons (.app "W" (.cons (.var 0) .nil)) .nil)⟩, []⟩], fun _ => false⟩
example : evalGoal demo 5 [] (.atom ⟨"norm:A", .cons (.app "V" (.cons (.app "u32" .nil) .nil))
    (.cons (.app "W" (.cons (.app "u32" .nil) .nil)) .nil)⟩) = .yes := by rfl
example : evalGoal demo 5 [] (.atom ⟨"norm:A", .cons (.app "V" (.cons (.app "u32" .nil) .nil))
    (.cons (.app "W" (.cons (.app "bool" .nil) .nil)) .nil)⟩) = .no := by rfl

end Chalk.C07

#print axioms Chalk.C07.holds_inv
#print axioms Chalk.C07.normalize_unique
#print axioms Chalk.C07.aliasEq_sols
#print axioms Chalk.C07.withPriorities_prefers_high
#print axioms Chalk.C07.decide_yes
#print axioms Chalk.C07.decide_no
