/-
  C03 — SLG answer enumeration is sound, duplicate-free and complete; the look-ahead flag is accurate.
  (1) exact model of the stream logic (`AnswerStream.lean`): push de-duplication, `peek`/`next`
      with the invalid-answer skip, the `solve_multiple` loop and its flag;
  (2) content: the acceptance predicate `judgeEnumeration` over the certified evaluator.
-/
import ChalkModel.Lemmas.StreamLemmas
import ChalkModel.Enumeration
import ChalkModel.Lemmas.ContractLemmas

namespace Chalk.C03
open Chalk.Sem

/-- no sequence of `push_answer` calls ever stores two answers with the same substitution -/
theorem pushAnswer_nodup (as : List StoredAnswer) (t' : STable)
    (h : as.foldlM (fun (t : STable) a => (t.pushAnswer a).map (·.1)) {} = .ok t') :
    (t'.answers.map (·.key)).Nodup :=
  (pushes_nodup as {} t' STable.inv_empty h).1

/-- On a non-floundered table and a callback that always continues, the callback sequence of
    `solve_multiple` is exactly the table's valid answers (no delayed subgoals) in table order — and
    the flag passed with each is `true` iff another valid answer follows (`specYields`). -/
theorem enumerate_eq_filter_and_flag_accurate (answers : List StoredAnswer) (ds : List Bool)
    (hd : ∀ d ∈ ds, d = true) (hl : answers.length < ds.length) :
    solveMultiple false answers ds = specYields (answers.filter validAns) :=
  solveMultiple_spec ds hd answers hl

/-- the flag of the last yielded answer is `false`, of every earlier one `true` -/
theorem flag_last_false (a : StoredAnswer) : specYields [a] = [(classify a, false)] := rfl
theorem flag_earlier_true (a b : StoredAnswer) (r : List StoredAnswer) :
    specYields (a :: b :: r) = (classify a, true) :: specYields (b :: r) := rfl

/-- content, soundness: a rejected answer is certified not to hold for its generic instantiation -/
theorem rejected_not_sound (P : Program) (fuel : Nat) (g : Goal) (cands answers : List (List Tm)) (c : Bool)
    (i : Nat) (σ : List Tm) (h : judgeEnumeration P fuel g cands answers c = .notSound i σ) :
    ¬ GHolds P [] (g.inst (fun k => (σ.getD k (.var k)).inst genericSubst)) := by
  unfold judgeEnumeration at h
  have key : ∀ (l : List (List Tm)) (n : Nat) i σ, firstUnsound P fuel g l n = some (i, σ, .no) →
      ¬ GHolds P [] (g.inst (fun k => (σ.getD k (.var k)).inst genericSubst)) := by
    intro l
    induction l with
    | nil => intro n i σ h; simp [firstUnsound] at h
    | cons x xs ih =>
      intro n i σ h
      simp only [firstUnsound] at h
      split at h
      · exact ih _ _ _ h
      · rename_i v hv
        simp only [Option.some.injEq, Prod.mk.injEq] at h
        obtain ⟨_, h2, h3⟩ := h
        subst h2
        exact (evalGoal_sound P fuel _ []).2 (by rw [← h3])
  split at h
  · rename_i i' σ' hu
    injection h with h1 h2; subst h1; subst h2
    exact key answers 0 _ _ hu
  · cases h
  · split at h
    · cases h
    · split at h
      · split at h <;> cases h
      · cases h

/-- content, completeness: a reported miss is a certified solution that is an instance of none
    of the enumerated answers -/
theorem rejected_misses (P : Program) (fuel : Nat) (g : Goal) (cands answers : List (List Tm)) (c : Bool)
    (θ : List Tm) (h : judgeEnumeration P fuel g cands answers c = .misses θ) :
    GHolds P [] (g.inst (listSubst θ)) ∧ ∀ σ ∈ answers, ∀ τ : Nat → Tm, σ.map (Tm.inst τ) ≠ θ := by
  unfold judgeEnumeration at h
  split at h
  · cases h
  · cases h
  · split at h
    · cases h
    · split at h
      · split at h
        · rename_i θ' rest hf
          injection h with h; subst h
          have hm : θ' ∈ (solutionsAmong P fuel g cands).filter (fun θ => !(answers.any fun σ => isInstance σ θ)) := by
            rw [hf]; simp
          simp only [List.mem_filter, Bool.not_eq_true', List.any_eq_false] at hm
          refine ⟨mem_solutionsAmong hm.1, ?_⟩
          intro σ hσ τ
          have := hm.2 σ hσ
          exact not_instance_of_isInstance_false (by simpa using this) τ
        · cases h
      · cases h

end Chalk.C03

#print axioms Chalk.C03.pushAnswer_nodup
#print axioms Chalk.C03.enumerate_eq_filter_and_flag_accurate
#print axioms Chalk.C03.flag_last_false
#print axioms Chalk.C03.flag_earlier_true
#print axioms Chalk.C03.rejected_not_sound
#print axioms Chalk.C03.rejected_misses
