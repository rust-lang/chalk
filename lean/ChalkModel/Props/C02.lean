/-
  C02 — goals without unknown types are decided definitively, as the program's meaning dictates.
  The deciding object is the acceptance predicate `judgeGround`: the check accepts a solver answer
  only through it, and these theorems say what an acceptance certifies.
-/
import ChalkModel.Lemmas.EvalLemmas
import ChalkModel.OpsSem

namespace Chalk.C02
open Chalk.Sem

/-- A `yes` of Stage A certifies the goal, for every program, hypothesis list, goal and fuel… -/
theorem decide_yes (P : Program) (fuel : Nat) (Γ : List Atom) (g : Goal)
    (h : evalGoal P fuel Γ g = .yes) : GHolds P Γ g := (evalGoal_sound P fuel g Γ).1 h

/-- …and a `no` refutes it. -/
theorem decide_no (P : Program) (fuel : Nat) (Γ : List Atom) (g : Goal)
    (h : evalGoal P fuel Γ g = .no) : ¬ GHolds P Γ g := (evalGoal_sound P fuel g Γ).2 h

/-- An accepted `unique` answer: the goal holds. -/
theorem accepted_unique (P : Program) (fuel : Nat) (g : Goal) (st d : Sexp)
    (h : judgeGround (evalGoal P fuel [] g) .unique = .list [.atom "accepted", st, d]) : GHolds P [] g := by
  cases hv : evalGoal P fuel [] g <;> simp [hv, judgeGround] at h
  exact decide_yes P fuel [] g hv

/-- An accepted `none`: it does not. -/
theorem accepted_none (P : Program) (fuel : Nat) (g : Goal) (st d : Sexp)
    (h : judgeGround (evalGoal P fuel [] g) .none = .list [.atom "accepted", st, d]) : ¬ GHolds P [] g := by
  cases hv : evalGoal P fuel [] g <;> simp [hv, judgeGround] at h
  exact decide_no P fuel [] g hv

/-- `ambig` is never accepted, whatever the verdict. -/
theorem ambig_never_accepted (v : Verdict) (st d : Sexp) :
    judgeGround v .ambig ≠ .list [.atom "accepted", st, d] := by
  cases v <;> simp [judgeGround]

/-- A rejection of a decided goal is a genuine contract violation: the certified verdict
    contradicts the answer (or the answer is `ambig` although the goal is decided). -/
theorem rejected_is_violation (P : Program) (fuel : Nat) (g : Goal) (ans : GroundAnswer) (c d : Sexp)
    (h : judgeGround (evalGoal P fuel [] g) ans = .list [.atom "rejected", c, d]) :
    (GHolds P [] g ∧ ans ≠ .unique) ∨ (¬ GHolds P [] g ∧ ans ≠ .none) := by
  cases hv : evalGoal P fuel [] g <;> cases ans <;> simp [hv, judgeGround] at h
  all_goals first
    | exact Or.inl ⟨decide_yes P fuel [] g hv, by simp⟩
    | exact Or.inr ⟨decide_no P fuel [] g hv, by simp⟩

/-- Non-vacuity: `impl Foo for A` / `impl<T> Foo for V<T> where T: Foo` with an inductive cycle
    `impl Foo for B where B: Foo`: `V<A>: Foo` is certified, `B: Foo` and `V<B>: Foo` are refuted. -/
def demo : Program :=
  ⟨[⟨⟨"Foo", .cons (.app "A" .nil) .nil⟩, []⟩,
    ⟨⟨"Foo", .cons (.app "V" (.cons (.var 0) .nil)) .nil⟩, [⟨"Foo", .cons (.var 0) .nil⟩]⟩,
    ⟨⟨"Foo", .cons (.app "B" .nil) .nil⟩, [⟨"Foo", .cons (.app "B" .nil) .nil⟩]⟩], fun _ => false⟩

example : evalGoal demo 10 [] (.atom ⟨"Foo", .cons (.app "V" (.cons (.app "A" .nil) .nil)) .nil⟩) = .yes := by rfl
example : evalGoal demo 10 [] (.atom ⟨"Foo", .cons (.app "B" .nil) .nil⟩) = .no := by rfl
example : evalGoal demo 10 [] (.atom ⟨"Foo", .cons (.app "V" (.cons (.app "B" .nil) .nil)) .nil⟩) = .no := by rfl

end Chalk.C02

#print axioms Chalk.C02.decide_yes
#print axioms Chalk.C02.decide_no
#print axioms Chalk.C02.accepted_unique
#print axioms Chalk.C02.accepted_none
#print axioms Chalk.C02.ambig_never_accepted
#print axioms Chalk.C02.rejected_is_violation
