/-
  C11C12mixed — C12 ("a panic leaves the solver usable") and C11 ("interrupted solving is a safe
  approximation") for the STRATIFIED MIXED class of `Props/C05mixed.lean`: ground instances with
  coinductive and inductive goals and no mixed cycle (`Mix.MHyp inst P dom lvl`: `dom` closed and ground,
  `lvl` a stratification, `P` the stratified truth).

  Model: `FixedPoint.lean`.  Proofs: `Lemmas/FixedPointMix*.lean` — the invariant allows the third value
  `ambig` (only once `interrupted` is set), and `Mix.solveGoal_spec` says "returns, or budget panic with a
  correct cache", as in `Props/C11fp.lean` / `Props/C12fp.lean` for one polarity;
  `Lemmas/FixedPointHistory.lean` goes from `solve_root_goal` to histories of calls.
  `Holds P v g` is `(v = unique ∧ P g) ∨ (v = noSolution ∧ ¬ P g)` (`holds_iff`).

    `mixed_panic_leaves_cache_correct` — every work budget, quiet oracle, repairs F3/F7: the call returns
        the stratified answer or ends in the budget panic; the cache is correct afterwards either way;
    `mixed_history_with_panics_correct` — histories of such calls: outcomes, cache, next plain call;
    `mixed_interrupted_is_safe_approximation` — any oracle, `Cfg.current`: the stratified answer or
        `ambig` (only if interrupted; exact if the oracle is quiet), correct cache;
    `mixed_history_with_interruptions_correct` — histories of arbitrary calls (any oracle, any budget),
        repairs `fixF3`/`fixF7`/`fixF10`/`fixF16`.
-/
import ChalkModel.Lemmas.FixedPointMixN
import ChalkModel.Props.C05mixed

namespace Chalk.FixedPoint.C11C12mixed
open Chalk.FixedPoint.Cyc (InCache)
open Chalk.FixedPoint.Mix

theorem holds_iff (P : Nat → Prop) (v : V) (g : Nat) :
    Holds P v g ↔ (v = .unique ∧ P g) ∨ (v = .noSolution ∧ ¬ P g) := by
  cases v <;> simp [Holds]

/-- (mixed) a panic at any work step leaves a correct cache -/
theorem mixed_panic_leaves_cache_correct (inst : Instance) (P : Nat → Prop) (dom : List Nat) (lvl : Nat → Nat)
    (hyp : MHyp inst P dom lvl) (cfg : Cfg) (h3 : cfg.fixF3 = true) (h7 : cfg.fixF7 = true)
    (hov : dom.length ≤ cfg.overflowDepth) (hr : 2 ≤ cfg.rounds) (s : St)
    (hq : s.oracle = [] ∧ s.oracleDefault = true) (hok : ∀ k v, InCache s k v → Holds P v k)
    (g : Nat) (hg : g ∈ dom) :
    (∃ v s', solveRootGoal inst cfg g s = .ok v s' ∧ Holds P v g ∧ s'.stack = [] ∧ s'.graph = [] ∧
      (∀ k w, InCache s' k w → Holds P w k) ∧ s'.cache.isSome = s.cache.isSome) ∨
    (∃ s', solveRootGoal inst cfg g s = .panic .budget s' ∧ cfg.budget ≠ none ∧
      (∀ k w, InCache s' k w → Holds P w k)) :=
  (solveRootGoal_general (fx := false) hyp h3 h7 nofun nofun hov hr).quiet s hq hok g hg

/-- (mixed) histories of calls with arbitrary budgets -/
theorem mixed_history_with_panics_correct (inst : Instance) (P : Nat → Prop) (dom : List Nat) (lvl : Nat → Nat)
    (hyp : MHyp inst P dom lvl) (cfg : Cfg) (h3 : cfg.fixF3 = true) (h7 : cfg.fixF7 = true)
    (hov : dom.length ≤ cfg.overflowDepth) (hr : 2 ≤ cfg.rounds) (b : Bool) (ks : List Call)
    (hd : ∀ k, k ∈ ks → (k.oracle = [] ∧ k.dflt = true) ∧ k.goal ∈ dom) (g : Nat) (hg : g ∈ dom) :
    (∀ (i : Nat) (k : Call), ks[i]? = some k →
      (outcomes inst cfg ks (St.fresh b))[i]? = some (.panic .budget) ∧ k.budget ≠ none ∨
      ∃ v, (outcomes inst cfg ks (St.fresh b))[i]? = some (.value v) ∧ Holds P v k.goal) ∧
    (∀ k w, InCache (runHistory inst cfg ks (St.fresh b)) k w → Holds P w k) ∧
    ∃ v, solveOn inst cfg g (runHistory inst cfg ks (St.fresh b)) = .value v ∧ Holds P v g :=
  RootSpec.history_quiet (fun _ => solveRootGoal_general (fx := false) hyp h3 h7 nofun nofun hov hr) ks hd _
    (CacheAll.fresh _ b) g hg

/-- (mixed) interrupted solving is a safe approximation -/
theorem mixed_interrupted_is_safe_approximation (inst : Instance) (P : Nat → Prop) (dom : List Nat)
    (lvl : Nat → Nat) (hyp : MHyp inst P dom lvl) (overflowDepth rounds : Nat) (hov : dom.length ≤ overflowDepth)
    (hr : 2 ≤ rounds) (s : St) (hok : ∀ k v, InCache s k v → Holds P v k) (g : Nat) (hg : g ∈ dom) :
    ∃ v s', solveRootGoal inst (Cfg.current overflowDepth rounds) g s = .ok v s' ∧
      (Holds P v g ∨ v = .ambig) ∧ (v = .ambig → s'.interrupted = true) ∧
      (s.oracle = [] ∧ s.oracleDefault = true → Holds P v g) ∧
      s'.stack = [] ∧ s'.graph = [] ∧ s'.cache.isSome = s.cache.isSome ∧
      (∀ k w, InCache s' k w → Holds P w k) :=
  (solveRootGoal_general (fx := true) hyp rfl rfl (fun _ => rfl) (fun _ => rfl) hov hr).approx rfl
    (fun _ h => h) s hok g hg

/-- (mixed) histories of arbitrary calls: any oracle, any work budget -/
theorem mixed_history_with_interruptions_correct (inst : Instance) (P : Nat → Prop) (dom : List Nat)
    (lvl : Nat → Nat) (hyp : MHyp inst P dom lvl) (cfg : Cfg) (h3 : cfg.fixF3 = true) (h7 : cfg.fixF7 = true)
    (h10 : cfg.fixF10 = true) (h16 : cfg.fixF16 = true) (hov : dom.length ≤ cfg.overflowDepth)
    (hr : 2 ≤ cfg.rounds) (b : Bool) (ks : List Call) (hd : ∀ k, k ∈ ks → k.goal ∈ dom) (g : Nat) (hg : g ∈ dom) :
    (∀ (i : Nat) (k : Call), ks[i]? = some k →
      (outcomes inst cfg ks (St.fresh b))[i]? = some (.panic .budget) ∧ k.budget ≠ none ∨
      ∃ v, (outcomes inst cfg ks (St.fresh b))[i]? = some (.value v) ∧
        (Holds P v k.goal ∨ (v = .ambig ∧ ¬ (k.oracle = [] ∧ k.dflt = true)))) ∧
    (∀ k w, InCache (runHistory inst cfg ks (St.fresh b)) k w → Holds P w k) ∧
    ∃ v, solveOn inst cfg g (runHistory inst cfg ks (St.fresh b)) = .value v ∧ Holds P v g :=
  RootSpec.history (fun _ => solveRootGoal_general hyp h3 h7 (fun _ => h10) (fun _ => h16) hov hr) ks
    (fun k hk => ⟨Or.inl rfl, hd k hk⟩) _ (CacheAll.fresh _ b) g hg

/-! ### non-vacuity on `strata` (`Props/C05mixed.lean`: 6 goals, cycles of both polarities) -/

open Chalk.FixedPoint.C05mixed (strata strataP strataLvl strata_hyp)

/-- a clean solve of goal `5` takes 13 work steps -/
example : (runCall strata (Cfg.current 6 2) (Call.plain 5) (St.fresh true)).state.work = 13 := by decide +kernel

/-- a panic at work step 11, after the inductive fact `3` and the coinductive cycle `2` were cached and
    while `4` and `5` are in progress: the cache holds final entries only, the next solves are exact
    (`5` holds; `0`, a coinductive cycle that needs the failing inductive loop `1`, does not) -/
example :
    outcomes strata (Cfg.current 6 2) [{ goal := 5, budget := some 10 }, Call.plain 5, Call.plain 0]
        (St.fresh true) = [.panic .budget, .value .unique, .value .noSolution] ∧
    cacheDump (runHistory strata (Cfg.current 6 2) [{ goal := 5, budget := some 10 }] (St.fresh true)) =
      [(2, .unique), (3, .unique)] := by decide +kernel

/-- every crash point of the clean run -/
example :
    ((List.range 13).all fun b =>
      outcomes strata (Cfg.current 6 2) [{ goal := 5, budget := some b }, Call.plain 5, Call.plain 0]
        (St.fresh true) == [.panic .budget, .value .unique, .value .noSolution]) = true := by decide +kernel

/-- interrupted at the `k`-th call of `should_continue`, for every `k` a clean run reaches (5 calls):
    `ambig`, nothing provisional cached, the next solves exact -/
example :
    ((List.range 5).all fun k =>
      outcomes strata (Cfg.current 6 2)
        [{ goal := 5, oracle := List.replicate k true ++ [false] }, Call.plain 5, Call.plain 0]
        (St.fresh true) == [.value .ambig, .value .unique, .value .noSolution]) = true ∧
    cacheDump (runHistory strata (Cfg.current 6 2)
      [{ goal := 5, oracle := List.replicate 4 true ++ [false] }] (St.fresh true)) =
      [(2, .unique), (3, .unique)] := by decide +kernel

/-- the theorem, instantiated: whatever panicked or was interrupted before, goal `5` then holds -/
example (ks : List Call) (hd : ∀ k, k ∈ ks → k.goal ∈ [0, 1, 2, 3, 4, 5]) (b : Bool) :
    solveOn strata (Cfg.current 6 2) 5 (runHistory strata (Cfg.current 6 2) ks (St.fresh b)) = .value .unique := by
  obtain ⟨_, _, v, h1, h2⟩ := mixed_history_with_interruptions_correct strata strataP _ strataLvl strata_hyp
    (Cfg.current 6 2) rfl rfl rfl rfl (by decide) (by decide) b ks hd 5 (by decide)
  have : v = .unique := by
    rcases (holds_iff strataP v 5).mp h2 with ⟨e, _⟩ | ⟨_, hn⟩
    · exact e
    · exact absurd (by simp [strataP]) hn
  rw [h1, this]

end Chalk.FixedPoint.C11C12mixed

#print axioms Chalk.FixedPoint.C11C12mixed.holds_iff
#print axioms Chalk.FixedPoint.C11C12mixed.mixed_panic_leaves_cache_correct
#print axioms Chalk.FixedPoint.C11C12mixed.mixed_history_with_panics_correct
#print axioms Chalk.FixedPoint.C11C12mixed.mixed_interrupted_is_safe_approximation
#print axioms Chalk.FixedPoint.C11C12mixed.mixed_history_with_interruptions_correct
