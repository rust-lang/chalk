/-
  C26 — type flags summarize a type's contents accurately.
-/
import ChalkModel.Lemmas.FlagsLemmas

namespace Chalk.C26

/-- Every occurrence flag (all of `TypeFlags` except `STILL_FURTHER_SPECIALIZABLE`) is set in the
    flags of a type exactly when a leaf of the kind it reports occurs somewhere inside the type;
    `Ty.leaves` is a plain traversal that does not mention flags, `Flag.reports` is the table
    "flag ↔ kinds of leaf" fixed in `Flags.lean`.  All types, unbounded. -/
theorem flags_iff_occurs (f : Flag) (hf : f ≠ .stillFurtherSpecializable) (t : Ty) :
    f ∈ t.computeFlags ↔ ∃ lf ∈ t.leaves, f.reports lf = true :=
  Ty.flag_iff f hf t

/-- The `u16` stored with the type has bit `f` set iff a reported leaf occurs. -/
theorem bits_iff_occurs (f : Flag) (hf : f ≠ .stillFurtherSpecializable) (t : Ty) :
    (Flags.toBits t.computeFlags).testBit f.bit = true ↔ ∃ lf ∈ t.leaves, f.reports lf = true := by
  rw [Flags.testBit_toBits]; exact Ty.flag_iff f hf t

/-- Same statement for generic arguments / substitutions. -/
theorem flags_iff_occurs_args (f : Flag) (hf : f ≠ .stillFurtherSpecializable) (a : Args) :
    f ∈ a.computeFlags ↔ ∃ lf ∈ a.leaves, f.reports lf = true :=
  Args.flag_iff f hf a

/-- Distinct flags occupy distinct bits (so the bit test identifies the flag). -/
theorem bit_injective (f g : Flag) (h : f.bit = g.bit) : f = g :=
  Flag.bit_injective h

/-- Non-vacuity: a concrete type with several leaves, and its exact `u16`. -/
example :
    let t := Ty.ref false .static (.app (.adt 3) (.cons (.ty (.infer 2 .general)) (.cons (.lt (.placeholder 1 0)) .nil)))
    Flags.toBits t.computeFlags = 4177 ∧ Flag.hasTyInfer ∈ t.computeFlags ∧ Flag.hasError ∉ t.computeFlags := by
  decide

end Chalk.C26

#print axioms Chalk.C26.flags_iff_occurs
#print axioms Chalk.C26.bits_iff_occurs
#print axioms Chalk.C26.flags_iff_occurs_args
#print axioms Chalk.C26.bit_injective
