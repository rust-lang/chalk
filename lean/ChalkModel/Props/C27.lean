/-
  C27 — in-place folding is memory-safe at every failure point.
  Property theorems only (model: `InPlace.lean`, helper lemmas: `Lemmas/InPlaceLemmas.lean`).

  Every statement is for every layout situation (`Layout`: the two tests `is_layout_identical`,
  `is_zst` select the in-place or the fallback path), every callback `cb : position → id → ok u |
  err | panic`, every vector `pre ++ x :: post` (any length, failure at any position `pre.length`),
  both failure modes (`FailMode.err`, `FailMode.panic`), and for boxes.

  Drop glue: `lay.glueT` / `lay.glueU` say whether `T` / `U` have a destructor.  The drop log only
  records destructor runs of types that have one: `logOf lay ty tag xs` is `xs.map (·, tag)` if
  `ty` has drop glue and `[]` otherwise.  `vec_each_dropped_once` / `box_each_dropped_once` therefore
  speak of the elements whose type has drop glue (leaks of glue-less elements are unobservable and
  not claimed); `vec_no_ub` / `box_no_ub` and `nothingLive` still cover every slot, with or without
  glue.

  Scope: the theorems are about the slot-level model.  The allocator (sizes, capacities, the
  inside of `Vec::from_raw_parts`) is not modelled; "freed exactly once" means: the buffer ends
  `freed` and the run is not `ub` (a second free is `ub` in the model).
-/
import ChalkModel.Lemmas.InPlaceLemmas

namespace Chalk.C27
open Chalk.InPlace

/-- The two families below cover every callback and every vector: either the callback answers
    `ok` on all elements, or there is a first position at which it returns an error or panics. -/
theorem cases_exhaustive (cb : Callback) (ids : List Nat) :
    (∃ us, Oks cb 0 ids us) ∨
    (∃ pre x post us mode, ids = pre ++ x :: post ∧ Oks cb 0 pre us ∧ cb pre.length x = FailMode.out mode) := by
  simpa only [Nat.zero_add] using oks_or_first_failure cb 0 ids

/-! ### vectors -/

/-- On success no element is dropped; the returned vector owns its buffer and holds all the mapped
    values, initialised, in order; a replaced source buffer (fallback path) is empty and freed. -/
theorem vec_success_no_drop (lay : Layout) (cb : Callback) (ids us : List Nat) (h : Oks cb 0 ids us) :
    ∃ st, fallibleMapVec lay cb ids = .fin .ok st ∧
      st.result = ⟨us.map .liveU, .owned⟩ ∧ st.log = [] ∧
      (∀ d, st.dst = some d → st.src.buf = .freed ∧ st.src.nothingLive) := by
  refine ⟨_, vec_run_ok lay cb ids us h, ?_⟩
  unfold okFinal
  split
  · refine ⟨rfl, rfl, fun d _ => ⟨rfl, ?_⟩⟩
    simpa [deadOf] using nothingLive_moved_dead ids []
  · exact ⟨rfl, rfl, fun d hd => by cases hd⟩

/-- On failure at position `pre.length` (error return or panic) the function is left in the
    matching way and the drop log is a permutation of: the failing element (dropped by the
    callback), every already mapped element as `U`, every not yet mapped element as `T` — each
    restricted to the types that have drop glue; and no live value remains in any buffer. -/
theorem vec_each_dropped_once (lay : Layout) (cb : Callback) (mode : FailMode)
    (pre : List Nat) (x : Nat) (post us : List Nat)
    (h : Oks cb 0 pre us) (hx : cb pre.length x = mode.out) :
    ∃ st, fallibleMapVec lay cb (pre ++ x :: post) = .fin mode.exit st ∧
      st.log.Perm (logOf lay .T .cb [x] ++ (logOf lay .U .U us ++ logOf lay .T .T post)) ∧
      st.src.nothingLive ∧ (∀ d, st.dst = some d → d.nothingLive) := by
  refine ⟨_, vec_run_fail lay cb mode pre x post us h hx, ?_⟩
  unfold failFinal
  split
  · refine ⟨List.Perm.append_left _ List.perm_append_comm, nothingLive_moved_dead (pre ++ [x]) post, ?_⟩
    intro d hd; cases hd; exact nothingLive_dead us
  · exact ⟨List.Perm.refl _, nothingLive_dead_moved_dead us post, fun d hd => by cases hd⟩

/-- When both element types have drop glue (the case of chalk's folded values and of the crate's
    unit tests) this is the unrestricted statement: one log entry per position of the vector. -/
theorem vec_each_dropped_once_glue (lay : Layout) (hT : lay.glueT = true) (hU : lay.glueU = true)
    (cb : Callback) (mode : FailMode) (pre : List Nat) (x : Nat) (post us : List Nat)
    (h : Oks cb 0 pre us) (hx : cb pre.length x = mode.out) :
    ∃ st, fallibleMapVec lay cb (pre ++ x :: post) = .fin mode.exit st ∧
      st.log.Perm ((x, Tag.cb) :: (us.map (fun u => (u, Tag.U)) ++ post.map (fun t => (t, Tag.T)))) ∧
      st.log.length = (pre ++ x :: post).length := by
  obtain ⟨st, hrun, hperm, -⟩ := vec_each_dropped_once lay cb mode pre x post us h hx
  rw [logOf_glue (ty := .T) hT, logOf_glue (ty := .U) hU, logOf_glue (ty := .T) hT] at hperm
  refine ⟨st, hrun, hperm, ?_⟩
  simp only [hperm.length_eq, List.length_append, List.length_map, List.length_cons, List.length_nil,
    Oks.length_eq h]
  omega

/-- If the elements are pairwise distinct (ids of the input and ids of the mapped values), no
    entry occurs twice in the drop log: nothing is dropped twice. -/
theorem vec_drop_log_nodup (lay : Layout) (cb : Callback) (mode : FailMode)
    (pre : List Nat) (x : Nat) (post us : List Nat)
    (h : Oks cb 0 pre us) (hx : cb pre.length x = mode.out)
    (hpost : post.Nodup) (hus : us.Nodup) :
    ∀ st, fallibleMapVec lay cb (pre ++ x :: post) = .fin mode.exit st → st.log.Nodup := by
  intro st hst
  obtain ⟨st', hrun, hperm, -⟩ := vec_each_dropped_once lay cb mode pre x post us h hx
  rw [hrun] at hst
  cases hst
  rw [hperm.nodup_iff, List.nodup_append, List.nodup_append]
  refine ⟨logOf_nodup _ _ _ (List.pairwise_singleton _ x), ⟨logOf_nodup _ _ _ hus, logOf_nodup _ _ _ hpost,
    fun a ha b hb => logOf_ne (by decide) ha hb⟩, fun a ha b hb => ?_⟩
  rcases List.mem_append.mp hb with hb | hb <;> exact logOf_ne (by decide) ha hb

/-- On failure every buffer the function owned ends `freed` (and by `vec_no_ub` it was freed only
    once: a second free is `ub`). -/
theorem vec_buffer_freed_once (lay : Layout) (cb : Callback) (mode : FailMode)
    (pre : List Nat) (x : Nat) (post us : List Nat)
    (h : Oks cb 0 pre us) (hx : cb pre.length x = mode.out) :
    ∃ st, fallibleMapVec lay cb (pre ++ x :: post) = .fin mode.exit st ∧
      st.src.buf = .freed ∧ (∀ d, st.dst = some d → d.buf = .freed) := by
  refine ⟨_, vec_run_fail lay cb mode pre x post us h hx, ?_⟩
  unfold failFinal
  split
  · exact ⟨rfl, fun d hd => by cases hd; rfl⟩
  · exact ⟨rfl, fun d hd => by cases hd⟩

/-- No run of `fallible_map_vec` reaches undefined behaviour: no read of a moved-out, dropped or
    freed slot, no double drop, no drop at the wrong type, no double free — for every layout,
    every callback, every vector. -/
theorem vec_no_ub (lay : Layout) (cb : Callback) (ids : List Nat) :
    ∀ s, fallibleMapVec lay cb ids ≠ .ub s := by
  intro s hs
  rcases cases_exhaustive cb ids with ⟨us, h⟩ | ⟨pre, x, post, us, mode, rfl, h, hx⟩
  · obtain ⟨st, hrun, -⟩ := vec_success_no_drop lay cb ids us h
    rw [hrun] at hs; cases hs
  · obtain ⟨st, hrun, -⟩ := vec_buffer_freed_once lay cb mode pre x post us h hx
    rw [hrun] at hs; cases hs

/-- The exit of the function reports what the callback did: `Exit.ok` exactly when every element
    was mapped. -/
theorem vec_exit_ok_iff (lay : Layout) (cb : Callback) (ids : List Nat) :
    (∃ st, fallibleMapVec lay cb ids = .fin .ok st) ↔ ∃ us, Oks cb 0 ids us := by
  constructor
  · rintro ⟨st, hst⟩
    rcases cases_exhaustive cb ids with hok | ⟨pre, x, post, us, mode, rfl, h, hx⟩
    · exact hok
    · obtain ⟨st', hrun, -⟩ := vec_buffer_freed_once lay cb mode pre x post us h hx
      rw [hrun] at hst
      cases mode <;> cases hst
  · rintro ⟨us, h⟩
    obtain ⟨st, hrun, -⟩ := vec_success_no_drop lay cb ids us h
    exact ⟨st, hrun⟩

/-! ### boxes -/

theorem box_success_no_drop (lay : Layout) (cb : Callback) (id u : Nat) (h : cb 0 id = .ok u) :
    ∃ st, fallibleMapBox lay cb id = .fin .ok st ∧
      st.result = ⟨[.liveU u], .owned⟩ ∧ st.log = [] ∧
      (∀ d, st.dst = some d → st.src = ⟨[.moved], .freed⟩) := by
  refine ⟨_, box_run_ok lay cb id u h, ?_⟩
  split
  · exact ⟨rfl, rfl, fun _ _ => rfl⟩
  · exact ⟨rfl, rfl, fun d hd => by cases hd⟩

theorem box_each_dropped_once (lay : Layout) (cb : Callback) (mode : FailMode) (id : Nat)
    (h : cb 0 id = mode.out) :
    ∃ st, fallibleMapBox lay cb id = .fin mode.exit st ∧
      st.log = logOf lay .T .cb [id] ∧ st.src.nothingLive ∧ st.dst = none :=
  ⟨_, box_run_fail lay cb mode id h, rfl, fun _ hs => .inl (List.mem_singleton.mp hs), rfl⟩

theorem box_buffer_freed_once (lay : Layout) (cb : Callback) (mode : FailMode) (id : Nat)
    (h : cb 0 id = mode.out) :
    ∃ st, fallibleMapBox lay cb id = .fin mode.exit st ∧
      st.src.buf = .freed ∧ st.dst = none :=
  ⟨_, box_run_fail lay cb mode id h, rfl, rfl⟩

theorem box_no_ub (lay : Layout) (cb : Callback) (id : Nat) :
    ∀ s, fallibleMapBox lay cb id ≠ .ub s := by
  intro s hs
  cases hc : cb 0 id with
  | ok u =>
    obtain ⟨st, hrun, -⟩ := box_success_no_drop lay cb id u hc
    rw [hrun] at hs; cases hs
  | err =>
    obtain ⟨st, hrun, -⟩ := box_buffer_freed_once lay cb .err id hc
    rw [hrun] at hs; cases hs
  | panic =>
    obtain ⟨st, hrun, -⟩ := box_buffer_freed_once lay cb .panic id hc
    rw [hrun] at hs; cases hs

/-! ### non-vacuity -/

/-- the callback of the crate's own unit tests: fails on the element with id `bad` -/
def testCb (bad : Nat) (mode : FailMode) : Callback :=
  fun _ id => if id = bad then mode.out else .ok (id + 65)

/-- hypotheses of the failure theorems are satisfiable by a non-trivial value -/
example : Oks (testCb 2 .err) 0 [0, 1] [65, 66] ∧ testCb 2 .err [0, 1].length 2 = FailMode.err.out := by
  simp [Oks, testCb, FailMode.out]

/-- `vec_cleanup_after_early_return` of in_place.rs: drops `2, A, B, 3, 4` in this order -/
example : fallibleMapVec { identical := true, zst := false } (testCb 2 .err) [0, 1, 2, 3, 4]
    = .fin .err ⟨⟨[.dropped, .dropped, .moved, .dropped, .dropped], .freed⟩, none,
        [(2, .cb), (65, .U), (66, .U), (3, .T), (4, .T)]⟩ := by rfl

/-- `vec_cleanup_after_panic`: drops `3, A, B, C, 4` -/
example : fallibleMapVec { identical := true, zst := false } (testCb 3 .panic) [0, 1, 2, 3, 4]
    = .fin .panic ⟨⟨[.dropped, .dropped, .dropped, .moved, .dropped], .freed⟩, none,
        [(3, .cb), (65, .U), (66, .U), (67, .U), (4, .T)]⟩ := by rfl

/-- the same failure on the fallback path (different layout): two buffers, both freed -/
example : fallibleMapVec { identical := false, zst := false } (testCb 2 .err) [0, 1, 2, 3, 4]
    = .fin .err ⟨⟨[.moved, .moved, .moved, .dropped, .dropped], .freed⟩,
        some ⟨[.dropped, .dropped], .freed⟩,
        [(2, .cb), (3, .T), (4, .T), (65, .U), (66, .U)]⟩ := by rfl

/-- success: buffer reused, nothing dropped -/
example : fallibleMapVec { identical := true, zst := false } (testCb 9 .err) [0, 1, 2]
    = .fin .ok ⟨⟨[.liveU 65, .liveU 66, .liveU 67], .owned⟩, none, []⟩ := by rfl

example : fallibleMapBox { identical := true, zst := false } (testCb 0 .panic) 0
    = .fin .panic ⟨⟨[.moved], .freed⟩, none, [(0, .cb)]⟩ := by rfl

/-- drop glue: with a plain `T` (no destructor) and a drop-recording `U`, only the mapped prefix
    shows in the log — and it must show: a guard that skipped its loops would leak `65`, `66` -/
example : fallibleMapVec { identical := true, zst := false, glueT := false } (testCb 2 .err) [0, 1, 2, 3, 4]
    = .fin .err ⟨⟨[.dropped, .dropped, .moved, .dropped, .dropped], .freed⟩, none,
        [(65, .U), (66, .U)]⟩ := by rfl
example : fallibleMapVec { identical := true, zst := false, glueU := false } (testCb 2 .err) [0, 1, 2, 3, 4]
    = .fin .err ⟨⟨[.dropped, .dropped, .moved, .dropped, .dropped], .freed⟩, none,
        [(2, .cb), (3, .T), (4, .T)]⟩ := by rfl

/-- `ub` is reachable in the model (so `vec_no_ub` says something): with the slot at index 1 handed
    to the callback, the guard with the right `map_in_progress` cleans up, a guard that is one off
    in either direction runs a destructor on the moved-out slot … -/
example : guardDrop { identical := true, zst := false } ⟨3, 1⟩ ⟨[.liveU 65, .moved, .liveT 2], .owned⟩ []
    = .ok (⟨[.dropped, .moved, .dropped], .freed⟩, [(65, .U), (2, .T)]) := by rfl
example : guardDrop { identical := true, zst := false } ⟨3, 0⟩ ⟨[.liveU 65, .moved, .liveT 2], .owned⟩ []
    = .ub "drop_in_place of moved-out slot" := by rfl
example : guardDrop { identical := true, zst := false } ⟨3, 2⟩ ⟨[.liveU 65, .moved, .liveT 2], .owned⟩ []
    = .ub "drop_in_place of moved-out slot" := by rfl
/-- … and running the guard's destructor after `finish` would free twice / drop twice. -/
example : (Region.mk [] .freed).free = .ub "double free" := by rfl
example : dropRange { identical := true, zst := false } .U 1 0 ⟨[.dropped], .owned⟩ [] = .ub "double drop" := by rfl

end Chalk.C27

#print axioms Chalk.C27.cases_exhaustive
#print axioms Chalk.C27.vec_success_no_drop
#print axioms Chalk.C27.vec_each_dropped_once
#print axioms Chalk.C27.vec_each_dropped_once_glue
#print axioms Chalk.C27.vec_drop_log_nodup
#print axioms Chalk.C27.vec_buffer_freed_once
#print axioms Chalk.C27.vec_no_ub
#print axioms Chalk.C27.vec_exit_ok_iff
#print axioms Chalk.C27.box_success_no_drop
#print axioms Chalk.C27.box_each_dropped_once
#print axioms Chalk.C27.box_buffer_freed_once
#print axioms Chalk.C27.box_no_ub
