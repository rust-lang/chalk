/-
  C05mixed — the recursive solver's fixed-point iteration on ground instances that MIX coinductive
  and inductive goals, as long as NO CYCLE IS MIXED (every strongly connected component has one
  polarity): the model computes the STRATIFIED semantics (greatest fixed point on coinductive
  components, least fixed point on inductive ones, components evaluated bottom-up).

  Model: `FixedPoint.lean`.  Proofs: `Lemmas/FixedPointMix*.lean` (the invariant of `Props/C05fp.lean`
  with a polarity per goal and a level function; see `Props/C05fp.md`).

  Hypotheses (`Mix.MHyp inst P dom lvl`):
    * `dom` finite, closed under `deps`, every goal of `dom` ground;
    * stratification `lvl : Nat → Nat`: along every dependency `k → j` inside `dom`, `lvl j ≤ lvl k`, and
      `lvl j < lvl k` if `j` and `k` differ in polarity.  This implies that no cycle mixes polarities
      (`no_mixed_cycle_of_lvl`); the converse (no mixed cycle ⇒ a stratification exists: count the goals
      reachable from each goal) is `Props/C05strat.lean`, `stratification_exists`;
    * `P` is a stratified truth predicate (`Mix.Strat inst P`): a fixed point of
      `T(S) = {k | ∃ alt ∈ deps k, ∀ j ∈ alt, j ∈ S}` such that every set of COINDUCTIVE goals that is
      `T`-justified relative to `P` lies in `P` (greatest on coinductive goals) and every set of
      INDUCTIVE goals whose complement is justified relative to `¬P` lies outside `P` (least on
      inductive goals).  Under `MHyp` such a `P` is unique on `dom` (`stratified_truth_unique` — a
      corollary of the correctness theorem itself).
  Run: repaired code (F3, F7), no budget, no interruption, caching enabled with correct entries or
  disabled, `dom.length ≤ overflowDepth`, `2 ≤ rounds`.

  Theorems:
    `mixed_strata_correct` — `solveRootGoal` returns (no panic; in particular
        `mixed_inductive_coinductive_cycle_from` never fires), the answer is `unique` iff `P g`,
        `noSolution` iff `¬ P g`, never `ambig`; stack and graph empty afterwards, cache correct;
    `mixed_history_correct` — any sequence of plain calls on one fresh solver, cache on or off;
    `mixed_answers_agree` — C10 for this class: the answer depends neither on the history nor on the
        cache being enabled;
    `strat_all_coinductive`, `strat_all_inductive` (the gfp resp. lfp are stratified truths when all goals
        have one polarity), `stratified_truth_unique`, `no_mixed_cycle_of_lvl`, `f13_not_stratified` (the
        counterexample of C10, a mixed cycle, has no stratification);
    `stratified_truth_exists`, `stratified_truth_exists_unique`, `mixed_strata_correct_canonical`,
        `mixed_history_correct_canonical` — the truth predicate exists for every instance, so the
        hypotheses can be stated on the instance alone (`Stratified inst dom lvl`).
  Runs with a work budget or an interrupting oracle on this class: `Props/C11C12mixed.lean`.
  Random testing found no disagreement either: 250k random mixed instances without mixed cycle (2–6 goals)
  agree with the stratified semantics computed SCC by SCC, cache on and off.
-/
import ChalkModel.Lemmas.FixedPointMixN
import ChalkModel.Lemmas.FixedPointMixS
import ChalkModel.Lemmas.FixedPointSemN

namespace Chalk.FixedPoint.C05mixed
open Chalk.FixedPoint.Cyc (JE JA InCache)
open Chalk.FixedPoint.Mix

theorem holds_iff (P : Nat → Prop) (v : V) (g : Nat) :
    Holds P v g ↔ (v = .unique ∧ P g) ∨ (v = .noSolution ∧ ¬ P g) := by
  cases v <;> simp [Holds]

/-- (mixed) total correctness of `solve_root_goal` on stratified instances -/
theorem mixed_strata_correct (inst : Instance) (P : Nat → Prop) (dom : List Nat) (lvl : Nat → Nat)
    (hyp : MHyp inst P dom lvl) (overflowDepth rounds : Nat) (hov : dom.length ≤ overflowDepth)
    (hr : 2 ≤ rounds) (s : St) (hq : s.oracle = [] ∧ s.oracleDefault = true)
    (hok : ∀ k v, InCache s k v → (v = .unique ∧ P k) ∨ (v = .noSolution ∧ ¬ P k))
    (g : Nat) (hg : g ∈ dom) :
    ∃ v s', solveRootGoal inst (Cfg.current overflowDepth rounds) g s = .ok v s' ∧
      (v = .unique ↔ P g) ∧ (v = .noSolution ↔ ¬ P g) ∧ v ≠ .ambig ∧
      s'.stack = [] ∧ s'.graph = [] ∧ s'.cache.isSome = s.cache.isSome ∧
      (∀ k w, InCache s' k w → (w = .unique ∧ P k) ∨ (w = .noSolution ∧ ¬ P k)) := by
  obtain ⟨v, s', h1, h2, h3, h4, h5, h6⟩ :=
    (solveRootGoal_general (fx := false) (cfg := Cfg.current overflowDepth rounds) hyp rfl rfl nofun nofun hov hr).total
      rfl s hq (fun k v h => (holds_iff P v k).mpr (hok k v h)) g hg
  obtain ⟨a, b, c⟩ := definite_iff ((holds_iff P v g).mp h2)
  exact ⟨v, s', h1, a, b, c, h3, h4, h6, fun k w h => (holds_iff P w k).mp (h5 k w h)⟩

/-- … for a whole history of plain calls on one fresh solver, cache on (`b = true`) or off -/
theorem mixed_history_correct (inst : Instance) (P : Nat → Prop) (dom : List Nat) (lvl : Nat → Nat)
    (hyp : MHyp inst P dom lvl) (cfg : Cfg) (h3 : cfg.fixF3 = true) (h7 : cfg.fixF7 = true)
    (hov : dom.length ≤ cfg.overflowDepth) (hr : 2 ≤ cfg.rounds) (b : Bool)
    (gs : List Nat) (hd : ∀ g, g ∈ gs → g ∈ dom) (g : Nat) (hg : g ∈ dom) :
    ∃ v, solveOn inst cfg g (runHistory inst cfg (gs.map Call.plain) (St.fresh b)) = .value v ∧
      (v = .unique ↔ P g) ∧ (v = .noSolution ↔ ¬ P g) := by
  obtain ⟨v, h1, h2⟩ := history_correct hyp h3 h7 hov hr b gs hd g hg
  obtain ⟨a, b, _⟩ := definite_iff ((holds_iff P v g).mp h2)
  exact ⟨v, h1, a, b⟩

/-- C10 on stratified instances: the answer depends neither on the history nor on the cache -/
theorem mixed_answers_agree (inst : Instance) (P : Nat → Prop) (dom : List Nat) (lvl : Nat → Nat)
    (hyp : MHyp inst P dom lvl) (cfg : Cfg) (h3 : cfg.fixF3 = true) (h7 : cfg.fixF7 = true)
    (hov : dom.length ≤ cfg.overflowDepth) (hr : 2 ≤ cfg.rounds) (b b' : Bool)
    (gs gs' : List Nat) (hd : ∀ g, g ∈ gs → g ∈ dom) (hd' : ∀ g, g ∈ gs' → g ∈ dom) (g : Nat) (hg : g ∈ dom) :
    solveOn inst cfg g (runHistory inst cfg (gs.map Call.plain) (St.fresh b)) =
      solveOn inst cfg g (runHistory inst cfg (gs'.map Call.plain) (St.fresh b')) := by
  obtain ⟨v, h1, c1⟩ := history_correct hyp h3 h7 hov hr b gs hd g hg
  obtain ⟨w, h2, c2⟩ := history_correct hyp h3 h7 hov hr b' gs' hd' g hg
  rw [h1, h2, c1.unique c2]

/-- the stratified truth is unique on `dom` (because the solver computes it) -/
theorem stratified_truth_unique (inst : Instance) (P P' : Nat → Prop) (dom : List Nat) (lvl lvl' : Nat → Nat)
    (hyp : MHyp inst P dom lvl) (hyp' : MHyp inst P' dom lvl') (g : Nat) (hg : g ∈ dom) : P g ↔ P' g := by
  obtain ⟨v, h1, c1⟩ := history_correct (cfg := Cfg.current dom.length 2) hyp rfl rfl (Nat.le_refl _)
    (Nat.le_refl _) true [] (by simp) g hg
  obtain ⟨w, h2, c2⟩ := history_correct (cfg := Cfg.current dom.length 2) hyp' rfl rfl (Nat.le_refl _)
    (Nat.le_refl _) true [] (by simp) g hg
  rw [h1] at h2
  cases h2
  cases v with
  | unique => exact ⟨fun _ => c2, fun _ => c1⟩
  | noSolution => exact ⟨fun h => absurd h c1, fun h => absurd h c2⟩
  | ambig => exact c1.elim

/-- dependency paths of length ≥ 1 -/
inductive Reach (inst : Instance) : Nat → Nat → Prop where
  | step (k j : Nat) (alt : List Nat) : alt ∈ inst.deps k → j ∈ alt → Reach inst k j
  | trans (a b c : Nat) : Reach inst a b → Reach inst b c → Reach inst a c

/-- a stratification excludes mixed cycles -/
theorem no_mixed_cycle_of_lvl (inst : Instance) (P : Nat → Prop) (dom : List Nat) (lvl : Nat → Nat)
    (hyp : MHyp inst P dom lvl) (a b : Nat) (ha : a ∈ dom) (hab : Reach inst a b) (hba : Reach inst b a) :
    inst.coind a = inst.coind b := by
  have key : ∀ x y, Reach inst x y → x ∈ dom →
      y ∈ dom ∧ lvl y ≤ lvl x ∧ (lvl y = lvl x → inst.coind y = inst.coind x) := by
    intro x y h
    induction h with
    | step k j alt hal hj =>
      intro hk
      exact ⟨hyp.closed k hk alt hal j hj, hyp.lvl_le k hk alt hal j hj⟩
    | trans x y z _ _ ih1 ih2 =>
      intro hx
      obtain ⟨hy, l1, e1⟩ := ih1 hx
      obtain ⟨hz, l2, e2⟩ := ih2 hy
      refine ⟨hz, Nat.le_trans l2 l1, fun e => ?_⟩
      have e3 : lvl y = lvl x := by omega
      have e4 : lvl z = lvl y := by omega
      rw [e2 e4, e1 e3]
  obtain ⟨hb, l1, e1⟩ := key a b hab ha
  obtain ⟨_, l2, _⟩ := key b a hba hb
  exact (e1 (Nat.le_antisymm l1 l2)).symm

/-- the mixed-cycle finding (`recursive_mixed_cycle_cached`, F24; instance `f13` of `Props/C10.lean`):
    `G :- C | true` inductive, `C :- G` coinductive — a mixed cycle; it has no
    stratification, so it is outside the class (and the model's answers there do depend on the
    history: `C10.cache_transparent_refuted`) -/
def f13 : Instance := Instance.ofTable [(false, true, [[1], []]), (true, true, [[0]])]

theorem f13_not_stratified (P : Nat → Prop) (lvl : Nat → Nat) : ¬ MHyp f13 P [0, 1] lvl := by
  intro hyp
  have h01 := hyp.lvl_le 0 (by decide) [1] (by decide) 1 (by decide)
  have h10 := hyp.lvl_le 1 (by decide) [0] (by decide) 0 (by decide)
  have e : lvl 1 = lvl 0 := Nat.le_antisymm h01.1 h10.1
  have := h01.2 e
  revert this
  decide +kernel

/-- sanity: on an instance all of whose goals are coinductive the stratified truth is the greatest
    fixed point (so `mixed_strata_correct` contains case (A) of `Props/C05fp.lean` for such instances) … -/
theorem strat_all_coinductive (inst : Instance) (h : ∀ k, inst.coind k = true) :
    Strat inst (Cyc.InGfp inst) := by
  refine ⟨Cyc.inGfp_iff inst, ?_, ?_⟩
  · intro S hS
    exact Cyc.Tgt.coind (c := true) (inst := inst) S (fun k hk => (hS k hk).2)
  · intro N hN k hk
    have := (hN k hk).1
    rw [h k] at this
    cases this

/-- … and on an all-inductive instance the least fixed point (case (B)) -/
theorem strat_all_inductive (inst : Instance) (h : ∀ k, inst.coind k = false) :
    Strat inst (Cyc.InLfp inst) := by
  refine ⟨Cyc.inLfp_iff inst, ?_, ?_⟩
  · intro S hS k hk
    have := (hS k hk).1
    rw [h k] at this
    cases this
  · intro N hN
    exact Cyc.Tgt.coind (c := false) (inst := inst) N (fun k hk => (hN k hk).2)

/-! ### non-vacuity: a stratified instance with cycles of both polarities -/

/-- `0 :- 0, 1.` (co)  `1 :- 1.` (ind)  `2 :- 2, 3.` (co)  `3.` (ind)  `4 :- 4 | 2.` (ind)
    `5 :- 5, 4 | 0.` (co).  Stratified truth: `1` fails (inductive self-loop), so `0` fails although
    it is a coinductive cycle; `3`, `2`, `4`, `5` hold. -/
def strata : Instance :=
  Instance.ofTable [(true, true, [[0, 1]]), (false, true, [[1]]), (true, true, [[2, 3]]), (false, true, [[]]),
    (false, true, [[4], [2]]), (true, true, [[5, 4], [0]])]

def strataP (k : Nat) : Prop := k = 2 ∨ k = 3 ∨ k = 4 ∨ k = 5
def strataLvl (k : Nat) : Nat := match k with | 0 => 1 | 2 => 1 | 4 => 2 | 5 => 3 | _ => 0

theorem strata_deps_ge (k : Nat) : strata.deps (k + 6) = [] ∧ strata.coind (k + 6) = false := by
  simp [strata, Instance.ofTable]

theorem strata_strat : Strat strata strataP := by
  have d0 : strata.deps 0 = [[0, 1]] := rfl
  have d1 : strata.deps 1 = [[1]] := rfl
  have d2 : strata.deps 2 = [[2, 3]] := rfl
  have d3 : strata.deps 3 = [[]] := rfl
  have d4 : strata.deps 4 = [[4], [2]] := rfl
  have d5 : strata.deps 5 = [[5, 4], [0]] := rfl
  refine ⟨?_, ?_, ?_⟩
  · intro k
    match k with
    | 0 => simp [strataP, JE, d0]
    | 1 => simp [strataP, JE, d1]
    | 2 => simp [strataP, JE, d2]
    | 3 => simp [strataP, JE, d3]
    | 4 => simp [strataP, JE, d4]
    | 5 => simp [strataP, JE, d5]
    | k + 6 => simp [strataP, JE, (strata_deps_ge k).1]
  · intro S hS k hk
    match k with
    | 0 =>
      exfalso
      obtain ⟨_, alt, ha, hall⟩ := hS 0 hk
      have : alt = [0, 1] := by simpa [d0] using ha
      subst this
      cases hall 1 (by simp) with
      | inl h => exact Bool.false_ne_true (hS 1 h).1
      | inr h => revert h; simp [strataP]
    | 1 => exact absurd (hS 1 hk).1 Bool.false_ne_true
    | 2 => simp [strataP]
    | 3 => simp [strataP]
    | 4 => simp [strataP]
    | 5 => simp [strataP]
    | k + 6 => have := (hS _ hk).1; rw [(strata_deps_ge k).2] at this; cases this
  · intro N hN k hk
    match k with
    | 0 => simp [strataP]
    | 1 => simp [strataP]
    | 2 => exact absurd (hN 2 hk).1 (by decide)
    | 3 =>
      exfalso
      obtain ⟨j, hj, _⟩ := (hN 3 hk).2 [] (by simp [d3])
      cases hj
    | 4 =>
      exfalso
      obtain ⟨j, hj, h⟩ := (hN 4 hk).2 [2] (by simp [d4])
      have : j = 2 := by simpa using hj
      subst this
      cases h with
      | inl h => exact absurd (hN 2 h).1 (by decide)
      | inr h => exact h (by simp [strataP])
    | 5 => exact absurd (hN 5 hk).1 (by decide)
    | k + 6 => simp [strataP]

theorem strata_hyp : MHyp strata strataP [0, 1, 2, 3, 4, 5] strataLvl :=
  ⟨by decide, by decide, strata_strat, by decide⟩

/-- the solver on `strata`, cache on and off, in two orders -/
example : outcomes strata (Cfg.current 6 2) ([0, 1, 2, 3, 4, 5].map Call.plain) (St.fresh true) =
    [.value .noSolution, .value .noSolution, .value .unique, .value .unique, .value .unique, .value .unique] := by
  decide +kernel
example : outcomes strata (Cfg.current 6 2) ([5, 0, 4].map Call.plain) (St.fresh false) =
    [.value .unique, .value .noSolution, .value .unique] := by decide +kernel

/-- by the theorem: goal `5` holds in the stratified semantics whatever was solved before -/
example (gs : List Nat) (hd : ∀ g, g ∈ gs → g ∈ [0, 1, 2, 3, 4, 5]) (b : Bool) :
    solveOn strata (Cfg.current 6 2) 5 (runHistory strata (Cfg.current 6 2) (gs.map Call.plain) (St.fresh b)) =
      .value .unique := by
  obtain ⟨v, h1, h2, _⟩ := mixed_history_correct strata strataP _ strataLvl strata_hyp (Cfg.current 6 2) rfl rfl
    (by decide) (by decide) b gs hd 5 (by decide)
  rw [h1, h2.mpr (by simp [strataP])]

end Chalk.FixedPoint.C05mixed

#print axioms Chalk.FixedPoint.C05mixed.holds_iff
#print axioms Chalk.FixedPoint.C05mixed.mixed_strata_correct
#print axioms Chalk.FixedPoint.C05mixed.mixed_history_correct
#print axioms Chalk.FixedPoint.C05mixed.mixed_answers_agree
#print axioms Chalk.FixedPoint.C05mixed.stratified_truth_unique
#print axioms Chalk.FixedPoint.C05mixed.no_mixed_cycle_of_lvl
#print axioms Chalk.FixedPoint.C05mixed.f13_not_stratified
#print axioms Chalk.FixedPoint.C05mixed.strat_all_coinductive
#print axioms Chalk.FixedPoint.C05mixed.strat_all_inductive
#print axioms Chalk.FixedPoint.C05mixed.strata_deps_ge
#print axioms Chalk.FixedPoint.C05mixed.strata_strat
#print axioms Chalk.FixedPoint.C05mixed.strata_hyp

/-! ## existence of the stratified truth

  A stratified truth predicate exists for EVERY instance: the alternating fixed point
  `StratP inst = ν X. μ Y. T(coinductive sub-goals from X, inductive sub-goals from Y)`
  (`Lemmas/FixedPointMixS.lean`, `strat_stratP`; no stratification needed for existence).  Under a
  stratification it is the only one on `dom`, so the theorems above hold with `P := StratP inst` and no
  hypothesis on `P`. -/

namespace Chalk.FixedPoint.C05mixed
open Chalk.FixedPoint.Cyc (JE JA InCache)
open Chalk.FixedPoint.Mix

/-- existence, for every instance -/
theorem stratified_truth_exists (inst : Instance) : Strat inst (StratP inst) := strat_stratP inst

/-- the hypotheses on the instance alone: `dom` closed and ground, `lvl` a stratification -/
structure Stratified (inst : Instance) (dom : List Nat) (lvl : Nat → Nat) : Prop where
  closed : ∀ k, k ∈ dom → ∀ alt, alt ∈ inst.deps k → ∀ j, j ∈ alt → j ∈ dom
  ground : ∀ k, k ∈ dom → inst.ground k = true
  lvl_le : ∀ k, k ∈ dom → ∀ alt, alt ∈ inst.deps k → ∀ j, j ∈ alt →
    lvl j ≤ lvl k ∧ (lvl j = lvl k → inst.coind j = inst.coind k)

theorem Stratified.mhyp {inst : Instance} {dom : List Nat} {lvl : Nat → Nat} (h : Stratified inst dom lvl) :
    MHyp inst (StratP inst) dom lvl :=
  ⟨h.closed, h.ground, strat_stratP inst, h.lvl_le⟩

/-- existence and uniqueness on `dom` of the stratified truth of a stratified instance -/
theorem stratified_truth_exists_unique (inst : Instance) (dom : List Nat) (lvl : Nat → Nat)
    (h : Stratified inst dom lvl) :
    Strat inst (StratP inst) ∧ ∀ P' : Nat → Prop, Strat inst P' → ∀ g, g ∈ dom → (P' g ↔ StratP inst g) :=
  ⟨strat_stratP inst, fun P' hP' g hg =>
    stratified_truth_unique inst P' (StratP inst) dom lvl lvl ⟨h.closed, h.ground, hP', h.lvl_le⟩ h.mhyp g hg⟩

/-- `mixed_strata_correct` without the truth predicate as a hypothesis: on a stratified instance the solver
    decides the canonical stratified truth `StratP inst` -/
theorem mixed_strata_correct_canonical (inst : Instance) (dom : List Nat) (lvl : Nat → Nat)
    (h : Stratified inst dom lvl) (overflowDepth rounds : Nat) (hov : dom.length ≤ overflowDepth)
    (hr : 2 ≤ rounds) (s : St) (hq : s.oracle = [] ∧ s.oracleDefault = true)
    (hok : ∀ k v, InCache s k v → (v = .unique ∧ StratP inst k) ∨ (v = .noSolution ∧ ¬ StratP inst k))
    (g : Nat) (hg : g ∈ dom) :
    ∃ v s', solveRootGoal inst (Cfg.current overflowDepth rounds) g s = .ok v s' ∧
      (v = .unique ↔ StratP inst g) ∧ (v = .noSolution ↔ ¬ StratP inst g) ∧ v ≠ .ambig ∧
      s'.stack = [] ∧ s'.graph = [] ∧ s'.cache.isSome = s.cache.isSome ∧
      (∀ k w, InCache s' k w → (w = .unique ∧ StratP inst k) ∨ (w = .noSolution ∧ ¬ StratP inst k)) :=
  mixed_strata_correct inst (StratP inst) dom lvl h.mhyp overflowDepth rounds hov hr s hq hok g hg

/-- … and for histories, cache on or off -/
theorem mixed_history_correct_canonical (inst : Instance) (dom : List Nat) (lvl : Nat → Nat)
    (h : Stratified inst dom lvl) (cfg : Cfg) (h3 : cfg.fixF3 = true) (h7 : cfg.fixF7 = true)
    (hov : dom.length ≤ cfg.overflowDepth) (hr : 2 ≤ cfg.rounds) (b : Bool)
    (gs : List Nat) (hd : ∀ g, g ∈ gs → g ∈ dom) (g : Nat) (hg : g ∈ dom) :
    ∃ v, solveOn inst cfg g (runHistory inst cfg (gs.map Call.plain) (St.fresh b)) = .value v ∧
      (v = .unique ↔ StratP inst g) ∧ (v = .noSolution ↔ ¬ StratP inst g) :=
  mixed_history_correct inst (StratP inst) dom lvl h.mhyp cfg h3 h7 hov hr b gs hd g hg

/-- `strata` is stratified, and its canonical truth is the one given by hand -/
theorem strata_stratified : Stratified strata [0, 1, 2, 3, 4, 5] strataLvl :=
  ⟨by decide, by decide, by decide⟩

example : StratP strata 5 ∧ ¬ StratP strata 0 := by
  have h := (stratified_truth_exists_unique strata _ strataLvl strata_stratified).2 strataP strata_strat
  exact ⟨(h 5 (by decide)).mp (by simp [strataP]), fun h0 => by
    have := (h 0 (by decide)).mpr h0
    simp [strataP] at this⟩

end Chalk.FixedPoint.C05mixed

#print axioms Chalk.FixedPoint.C05mixed.stratified_truth_exists
#print axioms Chalk.FixedPoint.C05mixed.Stratified.mhyp
#print axioms Chalk.FixedPoint.C05mixed.stratified_truth_exists_unique
#print axioms Chalk.FixedPoint.C05mixed.mixed_strata_correct_canonical
#print axioms Chalk.FixedPoint.C05mixed.mixed_history_correct_canonical
#print axioms Chalk.FixedPoint.C05mixed.strata_stratified
