import ChalkModel.Aggregate

namespace Chalk

/-! `r.genOf t`: `t` is a structural instance of the pattern `r`, whose variables are its bound
    variables `^_._`. -/

def Lifetime.genOf : Lifetime → Lifetime → Bool
  | .bound _ _, _ => true
  | r, t => r == t

/-- the pattern variable matches anything; otherwise the *values* agree (the types of corresponding constants
    agree by typing and are not compared by the Rust code either) -/
def Const.genOf : Const → Const → Bool
  | .mk _ (.bound _ _), _ => true
  | .mk _ v, .mk _ v' => v == v'

mutual
  def Ty.genOf : Ty → Ty → Bool
    | .bound _ _, _ => true
    | .app n a, .app n' a' => n == n' && a.genOf a'
    | .proj i a, .proj i' a' => i == i' && a.genOf a'
    | .opaque i a, .opaque i' a' => i == i' && a.genOf a'
    | .slice t, .slice t' => t.genOf t'
    | .raw m t, .raw m' t' => m == m' && t.genOf t'
    | .ref m l t, .ref m' l' t' => m == m' && l.genOf l' && t.genOf t'
    | .array t c, .array t' c' => t.genOf t' && c.genOf c'
    | .scalar s, .scalar s' => s == s'
    | .foreign s, .foreign s' => s == s'
    | .placeholder u i, .placeholder u' i' => u == u' && i == i'
    | .str, .str => true
    | .never, .never => true
    | .error, .error => true
    | _, _ => false
  def GArg.genOf : GArg → GArg → Bool
    | .ty r, .ty t => r.genOf t
    | .lt r, .lt t => r.genOf t
    | .ct r, .ct t => r.genOf t
    | _, _ => false
  def Args.genOf : Args → Args → Bool
    | .nil, .nil => true
    | .cons r rs, .cons t ts => r.genOf t && rs.genOf ts
    | _, _ => false
end

theorem Ty.genOf_inv {r t : Ty} : r.genOf t = true →
    match r with
    | .bound .. => True
    | .app n a => ∃ a', t = .app n a' ∧ a.genOf a' = true
    | .proj i a => ∃ a', t = .proj i a' ∧ a.genOf a' = true
    | .opaque i a => ∃ a', t = .opaque i a' ∧ a.genOf a' = true
    | .slice x => ∃ x', t = .slice x' ∧ x.genOf x' = true
    | .raw m x => ∃ x', t = .raw m x' ∧ x.genOf x' = true
    | .ref m l x => ∃ l' x', t = .ref m l' x' ∧ l.genOf l' = true ∧ x.genOf x' = true
    | .array x c => ∃ x' c', t = .array x' c' ∧ x.genOf x' = true ∧ c.genOf c' = true
    | .dyn .. | .function .. | .infer .. => False
    | r => t = r := by
  intro h
  unfold Ty.genOf at h
  split at h  -- one bullet for each arm of `Ty.genOf`, in its order
  any_goals simp only [Bool.and_eq_true, beq_iff_eq] at h
  · trivial
  · obtain ⟨rfl, h⟩ := h; exact ⟨_, rfl, h⟩
  · obtain ⟨rfl, h⟩ := h; exact ⟨_, rfl, h⟩
  · obtain ⟨rfl, h⟩ := h; exact ⟨_, rfl, h⟩
  · exact ⟨_, rfl, h⟩
  · obtain ⟨rfl, h⟩ := h; exact ⟨_, rfl, h⟩
  · obtain ⟨⟨rfl, hl⟩, h⟩ := h; exact ⟨_, _, rfl, hl, h⟩
  · exact ⟨_, _, rfl, h⟩
  · rw [h]
  · rw [h]
  · rw [h.1, h.2]
  · rfl
  · rfl
  · rfl
  · cases h

theorem GArg.genOf_inv {r t : GArg} : r.genOf t = true →
    match r with
    | .ty a => ∃ b, t = .ty b ∧ a.genOf b = true
    | .lt a => ∃ b, t = .lt b ∧ a.genOf b = true
    | .ct a => ∃ b, t = .ct b ∧ a.genOf b = true := by
  intro h
  unfold GArg.genOf at h
  split at h
  · exact ⟨_, rfl, h⟩
  · exact ⟨_, rfl, h⟩
  · exact ⟨_, rfl, h⟩
  · cases h

theorem Args.genOf_inv {r t : Args} : r.genOf t = true →
    match r with
    | .nil => t = .nil
    | .cons x xs => ∃ y ys, t = .cons y ys ∧ x.genOf y = true ∧ xs.genOf ys = true := by
  intro h
  unfold Args.genOf at h
  split at h
  · rfl
  · exact ⟨_, _, rfl, Bool.and_eq_true_iff.mp h⟩
  · cases h

theorem Ty.genOf_bound (db i : Nat) (t : Ty) : (Ty.bound db i).genOf t = true := by
  simp only [Ty.genOf]

theorem Lifetime.genOf_inv {r t : Lifetime} (h : r.genOf t = true) :
    (∃ db i, r = .bound db i) ∨ r = t := by
  unfold Lifetime.genOf at h
  split at h
  · exact .inl ⟨_, _, rfl⟩
  · exact .inr (beq_iff_eq.mp h)

theorem Const.genOf_inv {ty ty' : Ty} {v v' : ConstValue} (h : (Const.mk ty v).genOf (.mk ty' v') = true) :
    (∃ db i, v = .bound db i) ∨ v = v' := by
  unfold Const.genOf at h
  split at h
  · rename_i e; cases e; exact .inl ⟨_, _, rfl⟩
  · rename_i e e'; cases e; cases e'; exact .inr (beq_iff_eq.mp h)

theorem Lifetime.genOf_refl (l : Lifetime) : l.genOf l = true := by
  cases l <;> simp [Lifetime.genOf]

theorem Const.genOf_same_value (ty ty' : Ty) (v : ConstValue) : (Const.mk ty v).genOf (.mk ty' v) = true := by
  cases v <;> simp [Const.genOf]

theorem Lifetime.genOf_trans {a b c : Lifetime} (h1 : a.genOf b = true) (h2 : b.genOf c = true) :
    a.genOf c = true := by
  rcases Lifetime.genOf_inv h1 with ⟨_, _, rfl⟩ | rfl
  · rfl
  · exact h2

theorem Const.genOf_trans {a b c : Const} (h1 : a.genOf b = true) (h2 : b.genOf c = true) :
    a.genOf c = true := by
  obtain ⟨ta, va⟩ := a
  obtain ⟨tb, vb⟩ := b
  obtain ⟨tc, vc⟩ := c
  rcases Const.genOf_inv h1 with ⟨_, _, rfl⟩ | rfl
  · rfl
  · rcases Const.genOf_inv h2 with ⟨_, _, rfl⟩ | rfl
    · rfl
    · exact Const.genOf_same_value ..

-- `termination_by structural`: left to itself Lean compiles these by well-founded recursion,
-- which is far slower to check
mutual
  theorem Ty.genOf_trans : (a b c : Ty) → a.genOf b = true → b.genOf c = true → a.genOf c = true
    | a, b, c, h1, h2 => by
        have i1 := Ty.genOf_inv h1
        cases a with
        | bound => exact Ty.genOf_bound ..
        | app n x | proj n x | «opaque» n x =>
          obtain ⟨y, rfl, g1⟩ := i1
          obtain ⟨z, rfl, g2⟩ := Ty.genOf_inv h2
          simpa only [Ty.genOf, beq_self_eq_true, Bool.true_and] using Args.genOf_trans x y z g1 g2
        | slice x | raw m x =>
          obtain ⟨y, rfl, g1⟩ := i1
          obtain ⟨z, rfl, g2⟩ := Ty.genOf_inv h2
          simpa only [Ty.genOf, beq_self_eq_true, Bool.true_and] using Ty.genOf_trans x y z g1 g2
        | ref m l x =>
          obtain ⟨l', y, rfl, l1, g1⟩ := i1
          obtain ⟨l'', z, rfl, l2, g2⟩ := Ty.genOf_inv h2
          simpa only [Ty.genOf, beq_self_eq_true, Bool.true_and, Lifetime.genOf_trans l1 l2] using
            Ty.genOf_trans x y z g1 g2
        | array x k =>
          obtain ⟨y, k', rfl, g1, k1⟩ := i1
          obtain ⟨z, k'', rfl, g2, k2⟩ := Ty.genOf_inv h2
          simpa only [Ty.genOf, Bool.and_eq_true, Const.genOf_trans k1 k2, and_true] using
            Ty.genOf_trans x y z g1 g2
        | dyn | function | infer => exact i1.elim
        | _ => subst i1; exact h2
  termination_by structural a => a
  theorem GArg.genOf_trans : (a b c : GArg) → a.genOf b = true → b.genOf c = true → a.genOf c = true
    | .ty a, _, _, h1, h2 => by
        obtain ⟨b, rfl, h1⟩ := GArg.genOf_inv h1
        obtain ⟨c, rfl, h2⟩ := GArg.genOf_inv h2
        simpa only [GArg.genOf] using Ty.genOf_trans a b c h1 h2
    | .lt a, _, _, h1, h2 => by
        obtain ⟨b, rfl, h1⟩ := GArg.genOf_inv h1
        obtain ⟨c, rfl, h2⟩ := GArg.genOf_inv h2
        simpa only [GArg.genOf] using Lifetime.genOf_trans h1 h2
    | .ct a, _, _, h1, h2 => by
        obtain ⟨b, rfl, h1⟩ := GArg.genOf_inv h1
        obtain ⟨c, rfl, h2⟩ := GArg.genOf_inv h2
        simpa only [GArg.genOf] using Const.genOf_trans h1 h2
  termination_by structural a => a
  theorem Args.genOf_trans : (a b c : Args) → a.genOf b = true → b.genOf c = true → a.genOf c = true
    | .nil, _, _, h1, h2 => by cases Args.genOf_inv h1; exact h2
    | .cons x xs, _, _, h1, h2 => by
        obtain ⟨y, ys, rfl, g1, g1'⟩ := Args.genOf_inv h1
        obtain ⟨z, zs, rfl, g2, g2'⟩ := Args.genOf_inv h2
        simp only [Args.genOf, GArg.genOf_trans x y z g1 g2, Args.genOf_trans xs ys zs g1' g2', Bool.and_self]
  termination_by structural a => a
end

theorem auLifetime_ok {u : Nat} {l1 l2 r : Lifetime} {st st' : AuSt}
    (h : auLifetime u l1 l2 st = (r, st')) :
    (r, st') = newLtVar u st ∨ (r = l1 ∧ st' = st ∧ l1 = l2 ∧ ∀ db i, l1 ≠ .bound db i) := by
  unfold auLifetime at h
  split at h
  · exact .inl h.symm
  · exact .inl h.symm
  · rename_i hb _
    split at h
    · rename_i e
      cases h
      exact .inr ⟨rfl, rfl, e, fun db i e => hb db i e⟩
    · exact .inl h.symm

theorem auConst_ok {u : Nat} {ty ty2 : Ty} {v1 v2 : ConstValue} {r : Const} {st st' : AuSt}
    (h : auConst u (.mk ty v1) (.mk ty2 v2) st = (r, st')) :
    (r, st') = newCtVar u ty st ∨ (r = .mk ty v1 ∧ st' = st ∧ v1 = v2 ∧ ∀ db i, v1 ≠ .bound db i) := by
  simp only [auConst] at h
  split at h
  · exact .inl h.symm
  · exact .inl h.symm
  · exact .inl h.symm
  · exact .inl h.symm
  · split at h
    · rename_i e
      cases h
      exact .inr ⟨rfl, rfl, (Const.mk.inj e).2, fun _ _ e => nomatch e⟩
    · exact .inl h.symm
  · split at h
    · rename_i e
      cases h
      exact .inr ⟨rfl, rfl, by rw [e], fun _ _ e => nomatch e⟩
    · exact .inl h.symm
  · exact .inl h.symm

theorem auTy_ok {u : Nat} {t1 t2 r : Ty} {st st' : AuSt} :
    auTy u t1 t2 st = .ok (r, st') → (r, st') = newTyVar u st ∨
    match t1 with
    | .proj i a => ∃ a' ra, t2 = .proj i a' ∧ a.length = a'.length ∧
        auArgs u a a' st = .ok (ra, st') ∧ r = .proj i ra
    | .opaque i a => ∃ a' ra, t2 = .opaque i a' ∧ a.length = a'.length ∧
        auArgs u a a' st = .ok (ra, st') ∧ r = .opaque i ra
    | .app n a => ∃ a' ra, t2 = .app n a' ∧ a.length = a'.length ∧
        auArgs u a a' st = .ok (ra, st') ∧ r = .app n ra
    | .slice t => ∃ t' rt, t2 = .slice t' ∧ auTy u t t' st = .ok (rt, st') ∧ r = .slice rt
    | .raw m t => ∃ t' rt, t2 = .raw m t' ∧ auTy u t t' st = .ok (rt, st') ∧ r = .raw m rt
    | .ref m l t => ∃ l' t' rl s1 rt, t2 = .ref m l' t' ∧ auLifetime u l l' st = (rl, s1) ∧
        auTy u t t' s1 = .ok (rt, st') ∧ r = .ref m rl rt
    | .array t c => ∃ t' c' rt s1 rc, t2 = .array t' c' ∧ auTy u t t' st = .ok (rt, s1) ∧
        auConst u c c' s1 = (rc, st') ∧ r = .array rt rc
    | .dyn .. | .function .. | .bound .. | .infer .. => False
    | t1 => t2 = t1 ∧ r = t1 ∧ st' = st := by
  intro h
  unfold auTy at h
  split at h  -- one bullet for each arm of `auTy`, in its order
  · split at h
    · rename_i e; subst e
      split at h
      · cases h
      · rename_i hl
        split at h
        · rename_i ha; cases h; exact .inr ⟨_, _, rfl, by simpa using hl, ha, rfl⟩
        · cases h
    · exact .inl (Except.ok.inj h).symm
  · split at h
    · rename_i e; subst e
      split at h
      · cases h
      · rename_i hl
        split at h
        · rename_i ha; cases h; exact .inr ⟨_, _, rfl, by simpa using hl, ha, rfl⟩
        · cases h
    · exact .inl (Except.ok.inj h).symm
  · split at h
    · rename_i e; cases h; cases e.1; cases e.2; exact .inr ⟨rfl, rfl, rfl⟩
    · exact .inl (Except.ok.inj h).symm
  · split at h
    · rename_i e; subst e
      split at h
      · cases h
      · rename_i hl
        split at h
        · rename_i ha; cases h; exact .inr ⟨_, _, rfl, by simpa using hl, ha, rfl⟩
        · cases h
    · exact .inl (Except.ok.inj h).symm
  · split at h
    · rename_i e; subst e; cases h; exact .inr ⟨rfl, rfl, rfl⟩
    · exact .inl (Except.ok.inj h).symm
  · cases h; exact .inr ⟨rfl, rfl, rfl⟩
  · split at h
    · rename_i ht; cases h; exact .inr ⟨_, _, rfl, ht, rfl⟩
    · cases h
  · split at h
    · rename_i e; subst e
      split at h
      rename_i hl
      split at h
      · rename_i ht; cases h; exact .inr ⟨_, _, _, _, _, rfl, hl, ht, rfl⟩
      · cases h
    · exact .inl (Except.ok.inj h).symm
  · split at h
    · rename_i e; subst e
      split at h
      · rename_i ht; cases h; exact .inr ⟨_, _, rfl, ht, rfl⟩
      · cases h
    · exact .inl (Except.ok.inj h).symm
  · cases h; exact .inr ⟨rfl, rfl, rfl⟩
  · split at h
    · rename_i ht
      split at h
      rename_i hc
      cases h; exact .inr ⟨_, _, _, _, _, rfl, ht, hc, rfl⟩
    · cases h
  · split at h
    · rename_i e; subst e; cases h; exact .inr ⟨rfl, rfl, rfl⟩
    · exact .inl (Except.ok.inj h).symm
  · cases h; exact .inr ⟨rfl, rfl, rfl⟩
  · exact .inl (Except.ok.inj h).symm

theorem auGArg_ok {u : Nat} {a1 a2 r : GArg} {st st' : AuSt} :
    auGArg u a1 a2 st = .ok (r, st') →
    match a1 with
    | .ty t => ∃ t' rt, a2 = .ty t' ∧ auTy u t t' st = .ok (rt, st') ∧ r = .ty rt
    | .lt l => ∃ l' rl, a2 = .lt l' ∧ auLifetime u l l' st = (rl, st') ∧ r = .lt rl
    | .ct c => ∃ c' rc, a2 = .ct c' ∧ auConst u c c' st = (rc, st') ∧ r = .ct rc := by
  intro h
  unfold auGArg at h
  split at h
  · split at h
    · rename_i ht; cases h; exact ⟨_, _, rfl, ht, rfl⟩
    · cases h
  · split at h
    rename_i hl; cases h; exact ⟨_, _, rfl, hl, rfl⟩
  · split at h
    rename_i hc; cases h; exact ⟨_, _, rfl, hc, rfl⟩
  · cases h

theorem auArgs_ok {u : Nat} {a1 a2 r : Args} {st st' : AuSt} :
    auArgs u a1 a2 st = .ok (r, st') →
    match a1, a2 with
    | .cons x xs, .cons y ys => ∃ rx s1 rxs, auGArg u x y st = .ok (rx, s1) ∧
        auArgs u xs ys s1 = .ok (rxs, st') ∧ r = .cons rx rxs
    | _, _ => r = .nil ∧ st' = st := by
  intro h
  unfold auArgs at h
  split at h
  · split at h
    · rename_i hx
      split at h
      · rename_i hxs; cases h; exact ⟨_, _, _, hx, hxs, rfl⟩
      · cases h
    · cases h
  · cases h
    split
    · rename_i hn; exact (hn _ _ _ _ rfl rfl).elim
    · exact ⟨rfl, rfl⟩

theorem auLifetime_gen {u : Nat} {l1 l2 r : Lifetime} {st st' : AuSt}
    (h : auLifetime u l1 l2 st = (r, st')) : r.genOf l1 = true ∧ r.genOf l2 = true := by
  rcases auLifetime_ok h with e | ⟨rfl, _, rfl, _⟩
  · cases e; exact ⟨rfl, rfl⟩
  · exact ⟨r.genOf_refl, r.genOf_refl⟩

theorem auConst_gen {u : Nat} {c1 c2 r : Const} {st st' : AuSt}
    (h : auConst u c1 c2 st = (r, st')) : r.genOf c1 = true ∧ r.genOf c2 = true := by
  obtain ⟨ty, v1⟩ := c1
  obtain ⟨ty2, v2⟩ := c2
  rcases auConst_ok h with e | ⟨rfl, _, rfl, _⟩
  · cases e; exact ⟨rfl, rfl⟩
  · exact ⟨Const.genOf_same_value .., Const.genOf_same_value ..⟩

theorem Args.genOf_nil_of_len {a b : Args} : True := trivial

mutual
  theorem auTy_gen (u : Nat) : (t1 t2 : Ty) → (st : AuSt) → (r : Ty) → (st' : AuSt) →
      auTy u t1 t2 st = .ok (r, st') → r.genOf t1 = true ∧ r.genOf t2 = true
    | t1, t2, st, r, st', h => by
        rcases auTy_ok h with e | h
        · cases e; exact ⟨Ty.genOf_bound .., Ty.genOf_bound ..⟩
        · cases t1 with
          | proj i a | «opaque» i a | app i a =>
            obtain ⟨a', ra, rfl, hl, ha, rfl⟩ := h
            simpa only [Ty.genOf, beq_self_eq_true, Bool.true_and] using auArgs_gen u a a' st ra st' ha hl
          | slice t | raw m t =>
            obtain ⟨t', rt, rfl, ht, rfl⟩ := h
            simpa only [Ty.genOf, beq_self_eq_true, Bool.true_and] using auTy_gen u t t' st rt st' ht
          | ref m l t =>
            obtain ⟨l', t', rl, s1, rt, rfl, hl, ht, rfl⟩ := h
            simpa only [Ty.genOf, beq_self_eq_true, Bool.true_and, auLifetime_gen hl] using
              auTy_gen u t t' s1 rt st' ht
          | array t c =>
            obtain ⟨t', c', rt, s1, rc, rfl, ht, hc, rfl⟩ := h
            simpa only [Ty.genOf, Bool.and_eq_true, auConst_gen hc, and_true] using
              auTy_gen u t t' st rt s1 ht
          | dyn | function | bound | infer => exact h.elim
          | _ => obtain ⟨rfl, rfl, _⟩ := h; simp [Ty.genOf]
  termination_by structural t1 => t1
  theorem auGArg_gen (u : Nat) : (a1 a2 : GArg) → (st : AuSt) → (r : GArg) → (st' : AuSt) →
      auGArg u a1 a2 st = .ok (r, st') → r.genOf a1 = true ∧ r.genOf a2 = true
    | .ty t, _, st, _, st', h => by
        obtain ⟨t', rt, rfl, ht, rfl⟩ := auGArg_ok h
        exact auTy_gen u t t' st rt st' ht
    | .lt l, _, st, _, st', h => by
        obtain ⟨l', rl, rfl, hl, rfl⟩ := auGArg_ok h
        exact auLifetime_gen hl
    | .ct c, _, st, _, st', h => by
        obtain ⟨c', rc, rfl, hc, rfl⟩ := auGArg_ok h
        exact auConst_gen hc
  termination_by structural a1 => a1
  theorem auArgs_gen (u : Nat) : (a1 a2 : Args) → (st : AuSt) → (r : Args) → (st' : AuSt) →
      auArgs u a1 a2 st = .ok (r, st') → a1.length = a2.length → r.genOf a1 = true ∧ r.genOf a2 = true
    | .nil, .nil, _, _, _, h, _ => by obtain ⟨rfl, _⟩ := auArgs_ok h; exact ⟨rfl, rfl⟩
    | .nil, .cons _ _, _, _, _, _, hl => nomatch hl
    | .cons _ _, .nil, _, _, _, _, hl => nomatch hl
    | .cons x xs, .cons y ys, st, _, st', h, hl => by
        obtain ⟨rx, s1, rxs, hx, hxs, rfl⟩ := auArgs_ok h
        simpa only [Args.genOf, Bool.and_eq_true, auGArg_gen u x y st rx s1 hx, true_and] using
          auArgs_gen u xs ys s1 rxs st' hxs (Nat.succ.inj hl)
  termination_by structural a1 => a1
end

def GArg.sameKind : GArg → GArg → Bool
  | .ty _, .ty _ => true
  | .lt _, .lt _ => true
  | .ct _, .ct _ => true
  | _, _ => false

def Args.sameKinds : Args → Args → Bool
  | .nil, .nil => true
  | .cons a as, .cons b bs => a.sameKind b && as.sameKinds bs
  | _, _ => false

theorem GArg.sameKind_of_genOf {a b : GArg} (h : a.genOf b = true) : a.sameKind b = true := by
  cases a <;> (obtain ⟨_, rfl, _⟩ := GArg.genOf_inv h; rfl)

theorem Args.sameKinds_of_genOf : (a b : Args) → a.genOf b = true → a.sameKinds b = true
  | .nil, _, h => by cases Args.genOf_inv h; rfl
  | .cons x xs, _, h => by
      obtain ⟨y, ys, rfl, g, g'⟩ := Args.genOf_inv h
      simp only [Args.sameKinds, GArg.sameKind_of_genOf g, Args.sameKinds_of_genOf xs ys g', Bool.and_self]

theorem GArg.sameKind_trans {a b c : GArg} (h1 : a.sameKind b = true) (h2 : b.sameKind c = true) :
    a.sameKind c = true := by
  cases a <;> cases b <;> cases c <;> simp_all [GArg.sameKind]

theorem Args.sameKinds_trans : (a b c : Args) → a.sameKinds b = true → b.sameKinds c = true → a.sameKinds c = true
  | .nil, .nil, .nil, _, _ => rfl
  | .cons x xs, .cons y ys, .cons z zs, h1, h2 => by
      simp only [Args.sameKinds, Bool.and_eq_true] at h1 h2 ⊢
      exact ⟨GArg.sameKind_trans h1.1 h2.1, Args.sameKinds_trans xs ys zs h1.2 h2.2⟩
  | .nil, .nil, .cons _ _, _, h2 => nomatch h2
  | .nil, .cons _ _, _, h1, _ => nomatch h1
  | .cons _ _, .nil, _, h1, _ => nomatch h1
  | .cons _ _, .cons _ _, .nil, _, h2 => nomatch h2

theorem Args.length_eq_of_sameKinds : (a b : Args) → a.sameKinds b = true → a.length = b.length
  | .nil, .nil, _ => rfl
  | .cons x xs, .cons y ys, h => by
      simp only [Args.sameKinds, Bool.and_eq_true] at h
      exact congrArg Nat.succ (Args.length_eq_of_sameKinds xs ys h.2)
  | .nil, .cons _ _, h => nomatch h
  | .cons _ _, .nil, h => nomatch h

theorem mergeLoop_ok {us : List Nat} {idx : Nat} {g a r : Args} {st st' : AuSt} :
    mergeLoop us idx g a st = .ok (r, st') →
    match g, a with
    | .cons p1 ps1, .cons p2 ps2 => ∃ u rr s1 rs, us[idx]? = some u ∧
        (((∃ l, p1 = .lt l) ∧ (rr, s1) = (.lt (newLtVar u st).1, (newLtVar u st).2)) ∨
          auGArg u p1 p2 st = .ok (rr, s1)) ∧
        mergeLoop us (idx + 1) ps1 ps2 s1 = .ok (rs, st') ∧ r = .cons rr rs
    | _, _ => r = .nil ∧ st' = st := by
  intro h
  unfold mergeLoop at h
  split at h
  · split at h
    · cases h
    · rename_i hu
      dsimp only at h
      split at h
      · rename_i hs
        split at h
        · rename_i hr
          cases h
          split at hs
          · cases hs; exact ⟨_, _, _, _, hu, .inl ⟨⟨_, rfl⟩, rfl⟩, hr, rfl⟩
          · exact ⟨_, _, _, _, hu, .inr hs, hr, rfl⟩
        · cases h
      · cases h
  · cases h
    split
    · rename_i hn; exact (hn _ _ _ _ rfl rfl).elim
    · exact ⟨rfl, rfl⟩

theorem mergeLoop_gen (us : List Nat) : (idx : Nat) → (g a : Args) → (st : AuSt) → (r : Args) → (st' : AuSt) →
    mergeLoop us idx g a st = .ok (r, st') → g.sameKinds a = true → r.genOf g = true ∧ r.genOf a = true
  | _, .nil, .nil, _, _, _, h, _ => by obtain ⟨rfl, _⟩ := mergeLoop_ok h; exact ⟨rfl, rfl⟩
  | _, .nil, .cons _ _, _, _, _, _, hk => nomatch hk
  | _, .cons _ _, .nil, _, _, _, _, hk => nomatch hk
  | idx, .cons p1 ps1, .cons p2 ps2, st, _, st', h, hk => by
      obtain ⟨u, rr, s1, rs, _, hs, hr, rfl⟩ := mergeLoop_ok h
      simp only [Args.sameKinds, Bool.and_eq_true] at hk
      have h1 : rr.genOf p1 = true ∧ rr.genOf p2 = true := by
        rcases hs with ⟨⟨l, rfl⟩, e⟩ | hs
        · cases e
          cases p2 with
          | lt l' => exact ⟨rfl, rfl⟩
          | _ => exact nomatch hk.1
        · exact auGArg_gen u p1 p2 st rr s1 hs
      simpa only [Args.genOf, Bool.and_eq_true, h1, true_and] using
        mergeLoop_gen us (idx + 1) ps1 ps2 s1 rs st' hr hk.2

theorem mergeIntoGuidance_ok {us : List Nat} {g a : Args} {r : Canon Args}
    (h : mergeIntoGuidance us g a = .ok r) : mergeLoop us 0 g a [] = .ok (r.value, r.binders) := by
  unfold mergeIntoGuidance at h
  split at h
  · cases h; assumption
  · cases h

theorem mergeIntoGuidance_gen {us : List Nat} {g a : Args} {r : Canon Args}
    (h : mergeIntoGuidance us g a = .ok r) (hk : g.sameKinds a = true) :
    r.value.genOf g = true ∧ r.value.genOf a = true :=
  mergeLoop_gen us 0 g a [] _ _ (mergeIntoGuidance_ok h) hk

theorem TyName.eq_of_sameKind {n n' : TyName} {i : Nat} (h : n.sameKind n' = some (i, i)) : n = n' := by
  unfold TyName.sameKind at h
  split at h <;> cases h <;> rfl

theorem miNamed_ok_false {i j : Nat} {a b : Args} (h : miNamed i j a b = .ok false) :
    i = j ∧ a.length = b.length ∧ miAny a b = .ok false := by
  unfold miNamed at h
  split at h
  · cases h
  · split at h
    · cases h
    · rename_i hij hl
      exact ⟨by simpa using hij, by simpa using hl, h⟩

theorem miTy_false_inv {new cur : Ty} : miTy new cur = .ok false →
    match cur with
    | .bound .. => True
    | .proj i b => ∃ a, new = .proj i a ∧ a.length = b.length ∧ miAny a b = .ok false
    | .opaque i b => ∃ a, new = .opaque i a ∧ a.length = b.length ∧ miAny a b = .ok false
    | .app n b => ∃ a, new = .app n a ∧ a.length = b.length ∧ miAny a b = .ok false
    | .slice t' => ∃ t, new = .slice t ∧ miTy t t' = .ok false
    | .raw m t' => ∃ t, new = .raw m t ∧ miTy t t' = .ok false
    | .array t' c' => ∃ t c, new = .array t c ∧ miTy t t' = .ok false ∧ miConst c c' = .ok false
    | .ref .. | .dyn .. | .function .. | .infer .. => False
    | cur => new = cur := by
  intro h
  unfold miTy at h
  split at h  -- one bullet for each arm of `miTy`, in its order
  · trivial
  · cases h
  · cases h
  · cases h
  · simp at h; rw [h.1, h.2]
  · obtain ⟨rfl, hn⟩ := miNamed_ok_false h; exact ⟨_, rfl, hn⟩
  · obtain ⟨rfl, hn⟩ := miNamed_ok_false h; exact ⟨_, rfl, hn⟩
  · split at h
    · rename_i hk
      obtain ⟨rfl, hn⟩ := miNamed_ok_false h
      cases TyName.eq_of_sameKind hk
      exact ⟨_, rfl, hn⟩
    · cases h
  · simp at h; rw [h]
  · rfl
  · exact ⟨_, rfl, h⟩
  · cases h
  · split at h
    · cases h
    · rename_i hm; simp at hm; rw [hm]; exact ⟨_, rfl, h⟩
  · rfl
  · split at h
    · rename_i ht; exact ⟨_, _, rfl, ht, h⟩
    · rename_i hr; exact (hr h).elim
  · simp at h; rw [h]
  · rfl
  · cases h

theorem miConstValue_false {v v' : ConstValue} {ty ty' : Ty} (h : miConstValue v v' = .ok false) :
    (Const.mk ty' v').genOf (Const.mk ty v) = true := by
  unfold miConstValue at h
  split at h <;> simp at h
  · simp [Const.genOf]
  · rename_i u i u' i' ; simp [Const.genOf, h.1, h.2]
  · rename_i a b; simp [Const.genOf, h]

theorem miConst_false : (new cur : Const) → miConst new cur = .ok false → cur.genOf new = true
  | .mk ty v, .mk ty' v', h => by
      simp only [miConst] at h
      split at h
      · exact miConstValue_false h
      · rename_i r hr
        exact (hr h).elim

mutual
  theorem miTy_false : (new cur : Ty) → miTy new cur = .ok false → cur.genOf new = true
    | new, cur, h => by
        have hi := miTy_false_inv h
        cases cur with
        | bound => exact Ty.genOf_bound ..
        | proj i b | «opaque» i b | app i b =>
          obtain ⟨a, rfl, hl, ha⟩ := hi
          simpa only [Ty.genOf, beq_self_eq_true, Bool.true_and] using miAny_false a b ha hl
        | slice t' | raw m t' =>
          obtain ⟨t, rfl, ht⟩ := hi
          simpa only [Ty.genOf, beq_self_eq_true, Bool.true_and] using miTy_false t t' ht
        | array t' c' =>
          obtain ⟨t, c, rfl, ht, hc⟩ := hi
          simpa only [Ty.genOf, Bool.and_eq_true, miConst_false c c' hc, and_true] using miTy_false t t' ht
        | ref | dyn | function | infer => exact hi.elim
        | _ => subst hi; simp [Ty.genOf]
  termination_by structural _ cur => cur
  theorem miGArg_false : (new cur : GArg) → miGArg new cur = .ok false → cur.genOf new = true
    | .ty t, .ty t', h => by simp only [miGArg] at h; simpa only [GArg.genOf] using miTy_false t t' h
    | .ct c, .ct c', h => by simp only [miGArg] at h; simpa only [GArg.genOf] using miConst_false c c' h
    | .lt _, .lt _, h | .ty _, .lt _, h | .ty _, .ct _, h | .lt _, .ty _, h | .lt _, .ct _, h
    | .ct _, .ty _, h | .ct _, .lt _, h => by simp [miGArg] at h
  termination_by structural _ cur => cur
  theorem miAny_false : (a b : Args) → miAny a b = .ok false → a.length = b.length → b.genOf a = true
    | .nil, .nil, _, _ => rfl
    | .nil, .cons _ _, _, hl => nomatch hl
    | .cons _ _, .nil, _, hl => nomatch hl
    | .cons x xs, .cons y ys, h, hl => by
        simp only [miAny] at h
        split at h
        · rename_i hx
          simp only [Args.genOf, miGArg_false x y hx, miAny_false xs ys h (Nat.succ.inj hl), Bool.and_self]
        · rename_i r hr
          exact (hr h).elim
  termination_by structural _ b => b
end

theorem miNamed_false : (i j : Nat) → (a b : Args) → miNamed i j a b = .ok false → i = j ∧ b.genOf a = true
  | _, _, a, b, h =>
      let ⟨hij, hl, h'⟩ := miNamed_ok_false h
      ⟨hij, miAny_false a b h' hl⟩

end Chalk
