/-
  FixedPointEval.lean — the evaluation layer (`fulfillRound`, `suggestPass`, `fulfillSolve`, `solveFromClauses` on
  ground goals) against an abstract specification `EvalSpec` of the sub-goal solver: an invariant `I` of the states
  between sub-goal calls, a relation `T` between state and minimums before and after a call, a fact `F` about the
  answer of a sub-goal, and what a panic may be (`Pn`: trivial for partial correctness, "budget panic with a right
  cache" for totality).  `FixedPointSemB.lean` and `FixedPointMixB.lean` instantiate it.
-/
import ChalkModel.Lemmas.FixedPointLemmas

namespace Chalk.FixedPoint

/-- the running solution of the clause loop on ground goals: nothing yet, or ambiguous -/
def CurOK (s : St) (cur : Option V) : Prop := cur = none ∨ (cur = some .ambig ∧ s.interrupted = true)

structure EvalSpec (cfg : Cfg) (rec : SubSolver) (I : St → Prop) (X : Nat → Prop)
    (T : St → Min → St → Min → Prop) (F : St → St → Min → Nat → V → Prop) (Pn : Site → St → Prop) : Prop where
  sub : ∀ x m s, I s → X x → (rec x m s).sat (fun r s' => I s' ∧ T s m s' r.2 ∧ F s s' r.2 x r.1) Pn
  refl : ∀ s m, T s m s m
  trans : ∀ {s m s1 m1 s2 m2}, I s1 → I s2 → T s m s1 m1 → T s1 m1 s2 m2 → T s m s2 m2
  intr : ∀ {s m s' m'}, T s m s' m' → s.interrupted = true → s'.interrupted = true
  /-- a fact about a later call, seen from an earlier state -/
  pre : ∀ {s m s1 m1 s' m' x v}, I s1 → T s m s1 m1 → F s1 s' m' x v → F s s' m' x v
  /-- a fact about a call, seen in a later state -/
  post : ∀ {s s1 m1 s' m' x v}, F s s1 m1 x v → T s1 m1 s' m' → F s s' m' x v
  ambig : ∀ {s s' m' x}, F s s' m' x .ambig → s'.interrupted = true
  /-- the legacy `unwrap` of the last pass (reached only when solving was interrupted) -/
  unwrap : ∀ s, I s → s.interrupted = true → cfg.fixF16 = false → Pn .unwrapNoSolution s

section
variable {cfg : Cfg} {rec : SubSolver} {I : St → Prop} {X : Nat → Prop}
  {T : St → Min → St → Min → Prop} {F : St → St → Min → Nat → V → Prop} {Pn : Site → St → Prop}

theorem fulfillRound_eval (E : EvalSpec cfg rec I X T F Pn) :
    ∀ (cs acc : List Nat) (m : Min) (s : St), I s → (∀ x, x ∈ cs → X x) →
      (fulfillRound rec cs acc m s).sat (fun r s' => I s' ∧ T s m s' r.2 ∧
        ((∃ ret, r.1 = some (acc ++ ret) ∧ (∀ x, x ∈ ret → x ∈ cs) ∧ (ret ≠ [] → s'.interrupted = true) ∧
            ∀ x, x ∈ cs → F s s' r.2 x .unique ∨ x ∈ ret) ∨
         (r.1 = none ∧ ∃ x, x ∈ cs ∧ F s s' r.2 x .noSolution))) Pn
  | [], acc, m, s, hi, _ =>
    ⟨hi, E.refl s m, Or.inl ⟨[], (List.append_nil acc).symm ▸ rfl, nofun, fun h => absurd rfl h, nofun⟩⟩
  | x :: rest, acc, m, s, hi, hd => by
    have h1 := E.sub x m s hi (hd x (List.mem_cons_self ..))
    simp only [fulfillRound]
    cases hr : rec x m s with
    | panic site s1 => rw [hr] at h1; exact h1
    | ok r s1 =>
      obtain ⟨v, m1⟩ := r
      rw [hr] at h1
      obtain ⟨hi1, ht1, hf1⟩ := h1
      have ih := fun acc' => fulfillRound_eval E rest acc' m1 s1 hi1 (fun y hy => hd y (List.mem_cons_of_mem _ hy))
      cases v with
      | noSolution => exact ⟨hi1, ht1, Or.inr ⟨rfl, x, List.mem_cons_self .., hf1⟩⟩
      | unique =>
        refine (ih acc).imp ?_
        rintro r2 s2 ⟨hi2, ht2, hres⟩
        refine ⟨hi2, E.trans hi1 hi2 ht1 ht2, hres.imp ?_ ?_⟩
        · rintro ⟨ret, ho, hsub, hint, hall⟩
          refine ⟨ret, ho, fun y hy => List.mem_cons_of_mem _ (hsub y hy), hint, fun y hy => ?_⟩
          cases List.mem_cons.mp hy with
          | inl e => rw [e]; exact Or.inl (E.post hf1 ht2)
          | inr e => exact (hall y e).imp (E.pre hi1 ht1) id
        · rintro ⟨ho, y, hy, hfy⟩
          exact ⟨ho, y, List.mem_cons_of_mem _ hy, E.pre hi1 ht1 hfy⟩
      | ambig =>
        refine (ih (acc ++ [x])).imp ?_
        rintro r2 s2 ⟨hi2, ht2, hres⟩
        refine ⟨hi2, E.trans hi1 hi2 ht1 ht2, hres.imp ?_ ?_⟩
        · rintro ⟨ret, ho, hsub, _, hall⟩
          refine ⟨x :: ret, by rw [ho, List.append_assoc]; rfl, fun y hy => ?_,
            fun _ => E.intr ht2 (E.ambig hf1), fun y hy => ?_⟩
          · exact (List.mem_cons.mp hy).elim (fun e => e ▸ List.mem_cons_self ..)
              (fun e => List.mem_cons_of_mem _ (hsub y e))
          · cases List.mem_cons.mp hy with
            | inl e => rw [e]; exact Or.inr (List.mem_cons_self ..)
            | inr e => exact (hall y e).imp (E.pre hi1 ht1) (List.mem_cons_of_mem _)
        · rintro ⟨ho, y, hy, hfy⟩
          exact ⟨ho, y, List.mem_cons_of_mem _ hy, E.pre hi1 ht1 hfy⟩

/-- the last pass of `Fulfill::solve` over the retained (ambiguous) obligations -/
theorem suggestPass_eval (E : EvalSpec cfg rec I X T F Pn) :
    ∀ (ds : List Nat) (m : Min) (s : St), I s → (∀ x, x ∈ ds → X x) → s.interrupted = true →
      (suggestPass cfg rec ds m s).sat (fun r s' => I s' ∧ T s m s' r.2 ∧
        ((r.1 = .ambig ∧ s'.interrupted = true) ∨
         (r.1 = .noSolution ∧ ∃ x, x ∈ ds ∧ F s s' r.2 x .noSolution))) Pn
  | [], m, s, hi, _, hint => ⟨hi, E.refl s m, Or.inl ⟨rfl, hint⟩⟩
  | x :: rest, m, s, hi, hd, hint => by
    have h1 := E.sub x m s hi (hd x (List.mem_cons_self ..))
    simp only [suggestPass]
    cases hr : rec x m s with
    | panic site s1 => rw [hr] at h1; exact h1
    | ok r s1 =>
      obtain ⟨w, m1⟩ := r
      rw [hr] at h1
      obtain ⟨hi1, ht1, hf1⟩ := h1
      cases w with
      | noSolution =>
        simp only []
        cases h16 : cfg.fixF16 with
        | true => exact ⟨hi1, ht1, Or.inr ⟨rfl, x, List.mem_cons_self .., hf1⟩⟩
        | false => exact E.unwrap s1 hi1 (E.intr ht1 hint) h16
      | unique => exact ⟨hi1, ht1, Or.inl ⟨rfl, E.intr ht1 hint⟩⟩
      | ambig =>
        refine (suggestPass_eval E rest m1 s1 hi1 (fun y hy => hd y (List.mem_cons_of_mem _ hy))
          (E.intr ht1 hint)).imp ?_
        rintro r2 s2 ⟨hi2, ht2, hres⟩
        refine ⟨hi2, E.trans hi1 hi2 ht1 ht2, hres.imp id ?_⟩
        rintro ⟨hv, y, hy, hfy⟩
        exact ⟨hv, y, List.mem_cons_of_mem _ hy, E.pre hi1 ht1 hfy⟩

theorem fulfillSolve_eval (E : EvalSpec cfg rec I X T F Pn) (alt : List Nat) (m : Min) (s : St) (hi : I s)
    (hd : ∀ x, x ∈ alt → X x) :
    (fulfillSolve cfg rec alt m s).sat (fun r s' => I s' ∧ T s m s' r.2 ∧
      ((r.1 = .unique ∧ ∀ x, x ∈ alt → F s s' r.2 x .unique) ∨
       (r.1 = .noSolution ∧ ∃ x, x ∈ alt ∧ F s s' r.2 x .noSolution) ∨
       (r.1 = .ambig ∧ s'.interrupted = true))) Pn := by
  have h1 := fulfillRound_eval E alt.reverse [] m s hi (fun x hx => hd x (List.mem_reverse.mp hx))
  unfold fulfillSolve
  cases hr : fulfillRound rec alt.reverse [] m s with
  | panic site s1 => rw [hr] at h1; exact h1
  | ok r s1 =>
    obtain ⟨o, m1⟩ := r
    rw [hr] at h1
    obtain ⟨hi1, ht1, hres⟩ := h1
    rcases hres with ⟨ret, ho, hsub, hint, hall⟩ | ⟨ho, x, hx, hfx⟩
    · rw [List.nil_append] at ho
      simp only at ho
      subst ho
      cases ret with
      | nil =>
        exact ⟨hi1, ht1, Or.inl ⟨rfl, fun x hx => (hall x (List.mem_reverse.mpr hx)).resolve_right nofun⟩⟩
      | cons r0 rs =>
        have hsub' : ∀ x, x ∈ (r0 :: rs).reverse → x ∈ alt :=
          fun x hx => List.mem_reverse.mp (hsub x (List.mem_reverse.mp hx))
        refine (suggestPass_eval E (r0 :: rs).reverse m1 s1 hi1 (fun x hx => hd x (hsub' x hx))
          (hint nofun)).imp ?_
        rintro r2 s2 ⟨hi2, ht2, hres2⟩
        refine ⟨hi2, E.trans hi1 hi2 ht1 ht2, Or.inr (hres2.symm.imp ?_ id)⟩
        rintro ⟨hv, y, hy, hfy⟩
        exact ⟨hv, y, hsub' y hy, E.pre hi1 ht1 hfy⟩
    · simp only at ho
      subst ho
      exact ⟨hi1, ht1, Or.inr (Or.inl ⟨rfl, x, List.mem_reverse.mp hx, hfx⟩)⟩

/-- the clause loop on a ground goal: some alternative holds, or (if nothing was found before) every
    alternative fails, or solving was interrupted -/
theorem solveFromClauses_eval (E : EvalSpec cfg rec I X T F Pn) :
    ∀ (alts : List (List Nat)) (cur : Option V) (m : Min) (s : St), I s → CurOK s cur →
      (∀ alt, alt ∈ alts → ∀ x, x ∈ alt → X x) →
      (solveFromClauses cfg rec true alts cur m s).sat (fun r s' => I s' ∧ T s m s' r.2 ∧
        ((r.1 = .unique ∧ ∃ alt, alt ∈ alts ∧ ∀ x, x ∈ alt → F s s' r.2 x .unique) ∨
         (r.1 = .noSolution ∧ cur = none ∧ ∀ alt, alt ∈ alts → ∃ x, x ∈ alt ∧ F s s' r.2 x .noSolution) ∨
         (r.1 = .ambig ∧ s'.interrupted = true))) Pn
  | [], cur, m, s, hi, hcur, _ => by
    refine ⟨hi, E.refl s m, ?_⟩
    cases hcur with
    | inl e => subst e; exact Or.inr (Or.inl ⟨rfl, rfl, nofun⟩)
    | inr e => rw [e.1]; exact Or.inr (Or.inr ⟨rfl, e.2⟩)
  | alt :: rest, cur, m, s, hi, hcur, hd => by
    have h1 := fulfillSolve_eval E alt m s hi (hd alt (List.mem_cons_self ..))
    rw [solveFromClauses_cons]
    cases hr : fulfillSolve cfg rec alt m s with
    | panic site s1 => rw [hr] at h1; exact h1
    | ok r s1 =>
      obtain ⟨w, m1⟩ := r
      rw [hr] at h1
      obtain ⟨hi1, ht1, hres⟩ := h1
      -- the rest of the loop, seen from `s`
      have hrest := fun (cur' : Option V) (hc' : CurOK s1 cur') =>
        (solveFromClauses_eval E rest cur' m1 s1 hi1 hc' (fun a ha => hd a (List.mem_cons_of_mem _ ha))).imp
          (Q := fun r s' => I s' ∧ T s m s' r.2 ∧
            ((r.1 = .unique ∧ ∃ a, a ∈ rest ∧ ∀ x, x ∈ a → F s s' r.2 x .unique) ∨
             (r.1 = .noSolution ∧ cur' = none ∧ (∀ a, a ∈ rest → ∃ x, x ∈ a ∧ F s s' r.2 x .noSolution) ∧
                T s1 m1 s' r.2) ∨
             (r.1 = .ambig ∧ s'.interrupted = true)))
          (fun r2 s2 ⟨hi2, ht2, hres2⟩ => ⟨hi2, E.trans hi1 hi2 ht1 ht2, hres2.imp
            (fun ⟨hv, a, ha, hall⟩ => ⟨hv, a, ha, fun y hy => E.pre hi1 ht1 (hall y hy)⟩)
            (Or.imp (fun ⟨hv, hc0, hall⟩ => ⟨hv, hc0, fun a ha => (hall a ha).imp
              (fun y hy => ⟨hy.1, E.pre hi1 ht1 hy.2⟩), ht2⟩) id)⟩)
      simp only []
      rcases hres with ⟨hw, hall⟩ | ⟨hw, x, hx, hfx⟩ | ⟨hw, hint1⟩
      · -- the alternative succeeded: the trivially true solution ends the loop
        simp only at hw
        subst hw
        have hstep : stepCur true .unique cur = some .unique := by
          cases hcur with
          | inl e => subst e; rfl
          | inr e => rw [e.1]; rfl
        simp only [hstep, trivialTrue, Bool.true_and, beq_self_eq_true, if_true]
        exact ⟨hi1, ht1, Or.inl ⟨rfl, alt, List.mem_cons_self .., hall⟩⟩
      · -- the alternative failed
        simp only at hw
        subst hw
        have hstep : stepCur true .noSolution cur = cur := rfl
        rw [hstep]
        have key : ∀ (cur' : Option V) (r2 : V × Min) (s2 : St), (I s2 ∧ T s m s2 r2.2 ∧
            ((r2.1 = .unique ∧ ∃ a, a ∈ rest ∧ ∀ x, x ∈ a → F s s2 r2.2 x .unique) ∨
             (r2.1 = .noSolution ∧ cur' = none ∧ (∀ a, a ∈ rest → ∃ x, x ∈ a ∧ F s s2 r2.2 x .noSolution) ∧
                T s1 m1 s2 r2.2) ∨
             (r2.1 = .ambig ∧ s2.interrupted = true))) → I s2 ∧ T s m s2 r2.2 ∧
            ((r2.1 = .unique ∧ ∃ a, a ∈ alt :: rest ∧ ∀ x, x ∈ a → F s s2 r2.2 x .unique) ∨
             (r2.1 = .noSolution ∧ cur' = none ∧
                ∀ a, a ∈ alt :: rest → ∃ x, x ∈ a ∧ F s s2 r2.2 x .noSolution) ∨
             (r2.1 = .ambig ∧ s2.interrupted = true)) := by
          rintro cur' r2 s2 ⟨hi2, ht2, hres2⟩
          refine ⟨hi2, ht2, hres2.imp (fun ⟨hv, a, ha, h⟩ => ⟨hv, a, List.mem_cons_of_mem _ ha, h⟩) (Or.imp ?_ id)⟩
          rintro ⟨hv, hc0, hall, ht12⟩
          refine ⟨hv, hc0, fun a ha => ?_⟩
          cases List.mem_cons.mp ha with
          | inl e => rw [e]; exact ⟨x, hx, E.post hfx ht12⟩
          | inr e => exact hall a e
        cases hcur with
        | inl e => subst e; exact (hrest none (Or.inl rfl)).imp (key none)
        | inr e =>
          obtain ⟨e1, e2⟩ := e
          subst e1
          simp only [trivialTrue, Bool.true_and]
          exact (hrest (some .ambig) (Or.inr ⟨rfl, E.intr ht1 e2⟩)).imp (key _)
      · -- the alternative is ambiguous (solving was interrupted)
        simp only at hw
        subst hw
        have hstep : stepCur true .ambig cur = some .ambig := by
          cases hcur with
          | inl e => subst e; rfl
          | inr e => rw [e.1]; rfl
        simp only [hstep, trivialTrue, Bool.true_and]
        refine (hrest (some .ambig) (Or.inr ⟨rfl, hint1⟩)).imp ?_
        rintro r2 s2 ⟨hi2, ht2, hres2⟩
        refine ⟨hi2, ht2, hres2.imp (fun ⟨hv, a, ha, h⟩ => ⟨hv, a, List.mem_cons_of_mem _ ha, h⟩) (Or.imp ?_ id)⟩
        rintro ⟨_, hc0, _⟩
        cases hc0

end

end Chalk.FixedPoint
