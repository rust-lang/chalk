/-
  The occurs check and generalization on first-order input refine the table (`Table.Le`); the
  occurs check returns a type with the same image under every solution and, in a well-kinded table
  (`Table.Kinded`), with unbound variables outside the class of the variable being bound.
-/
import ChalkModel.Lemmas.UnifyKinded

namespace Chalk

theorem UState.withTable_ok (st st' : UState) (r : Res Table) (h : st.withTable r = .ok st') :
    ∃ t, r = .ok t ∧ st' = { st with table := t } := by
  unfold UState.withTable at h
  split at h
  · cases h; exact ⟨_, rfl, rfl⟩
  · rename_i e
    cases e <;> simp [liftRes] at h

theorem liftRes_ok {α} (r : Res α) (a : α) (h : liftRes r = .ok a) : r = .ok a := by
  cases r with
  | ok x => simp [liftRes] at h; rw [h]
  | error e => cases e <;> simp [liftRes] at h

/-! The two specifications of the occurs check, `OccTySpec` and `OccTySpec2` (well-kinded table), are
  proved in one traversal. -/

def OccTySpec (ar : TyName → Nat) (f : Ty → UState → URes (Ty × UState)) : Prop :=
  ∀ ty st ty1 st1, st.table.Good ar → ty.good ar st.table.numVars = true → f ty st = .ok (ty1, st1) →
    st1.goals = st.goals ∧ st.table.Le ar st1.table ∧ ty1.good ar st1.table.numVars = true ∧
    ∀ θ, st1.table.Models θ → ty1.applyAsg θ = ty.applyAsg θ

def OccTySpec2 (ar : TyName → Nat) (κ : Nat → TyVarKind) (c : OccCtx)
    (f : Ty → UState → URes (Ty × UState)) : Prop :=
  ∀ ty st ty1 st1, st.table.Good ar → st.table.Kinded κ → c.var < st.table.numVars →
    ty.good ar st.table.numVars = true → ty.kinded κ = true → f ty st = .ok (ty1, st1) →
    st.table.Ext st1.table ∧ ty1.kinded κ = true ∧
    ∀ w, w ∈ ty1.tyVars → st1.table.probeVar w = none ∧ st1.table.find w ≠ st1.table.find c.var

/-- the conclusion of `occTy_specs` with output = input, so that the leaf cases close with `exact` -/
theorem occTy_leaf {ar : TyName → Nat} {J : OccJumps} {c : OccCtx} {ty : Ty} {st : UState}
    (hg : st.table.Good ar) (hgd : ty.good ar st.table.numVars = true) (hv : ty.tyVars = []) :
    (st.goals = st.goals ∧ st.table.Le ar st.table ∧ ty.good ar st.table.numVars = true ∧
      ∀ θ, st.table.Models θ → ty.applyAsg θ = ty.applyAsg θ) ∧
    ∀ κ, OccTySpec2 ar κ c J.jT → st.table.Kinded κ → c.var < st.table.numVars → ty.kinded κ = true →
      st.table.Ext st.table ∧ ty.kinded κ = true ∧
      ∀ w, w ∈ ty.tyVars → st.table.probeVar w = none ∧ st.table.find w ≠ st.table.find c.var :=
  ⟨⟨rfl, Table.Le.refl hg, hgd, fun _ _ => rfl⟩,
   fun _ _ _ _ hkd => ⟨Table.Ext.refl _, hkd, fun w hw => by rw [hv] at hw; cases hw⟩⟩

mutual
  theorem occTy_specs (ar : TyName → Nat) (J : OccJumps) (hJ : OccTySpec ar J.jT) (c : OccCtx) (outer : Nat) :
      (ty : Ty) → ∀ st ty1 st1, st.table.Good ar → ty.good ar st.table.numVars = true →
        occTy J c outer ty st = .ok (ty1, st1) →
        (st1.goals = st.goals ∧ st.table.Le ar st1.table ∧ ty1.good ar st1.table.numVars = true ∧
          ∀ θ, st1.table.Models θ → ty1.applyAsg θ = ty.applyAsg θ) ∧
        ∀ κ, OccTySpec2 ar κ c J.jT → st.table.Kinded κ → c.var < st.table.numVars → ty.kinded κ = true →
          st.table.Ext st1.table ∧ ty1.kinded κ = true ∧
          ∀ w, w ∈ ty1.tyVars → st1.table.probeVar w = none ∧ st1.table.find w ≠ st1.table.find c.var
    | .app n args => by
        intro st ty1 st1 hg hgd h
        simp only [occTy] at h
        split at h
        · rename_i args' st' hargs
          cases h
          simp only [Ty.good, Bool.and_eq_true, beq_iff_eq] at hgd
          obtain ⟨⟨h1, h2, h3, h4, h5⟩, k⟩ := occArgs_specs ar J hJ c outer args st args' st1 hg hgd.2 hargs
          refine ⟨⟨h1, h2, ?_, fun θ hm => congrArg (Ty.app n) (h5 θ hm)⟩, k⟩
          simp only [Ty.good, Bool.and_eq_true, beq_iff_eq]; exact ⟨by rw [h4]; exact hgd.1, h3⟩
        · cases h
    | .scalar _ | .str | .never | .foreign _ => by
        intro st ty1 st1 hg hgd h
        simp only [occTy] at h; cases h
        exact occTy_leaf hg hgd rfl
    | .error | .array _ _ | .ref _ _ _ | .dyn _ _ _ | .proj _ _ | .opaque _ _ | .function _ _ _
    | .bound _ _ => fun _ _ _ _ hgd _ => nomatch hgd
    | .slice t | .raw _ t => by
        intro st ty1 st1 hg hgd h
        simp only [occTy] at h
        split at h
        · rename_i t' st' ht
          cases h
          obtain ⟨⟨h1, h2, h3, h5⟩, k⟩ := occTy_specs ar J hJ c outer t st t' st1 hg hgd ht
          exact ⟨⟨h1, h2, h3, fun θ hm => by simp only [Ty.applyAsg, h5 θ hm]⟩, k⟩
        · cases h
    | .placeholder ui idx => by
        intro st ty1 st1 hg hgd h
        simp only [occTy] at h
        split at h
        · cases h
        · cases h
          exact occTy_leaf hg hgd rfl
    | .infer v k => by
        intro st ty1 st1 hg hgd h
        have hv : v < st.table.numVars := of_decide_eq_true hgd
        simp only [occTy] at h
        split at h
        · -- bound: the occurs check continues in the value
          rename_i val hpv
          have hp : st.table.probeVar v = some (.ty val) := by simp [Table.probeVar, hpv]
          obtain ⟨T, he, hT⟩ := hg.vals v _ hv hp
          cases he
          obtain ⟨h1, h2, h3, h4⟩ := hJ val st ty1 st1 hg hT h
          refine ⟨⟨h1, h2, h3, fun θ hm => ?_⟩,
            fun κ hJ2 hk hc _ => hJ2 val st ty1 st1 hg hk hc hT (hk.occ v val hv hp) h⟩
          rw [h4 θ hm]; exact ((h2.models θ hm).2 v val hv hp).symm
        · cases h
        · -- unbound, in another class than `c.var` (else `NoSolution`); its universe may be lowered
          rename_i ui hpv
          have hp : st.table.probeVar v = none := by simp [Table.probeVar, hpv]
          split at h
          · cases h
          · rename_i hne
            have hvars : ∀ w, w ∈ (Ty.infer v k).tyVars → st.table.probeVar w = none ∧
                st.table.find w ≠ st.table.find c.var := by
              intro w hw
              obtain rfl : w = v := List.mem_singleton.mp hw
              exact ⟨hp, hne⟩
            split at h
            · split at h
              · rename_i st' hw
                cases h
                obtain ⟨t', ht', rfl⟩ := UState.withTable_ok _ _ _ hw
                have hle := st.table.unifyVarValue_unbound_Le v _ t' hg hv ht'
                refine ⟨⟨rfl, hle, Ty.good_mono ar _ _ hle.numVars _ hgd, fun _ _ => rfl⟩,
                  fun κ _ _ hc hkd => ?_⟩
                have hext := st.table.unifyVarValue_unbound_Ext v _ t' hg.wf ht'
                refine ⟨hext, hkd, fun w hw => ?_⟩
                show t'.probeVar w = none ∧ t'.find w ≠ t'.find c.var
                obtain rfl : w = v := List.mem_singleton.mp hw
                rw [hext.probe w hv, hext.find w hv, hext.find _ hc]
                exact ⟨hp, hne⟩
              · cases h
            · cases h
              exact ⟨⟨rfl, Table.Le.refl hg, hgd, fun _ _ => rfl⟩,
                fun κ _ _ _ hkd => ⟨Table.Ext.refl _, hkd, hvars⟩⟩
  theorem occGArg_specs (ar : TyName → Nat) (J : OccJumps) (hJ : OccTySpec ar J.jT) (c : OccCtx) (outer : Nat) :
      (a : GArg) → ∀ st a1 st1, st.table.Good ar → a.good ar st.table.numVars = true →
        occGArg J c outer a st = .ok (a1, st1) →
        (st1.goals = st.goals ∧ st.table.Le ar st1.table ∧ a1.good ar st1.table.numVars = true ∧
          ∀ θ, st1.table.Models θ → a1.applyAsg θ = a.applyAsg θ) ∧
        ∀ κ, OccTySpec2 ar κ c J.jT → st.table.Kinded κ → c.var < st.table.numVars → a.kinded κ = true →
          st.table.Ext st1.table ∧ a1.kinded κ = true ∧
          ∀ w, w ∈ a1.tyVars → st1.table.probeVar w = none ∧ st1.table.find w ≠ st1.table.find c.var
    | .ty t => by
        intro st a1 st1 hg hgd h
        simp only [occGArg] at h
        split at h
        · rename_i t' st' ht
          cases h
          obtain ⟨⟨h1, h2, h3, h5⟩, k⟩ := occTy_specs ar J hJ c outer t st t' st1 hg hgd ht
          exact ⟨⟨h1, h2, h3, fun θ hm => congrArg GArg.ty (h5 θ hm)⟩, k⟩
        · cases h
    | .lt _ | .ct _ => fun _ _ _ _ hgd _ => nomatch hgd
  theorem occArgs_specs (ar : TyName → Nat) (J : OccJumps) (hJ : OccTySpec ar J.jT) (c : OccCtx) (outer : Nat) :
      (as : Args) → ∀ st as1 st1, st.table.Good ar → as.good ar st.table.numVars = true →
        occArgs J c outer as st = .ok (as1, st1) →
        (st1.goals = st.goals ∧ st.table.Le ar st1.table ∧ as1.good ar st1.table.numVars = true ∧
          as1.length = as.length ∧ ∀ θ, st1.table.Models θ → as1.applyAsg θ = as.applyAsg θ) ∧
        ∀ κ, OccTySpec2 ar κ c J.jT → st.table.Kinded κ → c.var < st.table.numVars → as.kinded κ = true →
          st.table.Ext st1.table ∧ as1.kinded κ = true ∧
          ∀ w, w ∈ as1.tyVars → st1.table.probeVar w = none ∧ st1.table.find w ≠ st1.table.find c.var
    | .nil => by
        intro st as1 st1 hg hgd h
        simp only [occArgs] at h; cases h
        exact ⟨⟨rfl, Table.Le.refl hg, hgd, rfl, fun _ _ => rfl⟩,
          fun κ _ _ _ hkd => ⟨Table.Ext.refl _, hkd, fun w hw => nomatch hw⟩⟩
    | .cons a as => by
        intro st as1 st1 hg hgd h
        simp only [occArgs] at h
        simp only [Args.good, Bool.and_eq_true] at hgd
        split at h
        · rename_i a' st' ha
          obtain ⟨⟨a1, a2, a3, a4⟩, ka⟩ := occGArg_specs ar J hJ c outer a st a' st' hg hgd.1 ha
          split at h
          · rename_i as' st2 has
            cases h
            obtain ⟨⟨b1, b2, b3, b4, b5⟩, kb⟩ := occArgs_specs ar J hJ c outer as st' as' st1 a2.good
              (Args.good_mono ar _ _ a2.numVars _ hgd.2) has
            refine ⟨⟨by rw [b1, a1], a2.trans b2, ?_, ?_, ?_⟩, fun κ hJ2 hk hc hkd => ?_⟩
            · simp only [Args.good, Bool.and_eq_true]
              exact ⟨GArg.good_mono ar _ _ b2.numVars _ a3, b3⟩
            · rw [Args.length_cons, Args.length_cons, b4]
            · intro θ hm
              simp only [Args.applyAsg]
              rw [b5 θ hm, a4 θ (b2.models θ hm)]
            · simp only [Args.kinded, Bool.and_eq_true] at hkd
              obtain ⟨e1, e2, e3⟩ := ka κ hJ2 hk hc hkd.1
              have hc' : c.var < st'.table.numVars := Nat.lt_of_lt_of_le hc a2.numVars
              obtain ⟨f1, f2, f3⟩ := kb κ hJ2 (e1.kinded hk) hc' hkd.2
              refine ⟨e1.trans f1, ?_, fun w hw => ?_⟩
              · simp only [Args.kinded, Bool.and_eq_true]; exact ⟨e2, f2⟩
              · simp only [Args.tyVars, List.mem_append] at hw
                rcases hw with hw | hw
                · have hw' : w < st'.table.numVars :=
                    GArg.tyVars_lt _ a' ((GArg.good_iff ar _ a').mp a3).2.1 w hw
                  rw [f1.probe w hw', f1.find w hw', f1.find _ hc']
                  exact e3 w hw
                · exact f3 w hw
          · cases h
        · cases h
end

theorem occArgs_spec (ar : TyName → Nat) (J : OccJumps) (hJ : OccTySpec ar J.jT) (c : OccCtx) (outer : Nat) :
    (as : Args) → ∀ st as1 st1, st.table.Good ar → as.good ar st.table.numVars = true →
      occArgs J c outer as st = .ok (as1, st1) →
      st1.goals = st.goals ∧ st.table.Le ar st1.table ∧ as1.good ar st1.table.numVars = true ∧
      as1.length = as.length ∧
      ∀ θ, st1.table.Models θ → as1.applyAsg θ = as.applyAsg θ :=
  fun as st as1 st1 hg hgd h => (occArgs_specs ar J hJ c outer as st as1 st1 hg hgd h).1

theorem occGArg_spec2 (ar : TyName → Nat) (κ : Nat → TyVarKind) (J : OccJumps) (c : OccCtx)
    (hJ : OccTySpec ar J.jT) (hJ2 : OccTySpec2 ar κ c J.jT) (outer : Nat) :
    (a : GArg) → ∀ st a1 st1, st.table.Good ar → st.table.Kinded κ → c.var < st.table.numVars →
      a.good ar st.table.numVars = true → a.kinded κ = true →
      occGArg J c outer a st = .ok (a1, st1) →
      st.table.Ext st1.table ∧ a1.kinded κ = true ∧
      ∀ w, w ∈ a1.tyVars → st1.table.probeVar w = none ∧ st1.table.find w ≠ st1.table.find c.var :=
  fun a st a1 st1 hg hk hc hgd hkd h => (occGArg_specs ar J hJ c outer a st a1 st1 hg hgd h).2 κ hJ2 hk hc hkd

theorem occJumps_spec (ar : TyName → Nat) (c : OccCtx) : ∀ n, OccTySpec ar (occJumps c n).jT
  | 0 => by intro ty st ty1 st1 _ _ h; simp [occJumps] at h
  | n + 1 => fun ty st ty1 st1 hg hgd h =>
      (occTy_specs ar _ (occJumps_spec ar c n) c 0 ty st ty1 st1 hg hgd h).1

theorem occursCheckTy_spec (ar : TyName → Nat) (jf : Nat) (c : OccCtx) : OccTySpec ar (occursCheckTy jf c) :=
  fun ty st ty1 st1 hg hgd h => (occTy_specs ar _ (occJumps_spec ar c jf) c 0 ty st ty1 st1 hg hgd h).1

theorem occJumps_spec2 (ar : TyName → Nat) (κ : Nat → TyVarKind) (c : OccCtx) :
    ∀ n, OccTySpec2 ar κ c (occJumps c n).jT
  | 0 => by intro ty st ty1 st1 _ _ _ _ _ h; simp [occJumps] at h
  | n + 1 => fun ty st ty1 st1 hg hk hc hgd hkd h =>
      (occTy_specs ar _ (occJumps_spec ar c n) c 0 ty st ty1 st1 hg hgd h).2 κ (occJumps_spec2 ar κ c n)
        hk hc hkd

theorem occursCheckTy_spec2 (ar : TyName → Nat) (κ : Nat → TyVarKind) (jf : Nat) (c : OccCtx) :
    OccTySpec2 ar κ c (occursCheckTy jf c) :=
  fun ty st ty1 st1 hg hk hc hgd hkd h =>
    (occTy_specs ar _ (occJumps_spec ar c jf) c 0 ty st ty1 st1 hg hgd h).2 κ (occJumps_spec2 ar κ c jf)
      hk hc hkd

/-! Generalization, two specifications proved in one traversal: with jumps that refine the table it
  refines it (`GenTySpec`); and on a type whose variables are all unbound (so that no jump is
  taken) it extends the table and returns variables of the input or fresh ones. -/

def GenTySpec (ar : TyName → Nat) (f : Ty → Table → URes (Ty × Table)) : Prop :=
  ∀ ty t gen t2, t.Good ar → ty.good ar t.numVars = true → f ty t = .ok (gen, t2) →
    t.Le ar t2 ∧ gen.good ar t2.numVars = true

/-- the conclusion of `generalizeTy_specs` with output = input, so that the leaf cases close with `exact` -/
theorem generalizeTy_same {ar : TyName → Nat} {κ : Nat → TyVarKind}
    {jG : Variance → Ty → Table → URes (Ty × Table)} (ty : Ty) (t : Table) :
    ((∀ v, GenTySpec ar (jG v)) → t.Good ar → ty.good ar t.numVars = true →
      t.Le ar t ∧ ty.good ar t.numVars = true) ∧
    (t.WF → (∀ x, t.numVars ≤ x → κ x = .general) → ty.good ar t.numVars = true → ty.kinded κ = true →
      (∀ w, w ∈ ty.tyVars → t.probeVar w = none) →
      t.WF ∧ t.Ext t ∧ ty.kinded κ = true ∧
      ∀ w, w ∈ ty.tyVars → w ∈ ty.tyVars ∨ (t.numVars ≤ w ∧ w < t.numVars)) :=
  ⟨fun _ hg hgd => ⟨Table.Le.refl hg, hgd⟩,
   fun hwf _ _ hkd _ => ⟨hwf, Table.Ext.refl _, hkd, fun _ hw => Or.inl hw⟩⟩

mutual
  theorem generalizeTy_specs (ar : TyName → Nat) (κ : Nat → TyVarKind)
      (jG : Variance → Ty → Table → URes (Ty × Table)) (db : UDb) (ui : Nat) (v : Variance) :
      (ty : Ty) → ∀ t gen t2, generalizeTy jG db ui v ty t = .ok (gen, t2) →
        ((∀ v, GenTySpec ar (jG v)) → t.Good ar → ty.good ar t.numVars = true →
          t.Le ar t2 ∧ gen.good ar t2.numVars = true) ∧
        (t.WF → (∀ x, t.numVars ≤ x → κ x = .general) → ty.good ar t.numVars = true →
          ty.kinded κ = true → (∀ w, w ∈ ty.tyVars → t.probeVar w = none) →
          t2.WF ∧ t.Ext t2 ∧ gen.kinded κ = true ∧
          ∀ w, w ∈ gen.tyVars → w ∈ ty.tyVars ∨ (t.numVars ≤ w ∧ w < t2.numVars))
    | .app n args => by
        intro t gen t2 h
        simp only [generalizeTy] at h
        split at h
        · rename_i args' t' hargs
          cases h
          obtain ⟨k1, k2⟩ := generalizeArgs_specs ar κ jG db ui _ 0 args t args' t2 hargs
          refine ⟨fun hJ hg hgd => ?_,
            fun hwf hκ hgd hkd hu => k2 hwf hκ (Bool.and_eq_true_iff.mp hgd).2 hkd hu⟩
          simp only [Ty.good, Bool.and_eq_true, beq_iff_eq] at hgd ⊢
          obtain ⟨h1, h2, h3⟩ := k1 hJ hg hgd.2
          exact ⟨h1, by rw [h3]; exact hgd.1, h2⟩
        · cases h
    | .scalar _ | .str | .never | .foreign _ | .placeholder _ _ => by
        intro t gen t2 h; simp only [generalizeTy] at h; cases h; exact generalizeTy_same _ t
    | .error | .array _ _ | .ref _ _ _ | .dyn _ _ _ | .proj _ _ | .opaque _ _ | .function _ _ _
    | .bound _ _ => fun _ _ _ _ => ⟨fun _ _ hgd => (nomatch hgd), fun _ _ hgd => (nomatch hgd)⟩
    | .slice ty | .raw _ ty => by
        intro t gen t2 h
        simp only [generalizeTy] at h
        split at h
        · rename_i ty' t' hty
          cases h
          exact generalizeTy_specs ar κ jG db ui _ ty t ty' t2 hty
        · cases h
    | .infer x k => by
        intro t gen t2 h
        simp only [generalizeTy] at h
        cases k with
        | integer | float => simp only at h; cases h; exact generalizeTy_same _ t
        | general =>
          simp only at h
          split at h
          · -- a bound variable: the jump; excluded when all variables are unbound
            rename_i ty hn
            refine ⟨fun hJ hg hgd => ?_, fun _ _ _ _ hu => ?_⟩
            · have hs := t.normalize_spec hg _ hgd
              rw [hn] at hs
              exact hJ v ty t gen t2 hg hs.1 h
            · simp [Table.normalizeTyShallow, Table.normalizeTyShallowInner,
                hu x (List.mem_singleton.mpr rfl)] at hn
          · split at h
            · cases h; exact generalizeTy_same _ t
            · cases h
              refine ⟨fun _ hg _ => ⟨t.newVariable_Le ui hg, ?_⟩, fun hwf hκ _ _ _ =>
                ⟨t.newVariable_WF ui hwf, t.newVariable_Ext ui hwf, ?_, fun w hw => ?_⟩⟩
              · simp [Ty.good, Table.newVariable_numVars, Table.newVariable_snd]
              · exact decide_eq_true (hκ _ (Nat.le_refl _)).symm
              · obtain rfl : w = _ := List.mem_singleton.mp hw
                rw [t.newVariable_numVars, Table.newVariable_snd]
                exact .inr ⟨Nat.le_refl _, Nat.lt_succ_self _⟩
  theorem generalizeGArg_specs (ar : TyName → Nat) (κ : Nat → TyVarKind)
      (jG : Variance → Ty → Table → URes (Ty × Table)) (db : UDb) (ui : Nat) (v : Variance) :
      (a : GArg) → ∀ t a1 t2, generalizeGArg jG db ui v a t = .ok (a1, t2) →
        ((∀ v, GenTySpec ar (jG v)) → t.Good ar → a.good ar t.numVars = true →
          t.Le ar t2 ∧ a1.good ar t2.numVars = true) ∧
        (t.WF → (∀ x, t.numVars ≤ x → κ x = .general) → a.good ar t.numVars = true →
          a.kinded κ = true → (∀ w, w ∈ a.tyVars → t.probeVar w = none) →
          t2.WF ∧ t.Ext t2 ∧ a1.kinded κ = true ∧
          ∀ w, w ∈ a1.tyVars → w ∈ a.tyVars ∨ (t.numVars ≤ w ∧ w < t2.numVars))
    | .ty ty => by
        intro t a1 t2 h
        simp only [generalizeGArg] at h
        split at h
        · rename_i ty' t' hty
          cases h
          exact generalizeTy_specs ar κ jG db ui v ty t ty' t2 hty
        · cases h
    | .lt _ | .ct _ => fun _ _ _ _ => ⟨fun _ _ hgd => (nomatch hgd), fun _ _ hgd => (nomatch hgd)⟩
  theorem generalizeArgs_specs (ar : TyName → Nat) (κ : Nat → TyVarKind)
      (jG : Variance → Ty → Table → URes (Ty × Table)) (db : UDb) (ui : Nat) (gv : GenVariances) (i : Nat) :
      (as : Args) → ∀ t as1 t2, generalizeArgs jG db ui gv i as t = .ok (as1, t2) →
        ((∀ v, GenTySpec ar (jG v)) → t.Good ar → as.good ar t.numVars = true →
          t.Le ar t2 ∧ as1.good ar t2.numVars = true ∧ as1.length = as.length) ∧
        (t.WF → (∀ x, t.numVars ≤ x → κ x = .general) → as.good ar t.numVars = true →
          as.kinded κ = true → (∀ w, w ∈ as.tyVars → t.probeVar w = none) →
          t2.WF ∧ t.Ext t2 ∧ as1.kinded κ = true ∧
          ∀ w, w ∈ as1.tyVars → w ∈ as.tyVars ∨ (t.numVars ≤ w ∧ w < t2.numVars))
    | .nil => by
        intro t as1 t2 h
        simp only [generalizeArgs] at h; cases h
        exact ⟨fun _ hg hgd => ⟨Table.Le.refl hg, hgd, rfl⟩,
          fun hwf _ _ hkd _ => ⟨hwf, Table.Ext.refl _, hkd, fun _ hw => Or.inl hw⟩⟩
    | .cons a as => by
        intro t as1 t2 h
        simp only [generalizeArgs] at h
        split at h
        · cases h
        · rename_i w hw
          split at h
          · rename_i a' t1 ha
            obtain ⟨ka1, ka2⟩ := generalizeGArg_specs ar κ jG db ui w a t a' t1 ha
            split at h
            · rename_i as' t2' has
              cases h
              obtain ⟨kb1, kb2⟩ := generalizeArgs_specs ar κ jG db ui gv (i + 1) as t1 as' t2 has
              refine ⟨fun hJ hg hgd => ?_, fun hwf hκ hgd hkd hu => ?_⟩
              · simp only [Args.good, Bool.and_eq_true] at hgd ⊢
                obtain ⟨a1, a2⟩ := ka1 hJ hg hgd.1
                obtain ⟨b1, b2, b3⟩ := kb1 hJ a1.good (Args.good_mono ar _ _ a1.numVars _ hgd.2)
                exact ⟨a1.trans b1, ⟨GArg.good_mono ar _ _ b1.numVars _ a2, b2⟩,
                  by rw [Args.length_cons, Args.length_cons, b3]⟩
              · simp only [Args.good, Bool.and_eq_true] at hgd
                simp only [Args.kinded, Bool.and_eq_true] at hkd ⊢
                simp only [Args.tyVars, List.mem_append] at hu ⊢
                obtain ⟨a1, a2, a3, a4⟩ := ka2 hwf hκ hgd.1 hkd.1 (fun x hx => hu x (Or.inl hx))
                obtain ⟨b1, b2, b3, b4⟩ := kb2 a1 (fun x hx => hκ x (Nat.le_trans a2.numVars hx))
                  (Args.good_mono ar _ _ a2.numVars _ hgd.2) hkd.2
                  (fun x hx => by
                    rw [a2.probe x (Args.tyVars_lt _ as ((Args.good_iff ar _ as).mp hgd.2).2.1 x hx)]
                    exact hu x (Or.inr hx))
                refine ⟨b1, a2.trans b2, ⟨a3, b3⟩, fun x hx => ?_⟩
                rcases hx with hx | hx
                · rcases a4 x hx with h | ⟨h1, h2⟩
                  · exact Or.inl (Or.inl h)
                  · exact Or.inr ⟨h1, Nat.lt_of_lt_of_le h2 b2.numVars⟩
                · rcases b4 x hx with h | ⟨h1, h2⟩
                  · exact Or.inl (Or.inr h)
                  · exact Or.inr ⟨Nat.le_trans a2.numVars h1, h2⟩
            · cases h
          · cases h
end

theorem generalizeGArg_spec (ar : TyName → Nat) (jG : Variance → Ty → Table → URes (Ty × Table))
    (hJ : ∀ v, GenTySpec ar (jG v)) (db : UDb) (ui : Nat) (v : Variance) :
    (a : GArg) → ∀ t a1 t2, t.Good ar → a.good ar t.numVars = true →
      generalizeGArg jG db ui v a t = .ok (a1, t2) →
      t.Le ar t2 ∧ a1.good ar t2.numVars = true :=
  fun a t a1 t2 hg hgd h => (generalizeGArg_specs ar (fun _ => .general) jG db ui v a t a1 t2 h).1 hJ hg hgd

theorem generalizeArgs_spec (ar : TyName → Nat) (jG : Variance → Ty → Table → URes (Ty × Table))
    (hJ : ∀ v, GenTySpec ar (jG v)) (db : UDb) (ui : Nat) (gv : GenVariances) (i : Nat) :
    (as : Args) → ∀ t as1 t2, t.Good ar → as.good ar t.numVars = true →
      generalizeArgs jG db ui gv i as t = .ok (as1, t2) →
      t.Le ar t2 ∧ as1.good ar t2.numVars = true ∧ as1.length = as.length :=
  fun as t as1 t2 hg hgd h => (generalizeArgs_specs ar (fun _ => .general) jG db ui gv i as t as1 t2 h).1 hJ hg hgd

theorem generalizeGArg_spec2 (ar : TyName → Nat) (κ : Nat → TyVarKind)
    (jG : Variance → Ty → Table → URes (Ty × Table)) (db : UDb) (ui : Nat) (v : Variance) :
    (a : GArg) → ∀ t a1 t2, t.WF → (∀ x, t.numVars ≤ x → κ x = .general) →
      a.good ar t.numVars = true → a.kinded κ = true →
      (∀ w, w ∈ a.tyVars → t.probeVar w = none) →
      generalizeGArg jG db ui v a t = .ok (a1, t2) →
      t2.WF ∧ t.Ext t2 ∧ a1.kinded κ = true ∧
      ∀ w, w ∈ a1.tyVars → w ∈ a.tyVars ∨ (t.numVars ≤ w ∧ w < t2.numVars) :=
  fun a t a1 t2 hwf hκ hgd hkd hu h => (generalizeGArg_specs ar κ jG db ui v a t a1 t2 h).2 hwf hκ hgd hkd hu

theorem generalizeArgs_spec2 (ar : TyName → Nat) (κ : Nat → TyVarKind)
    (jG : Variance → Ty → Table → URes (Ty × Table)) (db : UDb) (ui : Nat) (gv : GenVariances) (i : Nat) :
    (as : Args) → ∀ t as1 t2, t.WF → (∀ x, t.numVars ≤ x → κ x = .general) →
      as.good ar t.numVars = true → as.kinded κ = true →
      (∀ w, w ∈ as.tyVars → t.probeVar w = none) →
      generalizeArgs jG db ui gv i as t = .ok (as1, t2) →
      t2.WF ∧ t.Ext t2 ∧ as1.kinded κ = true ∧
      ∀ w, w ∈ as1.tyVars → w ∈ as.tyVars ∨ (t.numVars ≤ w ∧ w < t2.numVars) :=
  fun as t as1 t2 hwf hκ hgd hkd hu h =>
    (generalizeArgs_specs ar κ jG db ui gv i as t as1 t2 h).2 hwf hκ hgd hkd hu

theorem generalizeJump_spec (ar : TyName → Nat) (db : UDb) (ui : Nat) :
    ∀ n v, GenTySpec ar (generalizeJump db ui n v)
  | 0 => by intro v ty t gen t2 _ _ h; simp [generalizeJump] at h
  | n + 1 => fun v ty t gen t2 hg hgd h =>
      (generalizeTy_specs ar (fun _ => .general) _ db ui v ty t gen t2 h).1 (generalizeJump_spec ar db ui n) hg hgd

theorem generalizeTyTop_spec (ar : TyName → Nat) (db : UDb) (jf ui : Nat) (v : Variance) :
    GenTySpec ar (generalizeTyTop db jf ui v) :=
  fun ty t gen t2 hg hgd h =>
    (generalizeTy_specs ar (fun _ => .general) _ db ui v ty t gen t2 h).1 (generalizeJump_spec ar db ui jf) hg hgd

theorem generalizeTyTop_spec2 (ar : TyName → Nat) (κ : Nat → TyVarKind) (db : UDb) (jf ui : Nat)
    (v : Variance) (ty : Ty) (t : Table) (gen : Ty) (t2 : Table) (hwf : t.WF)
    (hκ : ∀ x, t.numVars ≤ x → κ x = .general) (hgd : ty.good ar t.numVars = true)
    (hkd : ty.kinded κ = true) (hu : ∀ w, w ∈ ty.tyVars → t.probeVar w = none)
    (h : generalizeTyTop db jf ui v ty t = .ok (gen, t2)) :
    t2.WF ∧ t.Ext t2 ∧ gen.kinded κ = true ∧
    ∀ w, w ∈ gen.tyVars → w ∈ ty.tyVars ∨ (t.numVars ≤ w ∧ w < t2.numVars) :=
  (generalizeTy_specs ar κ _ db ui v ty t gen t2 h).2 hwf hκ hgd hkd hu

theorem occTy_isInfer (ar : TyName → Nat) (J : OccJumps) (c : OccCtx) (outer : Nat) (ty : Ty) (st : UState)
    (ty1 : Ty) (st1 : UState) (hgd : ty.good ar st.table.numVars = true) (hni : ty.isInfer = false)
    (h : occTy J c outer ty st = .ok (ty1, st1)) : ty1.isInfer = false := by
  cases ty <;> simp [Ty.good] at hgd <;> simp [Ty.isInfer] at hni <;> simp only [occTy] at h <;>
    (repeat (split at h)) <;> (try cases h) <;> rfl

theorem generalizeTy_isInfer (ar : TyName → Nat) (jG : Variance → Ty → Table → URes (Ty × Table))
    (db : UDb) (ui : Nat) (v : Variance) (ty : Ty) (t : Table) (gen : Ty) (t2 : Table)
    (hgd : ty.good ar t.numVars = true) (hni : ty.isInfer = false)
    (h : generalizeTy jG db ui v ty t = .ok (gen, t2)) : gen.isInfer = false := by
  cases ty <;> simp [Ty.good] at hgd <;> simp [Ty.isInfer] at hni <;> simp only [generalizeTy] at h <;>
    (repeat (split at h)) <;> (try cases h) <;> rfl

end Chalk
