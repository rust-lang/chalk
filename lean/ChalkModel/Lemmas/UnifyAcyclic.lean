/-
  The occurs check's half of unifier soundness: the table stays acyclic (`Table.Ranked`), hence has
  a canonical solution, hence fully resolving the two related types through the resulting table
  gives equal types. This needs the kind discipline `Table.Kinded κ` on the table and `Ty.kinded κ`
  on the two types; the two counterexamples at the end show that neither can be dropped.
-/
import ChalkModel.Lemmas.UnifySound

namespace Chalk

theorem relateTy_ranked (db : UDb) (jf : Nat) (ar : TyName → Nat) (κ : Nat → TyVarKind) :
    ∀ (fuel : Nat) (a b : Ty) (st st' : UState),
      st.table.WF → st.table.foValues → st.table.arityValues ar →
      a.fo = true → b.fo = true →
      a.varsBelow st.table.numVars = true → b.varsBelow st.table.numVars = true →
      a.arityOk ar = true → b.arityOk ar = true →
      st.table.Kinded κ → a.kinded κ = true → b.kinded κ = true →
      st.table.Ranked →
      relateTy db jf fuel .inv a b st = .ok st' →
      st'.table.Ranked ∧ st'.table.Kinded κ := by
  intro fuel a b st st' hwf hfo har hafo hbfo hav hbv haa hba hk hka hkb hr h
  have hg : st.table.Good ar := ⟨hwf, (Table.goodValues_iff ar _).mpr ⟨hfo, har⟩⟩
  have := (relateTy_soundAcyclic ar db jf fuel a b st st' hg
    ((Ty.good_iff ar _ a).mpr ⟨hafo, hav, haa⟩) ((Ty.good_iff ar _ b).mpr ⟨hbfo, hbv, hba⟩) h).2 κ hk hr hka hkb
  exact ⟨this.2, this.1⟩

theorem relateTy_sound_resolve_of_ranked (db : UDb) (jf : Nat) (ar : TyName → Nat) :
    ∀ (fuel : Nat) (a b : Ty) (st st' : UState),
      st.table.WF → st.table.foValues → st.table.arityValues ar →
      a.fo = true → b.fo = true →
      a.varsBelow st.table.numVars = true → b.varsBelow st.table.numVars = true →
      a.arityOk ar = true → b.arityOk ar = true →
      relateTy db jf fuel .inv a b st = .ok st' → st'.table.Ranked →
      ∃ N, ∀ n, N ≤ n → st'.table.resolve n a = st'.table.resolve n b := by
  intro fuel a b st st' hwf hfo har hafo hbfo hav hbv haa hba h hrk
  obtain ⟨s1, s2, _, _, s5, _, s7, _, _⟩ :=
    relateTy_sound db jf ar fuel a b st st' hwf hfo har hafo hbfo hav hbv haa hba h
  obtain ⟨N, hm, hst⟩ := st'.table.ranked_canon s1 s2 hrk
  refine ⟨N, ?_⟩
  intro n hn
  have key : ∀ ty : Ty, ty.varsBelow st.table.numVars = true →
      st'.table.resolve n ty = st'.table.resolve N ty := by
    intro ty hty
    apply Ty.applyAsg_congr
    intro w hw
    exact hst n hn w (Nat.lt_of_lt_of_le (Ty.tyVars_lt _ ty hty w hw) s5)
  rw [key a hav, key b hbv]
  exact (s7 _ hm).2

theorem relateTy_sound_resolve (db : UDb) (jf : Nat) (ar : TyName → Nat) (κ : Nat → TyVarKind) :
    ∀ (fuel : Nat) (a b : Ty) (st st' : UState),
      st.table.WF → st.table.foValues → st.table.arityValues ar →
      a.fo = true → b.fo = true →
      a.varsBelow st.table.numVars = true → b.varsBelow st.table.numVars = true →
      a.arityOk ar = true → b.arityOk ar = true →
      st.table.Kinded κ → a.kinded κ = true → b.kinded κ = true →
      st.table.Ranked →
      relateTy db jf fuel .inv a b st = .ok st' →
      ∃ N, ∀ n, N ≤ n → st'.table.resolve n a = st'.table.resolve n b := by
  intro fuel a b st st' hwf hfo har hafo hbfo hav hbv haa hba hk hka hkb hr h
  exact relateTy_sound_resolve_of_ranked db jf ar fuel a b st st' hwf hfo har hafo hbfo hav hbv haa hba h
    (relateTy_ranked db jf ar κ fuel a b st st' hwf hfo har hafo hbfo hav hbv haa hba hk hka hkb hr h).1

/-- COUNTEREXAMPLE without `Ty.kinded`: one variable written with two kinds. Relating `?0`
    (general) with `?0` (integer) on the table with the single unbound variable `?0` succeeds by
    binding `?0 := ?0`; the result is cyclic. No `κ` makes both types kinded; the other hypotheses of
    `relateTy_ranked` hold. -/
example :
    let st : UState := { table := (Table.new.newVariable 0).1 }
    let a : Ty := .infer 0 .general
    let b : Ty := .infer 0 .integer
    st.table.WF ∧ st.table.foValues ∧ st.table.arityValues (fun _ => 0) ∧ st.table.Ranked ∧
    a.fo = true ∧ b.fo = true ∧ a.varsBelow st.table.numVars = true ∧ b.varsBelow st.table.numVars = true ∧
    ∃ st', relateTy exDb 1 1 .inv a b st = .ok st' ∧ ¬ st'.table.Ranked := by
  refine ⟨Table.newVariable_WF _ _ Table.new_WF,
    Table.newVariable_foValues _ _ Table.new_WF Table.new_foValues,
    Table.newVariable_arityValues _ _ _ Table.new_WF (Table.new_arityValues _),
    Table.newVariable_Ranked _ _ Table.new_WF Table.new_Ranked, rfl, rfl, rfl, rfl, _, rfl, ?_⟩
  rintro ⟨N, ρ, _, hr⟩
  have := hr 0 (.infer 0 .integer) (by decide) rfl 0 (by simp [Ty.tyVars])
  exact Nat.lt_irrefl _ this

/-- COUNTEREXAMPLE without the `varval` part of `Table.Kinded` (all kinds general): on the acyclic
    table `?0 := ?1, ?1 := ?2, ?2 := Adt0<?3>`, two-level normalization of `?0` stops at the
    BOUND variable `?2`; relating `?0` with `?3` then unions the class of `?2` with `?3` and the
    result `?3 := Adt0<?3>` is cyclic. -/
example :
    let t : Table := Table.mk [0, 1, 2, 3] [0, 0, 0, 0]
      [.bound (.ty (.infer 1 .general)), .bound (.ty (.infer 2 .general)),
       .bound (.ty (.app (.adt 0) (.cons (.ty (.infer 3 .general)) .nil))), .unbound 0] 0
    let st : UState := { table := t }
    t.WF ∧ t.Ranked ∧ ∃ st', relateTy exDb 1 1 .inv (.infer 0 .general) (.infer 3 .general) st = .ok st' ∧
      ¬ st'.table.Ranked := by
  intro t st
  refine ⟨⟨rfl, rfl, by decide, by decide⟩, ⟨4, fun v => 3 - v, fun v => by show 3 - v < 4; omega, ?_⟩, _, rfl, ?_⟩
  · intro v ty hv hp w hw
    have hv' : v = 0 ∨ v = 1 ∨ v = 2 ∨ v = 3 := by
      have : v < 4 := hv
      omega
    rcases hv' with rfl | rfl | rfl | rfl
    · have : ty = .infer 1 .general := by
        have e : t.probeVar 0 = some (.ty (.infer 1 .general)) := rfl
        rw [e] at hp; cases hp; rfl
      subst this; simp [Ty.tyVars] at hw; subst hw; decide
    · have : ty = .infer 2 .general := by
        have e : t.probeVar 1 = some (.ty (.infer 2 .general)) := rfl
        rw [e] at hp; cases hp; rfl
      subst this; simp [Ty.tyVars] at hw; subst hw; decide
    · have : ty = .app (.adt 0) (.cons (.ty (.infer 3 .general)) .nil) := by
        have e : t.probeVar 2 = some (.ty (.app (.adt 0) (.cons (.ty (.infer 3 .general)) .nil))) := rfl
        rw [e] at hp; cases hp; rfl
      subst this; simp [Ty.tyVars, Args.tyVars, GArg.tyVars] at hw; subst hw; decide
    · have e : t.probeVar 3 = none := rfl
      rw [e] at hp; cases hp
  · rintro ⟨N, ρ, _, hr⟩
    have := hr 3 (.app (.adt 0) (.cons (.ty (.infer 3 .general)) .nil)) (by decide) rfl 3
      (by simp [Ty.tyVars, Args.tyVars, GArg.tyVars])
    exact Nat.lt_irrefl _ this

/-- NON-VACUITY: `?0` against `Adt0<u8>` on the one-variable table satisfies every hypothesis of
    `relateTy_sound_resolve` (all kinds general) and the theorem yields that both sides resolve
    to the same type from some level on. -/
example :
    let b : Ty := .app (.adt 0) (.cons (.ty (.scalar 1)) .nil)
    let st : UState := { table := (Table.new.newVariable 0).1 }
    ∃ st', relateTy exDb 2 2 .inv (.infer 0 .general) b st = .ok st' ∧ st'.table.Ranked ∧
      ∃ N, ∀ n, N ≤ n → st'.table.resolve n (.infer 0 .general) = st'.table.resolve n b := by
  intro b st
  refine ⟨_, rfl, ?_⟩
  have hwf : st.table.WF := Table.newVariable_WF _ _ Table.new_WF
  have hfo : st.table.foValues := Table.newVariable_foValues _ _ Table.new_WF Table.new_foValues
  have har : st.table.arityValues (fun _ => 1) :=
    Table.newVariable_arityValues _ _ _ Table.new_WF (Table.new_arityValues _)
  have hk : st.table.Kinded (fun v => if v = Table.new.numVars then .general else .general) :=
    Table.newVariable_Kinded _ _ 0 .general Table.new_WF Table.new_foValues Table.new_Kinded
  have hr : st.table.Ranked := Table.newVariable_Ranked _ _ Table.new_WF Table.new_Ranked
  exact ⟨(relateTy_ranked exDb 2 (fun _ => 1) _ 2 (.infer 0 .general) b st _ hwf hfo har
      rfl rfl rfl rfl rfl rfl hk rfl rfl hr rfl).1,
    relateTy_sound_resolve exDb 2 (fun _ => 1) _ 2 (.infer 0 .general) b st _ hwf hfo har
      rfl rfl rfl rfl rfl rfl hk rfl rfl hr rfl⟩

end Chalk

#print axioms Chalk.Table.new_Ranked
#print axioms Chalk.Table.newVariable_Ranked
#print axioms Chalk.Table.newUniverse_Ranked
#print axioms Chalk.relateTy_ranked
#print axioms Chalk.Table.ranked_canon
#print axioms Chalk.relateTy_sound_resolve_of_ranked
#print axioms Chalk.relateTy_sound_resolve
