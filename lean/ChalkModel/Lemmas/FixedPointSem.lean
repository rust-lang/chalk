/-
  FixedPointSem.lean — definitions for the fixed-point iteration of `FixedPoint.lean` on CYCLIC ground instances
  of one polarity `c`: the semantics (`InGfp`, `InLfp`, the target `Tgt c`, correct answers `Corr`), the relative
  fixed point `InG` over the valuation of a state, the state invariant `Inv`, the frame `Step` of a completed
  `solve_goal`, what a call reports (`Fact`).  `FixedPointSemA … J, N` prove that `solve_goal` keeps them;
  `FixedPointMix*.lean` has the same letters for instances of both polarities.  Overview: `Props/C05fp.md`.
-/
import ChalkModel.Lemmas.FixedPointFrame

namespace Chalk.FixedPoint.Cyc

/-- polarity-generic operator: `JE` for `true`, `JA` for `false` -/
def J (b : Bool) (inst : Instance) (X : Nat → Prop) (k : Nat) : Prop :=
  if b then JE inst X k else JA inst X k

def InGfp (inst : Instance) (k : Nat) : Prop :=
  ∃ S : Nat → Prop, (∀ x, S x → JE inst S x) ∧ S k

inductive InLfp (inst : Instance) : Nat → Prop where
  | intro (k : Nat) (alt : List Nat) : alt ∈ inst.deps k → (∀ j, j ∈ alt → InLfp inst j) → InLfp inst k

theorem J.mono {b : Bool} {inst : Instance} {X Y : Nat → Prop} (h : ∀ j, X j → Y j) {k : Nat}
    (hk : J b inst X k) : J b inst Y k := by
  cases b with
  | true => exact JE.mono h hk
  | false => exact JA.mono h hk

/-- duality: `J (!b) (¬ X)` excludes `J b X` -/
theorem J.dual {b : Bool} {inst : Instance} {X : Nat → Prop} {k : Nat}
    (h : J (!b) inst (fun j => ¬ X j) k) : ¬ J b inst X k := by
  cases b with
  | true =>
    rintro ⟨alt, ha, hj⟩
    obtain ⟨j, hjm, hn⟩ := h alt ha
    exact hn (hj j hjm)
  | false =>
    intro h2
    obtain ⟨alt, ha, hj⟩ := h
    obtain ⟨j, hjm, hx⟩ := h2 alt ha
    exact hj j hjm hx

/-- the semantic target of polarity `c`: the gfp of `T` for coinductive instances, the complement of
    the lfp of `T` (= the gfp of the dual operator) for inductive ones.  In both cases the goals whose
    correct answer is `initialValue c`. -/
def Tgt (c : Bool) (inst : Instance) (k : Nat) : Prop :=
  if c then InGfp inst k else ¬ InLfp inst k

theorem Tgt.unfold {c : Bool} {inst : Instance} {k : Nat} (h : Tgt c inst k) : J c inst (Tgt c inst) k := by
  cases c with
  | true =>
    obtain ⟨S, hS, hk⟩ := h
    exact JE.mono (fun j hj => ⟨S, hS, hj⟩) (hS k hk)
  | false =>
    intro alt ha
    apply Classical.byContradiction
    intro hn
    apply h
    refine InLfp.intro k alt ha (fun j hj => ?_)
    apply Classical.byContradiction
    intro hl
    exact hn ⟨j, hj, hl⟩

theorem Tgt.coind {c : Bool} {inst : Instance} (S : Nat → Prop)
    (hS : ∀ k, S k → J c inst (fun j => S j ∨ Tgt c inst j) k) : ∀ k, S k → Tgt c inst k := by
  cases c with
  | true =>
    intro k hk
    refine ⟨fun j => S j ∨ InGfp inst j, ?_, Or.inl hk⟩
    intro x hx
    cases hx with
    | inl h => exact hS x h
    | inr h =>
      obtain ⟨S', hS', hx'⟩ := h
      exact JE.mono (fun j hj => Or.inr ⟨S', hS', hj⟩) (hS' x hx')
  | false =>
    intro k hk hl
    induction hl with
    | intro k alt ha _ ih =>
      obtain ⟨j, hj, hx⟩ := hS k hk alt ha
      cases hx with
      | inl h => exact ih j hj h
      | inr h => exact h (by rename_i hall; exact hall j hj)

theorem Tgt.fold {c : Bool} {inst : Instance} {k : Nat} (h : J c inst (Tgt c inst) k) : Tgt c inst k := by
  refine Tgt.coind (fun x => J c inst (Tgt c inst) x) ?_ k h
  intro x hx
  exact J.mono (fun j hj => Or.inr hj) hx

/-- the optimistic value of polarity `c` (`initial_value`) -/
def top (c : Bool) : V := initialValue c
def bot (c : Bool) : V := if c then .noSolution else .unique

theorem top_ne_bot (c : Bool) : top c ≠ bot c := by cases c <;> decide
theorem top_ne_ambig (c : Bool) : top c ≠ .ambig := by cases c <;> decide
theorem bot_ne_ambig (c : Bool) : bot c ≠ .ambig := by cases c <;> decide

def Corr (c : Bool) (inst : Instance) (k : Nat) (v : V) : Prop :=
  (v = top c ∧ Tgt c inst k) ∨ (v = bot c ∧ ¬ Tgt c inst k)

section
variable {c : Bool} {inst : Instance}

theorem Corr.unique {k : Nat} {v w : V} (h1 : Corr c inst k v) (h2 : Corr c inst k w) : v = w := by
  cases h1 with
  | inl a =>
    cases h2 with
    | inl b => rw [a.1, b.1]
    | inr b => exact absurd a.2 b.2
  | inr a =>
    cases h2 with
    | inl b => exact absurd b.2 a.2
    | inr b => rw [a.1, b.1]

end

theorem corr_true (inst : Instance) (k : Nat) (v : V) :
    Corr true inst k v ↔ (v = .unique ∧ InGfp inst k) ∨ (v = .noSolution ∧ ¬ InGfp inst k) := by
  simp [Corr, top, bot, Tgt, initialValue]

theorem corr_false (inst : Instance) (k : Nat) (v : V) :
    Corr false inst k v ↔ (v = .unique ∧ InLfp inst k) ∨ (v = .noSolution ∧ ¬ InLfp inst k) := by
  simp only [Corr, top, bot, Tgt, initialValue, Bool.false_eq_true, if_false, Classical.not_not]
  exact Or.comm

theorem inGfp_iff (inst : Instance) (k : Nat) : InGfp inst k ↔ JE inst (InGfp inst) k :=
  ⟨fun h => Tgt.unfold (c := true) h, fun h => Tgt.fold (c := true) h⟩

theorem inGfp_greatest (inst : Instance) (S : Nat → Prop) (hS : ∀ x, S x → JE inst S x) :
    ∀ k, S k → InGfp inst k := fun _ hk => ⟨S, hS, hk⟩

theorem inLfp_iff (inst : Instance) (k : Nat) : InLfp inst k ↔ JE inst (InLfp inst) k := by
  constructor
  · intro h
    cases h with
    | intro _ alt ha hall => exact ⟨alt, ha, hall⟩
  · rintro ⟨alt, ha, hall⟩
    exact InLfp.intro k alt ha hall

theorem inLfp_least (inst : Instance) (X : Nat → Prop) (hX : ∀ x, JE inst X x → X x) :
    ∀ k, InLfp inst k → X k := by
  intro k hk
  induction hk with
  | intro k alt ha _ ih => exact hX k ⟨alt, ha, ih⟩

section Sem
variable (c : Bool) (inst : Instance)

/-- relative greatest fixed point (of the operator of polarity `c`): the goals that get the
    optimistic value when every goal the state knows is held at its current value -/
def InG (s : St) (k : Nat) : Prop :=
  ∃ S : Nat → Prop, (∀ x, S x → (Def s x (top c) ∨ Def s x .ambig) ∨ (Undef s x ∧ J c inst S x)) ∧ S k

/-- the optimistic answer for `j` is justified in `s` by nodes at or above `lb`: it is correct
    outright, or a node at `dfn ≥ lb` holds it (if that node is on the stack, its cycle flag is set) -/
def Wit (s : St) (lb : Min) (j : Nat) : Prop :=
  Tgt c inst j ∨ ∃ (i : Nat) (n : Node), s.graph[i]? = some n ∧ n.goal = j ∧ n.solution = top c ∧ MinLe lb (some i) ∧
    ∀ d, n.stackDepth = some d → flagAt s.stack d

/-- The state invariant (caching may be enabled or not: with `cache = none` nothing is `InCache`; the
    `should_continue` oracle is arbitrary: `ambig` values exist only once `interrupted` is set).
    Provisional values err on the optimistic side only (`approx`: a pessimistic value is already correct), and an
    optimistic node off the stack carries its justification `just`: sub-goals that are correct outright or held
    optimistically by nodes at an index `≥ links` (`Wit`), on the stack only with their cycle flag set.  The bound by
    `links` is what makes a completed component final: when the minimums of the head at `dfn` are `≥ dfn`, the
    optimistic nodes from `dfn` on justify each other and nothing below, so by coinduction (`Tgt.coind`) they are
    correct (`After.drained_corr`) — `links` records, like `Minimums` in chalk, how far down a provisional answer
    depends on the stack. -/
structure Inv (dom : List Nat) (fx : Bool) (s : St) : Prop where
  /-- the repairs `fixF10` and `fixF16` are assumed (`fx`), or solving is not interrupted at all -/
  fixes : fx = true ∨ (QuietSt s ∧ s.interrupted = false)
  amb : ∀ (i : Nat) (n : Node), s.graph[i]? = some n → n.solution = .ambig → s.interrupted = true
  cacheOK : ∀ k v, InCache s k v → Corr c inst k v
  stackCo : ∀ e, e ∈ s.stack → e.coinductiveGoal = c
  nodup : (s.graph.map (·.goal)).Nodup
  disj : ∀ (i : Nat) (n : Node), s.graph[i]? = some n → ∀ v, ¬ InCache s n.goal v
  inDom : ∀ (i : Nat) (n : Node), s.graph[i]? = some n → n.goal ∈ dom
  val : ∀ (i : Nat) (n : Node), s.graph[i]? = some n →
    n.solution = top c ∨ n.solution = bot c ∨ n.solution = .ambig
  approx : ∀ (i : Nat) (n : Node), s.graph[i]? = some n → n.solution = bot c → ¬ Tgt c inst n.goal
  stk : ∀ (i : Nat) (n : Node) (d : Nat), s.graph[i]? = some n → n.stackDepth = some d → d < s.stack.length ∧ n.links = some i
  nonstk : ∀ (i : Nat) (n : Node), s.graph[i]? = some n → n.stackDepth = none → ∃ l, n.links = some l ∧ l < i
  cnt : (stackGoals s.graph).length = s.stack.length
  just : ∀ (i : Nat) (n : Node), s.graph[i]? = some n → n.stackDepth = none → n.solution = top c →
    J c inst (Wit c inst s n.links) n.goal

/-- What a completed `solve_goal` did to the state (`lb`: lower bound of the links of new nodes): the `Frame`, and
    `low`: a new pessimistic entry is outside `InG` of the state the call started from.  The bound is RELATIVE
    because a call that runs while goals on the stack hold provisional values cannot know the final truth; what it
    refutes, it refutes even when every known goal is granted its present value.  That is stronger than `¬ Tgt`
    (`Inv.tgt_sub_InG`), stable when the valuation grows (`InG.mono`), and it bounds the loop: an optimistic outcome
    of a round lies in `T(InG st)` (`After.top_inG`), a pessimistic one outside, and after a pessimistic round the
    next round starts from a smaller `InG` (`After.restart_sub`) — the outcome cannot flip back: two rounds. -/
structure Step (s s' : St) (lb : Min) : Prop extends Frame s s' lb where
  low : ∀ k, Undef s k → Def s' k (bot c) → ¬ InG c inst s k

def Fact (s0 s' : St) (m' : Min) (g : Nat) (v : V) : Prop :=
  (v = top c ∧ Wit c inst s' m' g) ∨ (v = bot c ∧ ¬ Tgt c inst g ∧ ¬ InG c inst s0 g) ∨
  (v = .ambig ∧ s'.interrupted = true)

end Sem

end Chalk.FixedPoint.Cyc
