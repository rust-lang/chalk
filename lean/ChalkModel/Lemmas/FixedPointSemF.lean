/-
  FixedPointSemF.lean — one polarity: the loop of `solve_new_subgoal` goes round again (`After.restart`).
-/
import ChalkModel.Lemmas.FixedPointSemD

namespace Chalk.FixedPoint.Cyc

section
variable {c : Bool} {inst : Instance} {dom : List Nat} {fx : Bool}
variable {s0 st s1 : St} {g : Nat} {old cur : V} {m : Min} {new : List Node}

theorem After.restart (A : After c inst dom fx s0 st s1 g old cur m new) {s2 : St} (R : Rest s1 s2)
    (hst2 : s2.stack = setCycle false s0.stack.length s1.stack)
    (hg2 : s2.graph = s0.graph ++ [headNode s0 g cur]) : LoopSt c inst dom fx s0 g s2 := by
  have LF : LoopFrame s0 g s2 := A.L.restart A.step.toFrame R hst2 hg2
  have hlen2 : s2.stack.length = s0.stack.length + 1 := LF.slen
  have hflag : ∀ d, flagAt s0.stack d → flagAt s2.stack d := fun _ hd => LF.sext.flag hd
  have hnode : ∀ {i : Nat} {n : Node}, s2.graph[i]? = some n →
      (i < s0.graph.length ∧ s0.graph[i]? = some n) ∨ (i = s0.graph.length ∧ n = headNode s0 g cur) := by
    intro i n hn
    rw [hg2] at hn
    exact single_cases _ _ i n hn
  have hnode1 : ∀ {i : Nat} {n : Node}, s2.graph[i]? = some n → ∃ n', s1.graph[i]? = some n' ∧ n'.goal = n.goal := by
    intro i n hn
    cases hnode hn with
    | inl h => exact ⟨n, A.g0 h.2, rfl⟩
    | inr h => exact ⟨_, by rw [h.1]; exact A.head, by rw [h.2]; rfl⟩
  have hinv : Inv c inst dom fx s2 := by
    refine ⟨fixes_of_eq A.i1.fixes R.oracle R.oracleDefault R.interrupted, ?_, ?_, ?_, ?_, ?_, ?_, ?_, ?_, ?_, ?_, ?_, ?_⟩
    · intro i n hn ha
      rw [R.interrupted]
      cases hnode hn with
      | inl h => exact A.i1.amb i n (A.g0 h.2) ha
      | inr h => rw [h.2] at ha; exact A.amb ha
    · exact fun k v h => A.i1.cacheOK k v (R.inCache.mp h)
    · intro e he
      obtain ⟨i, hi⟩ := List.getElem?_of_mem he
      rw [hst2] at hi
      by_cases hid : i = s0.stack.length
      · subst hid
        have hlt : s0.stack.length < s1.stack.length := by rw [A.slen]; exact Nat.lt_succ_self _
        obtain ⟨e1, he1⟩ : ∃ e1, s1.stack[s0.stack.length]? = some e1 :=
          ⟨s1.stack[s0.stack.length], List.getElem?_eq_getElem hlt⟩
        rw [setCycle_getElem?_eq _ _ _ _ he1] at hi
        cases hi
        exact A.i1.stackCo e1 (List.mem_of_getElem? he1)
      · rw [setCycle_getElem?_ne _ _ _ _ hid] at hi
        exact A.i1.stackCo e (List.mem_of_getElem? hi)
    · have := A.L.inv.nodup
      rw [A.gt] at this
      rw [hg2]
      simpa [List.map_append, headNode] using this
    · intro i n hn v hc
      obtain ⟨n', hn', hgo⟩ := hnode1 hn
      exact A.i1.disj i n' hn' v (by rw [hgo]; exact R.inCache.mp hc)
    · intro i n hn
      obtain ⟨n', hn', hgo⟩ := hnode1 hn
      rw [← hgo]; exact A.i1.inDom i n' hn'
    · intro i n hn
      cases hnode hn with
      | inl h => exact A.L.i0.val i n h.2
      | inr h => rw [h.2]; exact A.cur_val
    · intro i n hn hb
      cases hnode hn with
      | inl h => exact A.L.i0.approx i n h.2 hb
      | inr h => rw [h.2] at hb ⊢; exact A.fact.not_tgt hb
    · intro i n d hn hd
      cases hnode hn with
      | inl h =>
        have := A.L.i0.stk i n d h.2 hd
        exact ⟨by rw [hlen2]; exact Nat.lt_succ_of_lt this.1, this.2⟩
      | inr h =>
        rw [h.2] at hd ⊢
        simp only [headNode, Option.some.injEq] at hd
        subst hd
        exact ⟨by rw [hlen2]; exact Nat.lt_succ_self _, by rw [h.1]; rfl⟩
    · intro i n hn hd
      cases hnode hn with
      | inl h => exact A.L.i0.nonstk i n h.2 hd
      | inr h => rw [h.2] at hd; cases hd
    · rw [hg2, stackGoals_append, List.length_append, A.L.i0.cnt, hlen2]
      rfl
    · intro i n hn hd htop
      cases hnode hn with
      | inl h =>
        exact J.mono (fun j hj => hj.from0 ⟨_, hg2⟩ hflag) (A.L.i0.just i n h.2 hd htop)
      | inr h => rw [h.2] at hd; cases hd
  refine ⟨LF, A.L.i0, A.L.u0, A.L.gdom, hinv, ?_⟩
  intro k hu hd
  apply loop_low A.L A.i1 A.step A.fact k hu
  cases hd with
  | inl h => exact Or.inl (Or.inl (R.inCache.mp h))
  | inr h =>
    obtain ⟨i, n, hn, hgo, hvn⟩ := h
    cases hnode hn with
    | inl h1 => exact absurd (Or.inr ⟨i, n, h1.2, hgo, hvn⟩) (hu _)
    | inr h1 =>
      rw [h1.2] at hgo hvn
      exact Or.inr ⟨hgo.symm, hvn⟩

end

end Chalk.FixedPoint.Cyc
