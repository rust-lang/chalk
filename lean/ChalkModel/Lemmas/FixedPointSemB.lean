/-
  FixedPointSemB.lean — one polarity: the class of instances `Hyp`, the specification `SubSpec` of a sub-goal solver
  ("returns with invariant, frame and fact, or budget panic with a right cache"), and one iteration
  (`solveIteration_spec`): the evaluation layer of `FixedPointEval.lean` with `Inv`, `Step` and `Fact`.
-/
import ChalkModel.Lemmas.FixedPointSemA
import ChalkModel.Lemmas.FixedPointEval
import ChalkModel.Lemmas.FixedPointEqns

namespace Chalk.FixedPoint.Cyc

/-- the class of instances: `dom` is closed under `deps`, every goal of `dom` is ground and has
    polarity `c` -/
structure Hyp (c : Bool) (inst : Instance) (dom : List Nat) : Prop where
  closed : ∀ k, k ∈ dom → ∀ alt, alt ∈ inst.deps k → ∀ j, j ∈ alt → j ∈ dom
  ground : ∀ k, k ∈ dom → inst.ground k = true
  coind : ∀ k, k ∈ dom → inst.coind k = c

/-- specification of a sub-goal solver with depth fuel `D`: called on a state with the invariant where the
    stack still fits, it returns with invariant, frame and the fact about its answer, or it ends in the
    budget panic; no assert fires -/
def SubSpec (c : Bool) (inst : Instance) (dom : List Nat) (fx : Bool) (cfg : Cfg) (D : Nat) (rec : SubSolver) : Prop :=
  ∀ g m s, Inv c inst dom fx s → g ∈ dom → cfg.overflowDepth < D + s.stack.length →
    (rec g m s).sat (fun r s' =>
      Inv c inst dom fx s' ∧ Step c inst s s' r.2 ∧ MinLe r.2 m ∧ Fact c inst s s' r.2 g r.1)
      (BudgetPanic (Corr c inst) cfg)

section
variable {c : Bool} {inst : Instance} {dom : List Nat} {fx : Bool} {rec : SubSolver} {cfg : Cfg} {D : Nat}

/-- the evaluation layer (`FixedPointEval.lean`) for one polarity: the states between sub-goal calls satisfy
    the invariant and the stack fits, `T` is the frame `Step` with a lowered minimum, `F` is `Fact` -/
theorem evalSpec (h16 : fx = true → cfg.fixF16 = true) (hrec : SubSpec c inst dom fx cfg D rec) :
    EvalSpec cfg rec (fun s => Inv c inst dom fx s ∧ cfg.overflowDepth < D + s.stack.length) (· ∈ dom)
      (fun s m s' m' => Step c inst s s' m' ∧ MinLe m' m) (Fact c inst) (BudgetPanic (Corr c inst) cfg) where
  sub x m s hi hx := (hrec x m s hi.1 hx hi.2).imp (fun _ _ ⟨h1, h2, h3, h4⟩ =>
    ⟨⟨h1, by rw [h2.stack.1]; exact hi.2⟩, ⟨h2, h3⟩, h4⟩)
  refl s m := ⟨Step.refl s m, MinLe.refl m⟩
  trans hi1 hi2 h1 h2 := ⟨h1.1.trans h2.1 h2.2 hi1.1 hi2.1, h2.2.trans h1.2⟩
  intr h := h.1.intr
  pre hi1 h1 hf := hf.pre h1.1 hi1.1
  post hf h2 := hf.post h2.1 h2.2
  ambig hf := hf.ambig
  unwrap s hi e e16 := by rw [fix_of_interrupted hi.1.fixes h16 e] at e16; cases e16

/-- the outcome of one iteration in terms of the polarity -/
def IterFact (c : Bool) (inst : Instance) (s s' : St) (m' : Min) (g : Nat) (v : V) : Prop :=
  (v = top c ∧ J c inst (Wit c inst s' m') g) ∨
  (v = bot c ∧ J (!c) inst (fun x => ¬ Tgt c inst x ∧ ¬ InG c inst s x) g) ∨
  (v = .ambig ∧ s'.interrupted = true)

theorem Fact.top_wit {s s' : St} {m' : Min} {x : Nat} (h : Fact c inst s s' m' x (top c)) :
    Wit c inst s' m' x := by
  rcases h with h | h | h
  · exact h.2
  · exact absurd h.1 (top_ne_bot c)
  · exact absurd h.1 (top_ne_ambig c)

theorem Fact.bot_not {s s' : St} {m' : Min} {x : Nat} (h : Fact c inst s s' m' x (bot c)) :
    ¬ Tgt c inst x ∧ ¬ InG c inst s x := by
  rcases h with h | h | h
  · exact absurd h.1.symm (top_ne_bot c)
  · exact h.2
  · exact absurd h.1 (bot_ne_ambig c)

theorem iterFact_of {s s' : St} {m' : Min} {g : Nat} {v : V}
    (h : (v = .unique ∧ ∃ alt, alt ∈ inst.deps g ∧ ∀ x, x ∈ alt → Fact c inst s s' m' x .unique) ∨
         (v = .noSolution ∧ ∀ alt, alt ∈ inst.deps g → ∃ x, x ∈ alt ∧ Fact c inst s s' m' x .noSolution) ∨
         (v = .ambig ∧ s'.interrupted = true)) :
    IterFact c inst s s' m' g v := by
  cases c with
  | true =>
    rcases h with h | h | h
    · obtain ⟨hv, alt, ha, hall⟩ := h
      exact Or.inl ⟨hv, alt, ha, fun x hx => (hall x hx).top_wit⟩
    · refine Or.inr (Or.inl ⟨h.1, fun alt ha => ?_⟩)
      obtain ⟨x, hx, hf⟩ := h.2 alt ha
      exact ⟨x, hx, hf.bot_not⟩
    · exact Or.inr (Or.inr h)
  | false =>
    rcases h with h | h | h
    · obtain ⟨hv, alt, ha, hall⟩ := h
      exact Or.inr (Or.inl ⟨hv, alt, ha, fun x hx => (hall x hx).bot_not⟩)
    · refine Or.inl ⟨h.1, fun alt ha => ?_⟩
      obtain ⟨x, hx, hf⟩ := h.2 alt ha
      exact ⟨x, hx, hf.top_wit⟩
    · exact Or.inr (Or.inr h)

theorem Inv.oracleChange {s : St} (hi : Inv c inst dom fx s) (o : List Bool) (i : Bool)
    (hint : s.interrupted = true → i = true)
    (hq : QuietSt s → s.interrupted = false → o = [] ∧ i = false) :
    Inv c inst dom fx { s with oracle := o, interrupted := i } :=
  ⟨hi.fixes.imp id (fun h => ⟨⟨(hq h.1 h.2).1, h.1.2⟩, (hq h.1 h.2).2⟩),
   fun k n hn ha => hint (hi.amb k n hn ha), hi.cacheOK, hi.stackCo, hi.nodup, hi.disj, hi.inDom, hi.val,
   hi.approx, hi.stk, hi.nonstk, hi.cnt, hi.just⟩

theorem Step.oracleChange (s : St) (o : List Bool) (i : Bool) (lb : Min)
    (hint : s.interrupted = true → i = true)
    (hq : QuietSt s → o = [] ∧ (s.interrupted = false → i = false)) :
    Step c inst s { s with oracle := o, interrupted := i } lb :=
  ⟨Frame.oracleChange s o i lb hint hq, fun _ hu hd => absurd hd (hu _)⟩

/-- one iteration: `should_continue`, then the clause loop -/
theorem solveIteration_spec (hyp : Hyp c inst dom) (h3 : cfg.fixF3 = true) (h16 : fx = true → cfg.fixF16 = true)
    (hrec : SubSpec c inst dom fx cfg D rec) (g : Nat) (hg : g ∈ dom) (m : Min) (s : St)
    (hi : Inv c inst dom fx s) (hres : cfg.overflowDepth < D + s.stack.length) :
    (solveIteration inst cfg rec g m s).sat (fun r s' =>
      Inv c inst dom fx s' ∧ Step c inst s s' r.2 ∧ MinLe r.2 m ∧ IterFact c inst s s' r.2 g r.1)
      (BudgetPanic (Corr c inst) cfg) := by
  unfold solveIteration
  -- the state after the call of `should_continue`
  obtain ⟨b, o, hb, hq⟩ := shouldContinue_cases s
  rw [hb]
  have i1 : Inv c inst dom fx { s with oracle := o } :=
    hi.oracleChange o s.interrupted id (fun q e => ⟨(hq q).2, e⟩)
  have st1 : Step c inst s { s with oracle := o } m :=
    Step.oracleChange s o s.interrupted m id (fun q => ⟨(hq q).2, id⟩)
  cases b with
  | false =>
    simp only [h3, if_true]
    exact ⟨hi.oracleChange o true (fun _ => rfl) (fun q _ => by cases (hq q).1),
      Step.oracleChange s o true _ (fun _ => rfl) (fun q => by cases (hq q).1), MinLe.refl _,
      Or.inr (Or.inr ⟨rfl, rfl⟩)⟩
  | true =>
    simp only [hyp.ground g hg]
    refine (solveFromClauses_eval (evalSpec h16 hrec) (inst.deps g) none m _ ⟨i1, hres⟩ (Or.inl rfl)
      (fun alt ha x hx => hyp.closed g hg alt ha x hx)).imp ?_
    rintro r s' ⟨hi1, ⟨hs1, hle1⟩, hres⟩
    refine ⟨hi1.1, st1.trans hs1 hle1 i1 hi1.1, hle1, iterFact_of ?_⟩
    rcases hres with h1 | h1 | h1
    · obtain ⟨hv, alt, ha, hall⟩ := h1
      exact Or.inl ⟨hv, alt, ha, fun x hx => (hall x hx).pre st1 i1⟩
    · refine Or.inr (Or.inl ⟨h1.1, fun alt ha => ?_⟩)
      obtain ⟨x, hx, hf⟩ := h1.2.2 alt ha
      exact ⟨x, hx, hf.pre st1 i1⟩
    · exact Or.inr (Or.inr h1)

end

end Chalk.FixedPoint.Cyc
