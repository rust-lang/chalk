import ChalkModel.UCanon
import ChalkModel.Lemmas.FoldLemmas

/-! Lemmas about `UniverseMap` (sorted insertion, index, the out-of-range rule) and the
    to-canonical / from-canonical folders. -/
namespace Chalk

abbrev StrictSorted (l : List Nat) : Prop := l.Pairwise (· < ·)

theorem mem_umapAdd (u x : Nat) : (l : List Nat) → (x ∈ umapAdd u l ↔ x = u ∨ x ∈ l)
  | [] => by simp [umapAdd]
  | y :: ys => by
    unfold umapAdd
    split
    · simp
    · split
      · rename_i h; subst h; simp
      · simp [mem_umapAdd u x ys]
        constructor
        · rintro (h | h | h) <;> simp [h]
        · rintro (h | h | h) <;> simp [h]

theorem umapAdd_sorted (u : Nat) : (l : List Nat) → StrictSorted l → StrictSorted (umapAdd u l)
  | [], _ => by simp [umapAdd, StrictSorted]
  | y :: ys, h => by
    unfold umapAdd
    have hy := List.pairwise_cons.mp h
    split
    · rename_i hlt
      refine List.pairwise_cons.mpr ⟨?_, h⟩
      intro a ha
      rcases List.mem_cons.mp ha with rfl | ha
      · exact hlt
      · exact Nat.lt_trans hlt (hy.1 a ha)
    · split
      · exact h
      · rename_i h1 h2
        refine List.pairwise_cons.mpr ⟨?_, umapAdd_sorted u ys hy.2⟩
        intro a ha
        rcases (mem_umapAdd u a ys).mp ha with rfl | ha
        · omega
        · exact hy.1 a ha

theorem umapAdd_head_zero (u : Nat) (l : List Nat) (h : l.head? = some 0) : (umapAdd u l).head? = some 0 := by
  cases l with
  | nil => simp at h
  | cons y ys =>
    simp at h; subst h
    unfold umapAdd
    by_cases hu : u = 0
    · subst hu; simp
    · have : ¬ u < 0 := by omega
      simp [this, hu]

structure UMapOk (um : List Nat) : Prop where
  sorted : StrictSorted um
  head : um.head? = some 0

theorem umapNew_ok : UMapOk umapNew := ⟨by simp [umapNew, StrictSorted], by simp [umapNew]⟩

theorem umapAdd_ok (u : Nat) (um : List Nat) (h : UMapOk um) : UMapOk (umapAdd u um) :=
  ⟨umapAdd_sorted u um h.sorted, umapAdd_head_zero u um h.head⟩

theorem addBinderUniverses_ok : (bs : List (VarKind × Nat)) → (um : List Nat) → UMapOk um →
    UMapOk (addBinderUniverses um bs)
  | [], um, h => by simpa [addBinderUniverses] using h
  | (k, u) :: rest, um, h => by
    simp only [addBinderUniverses]
    exact addBinderUniverses_ok rest _ (umapAdd_ok u um h)

theorem addBinderUniverses_mem : (bs : List (VarKind × Nat)) → (um : List Nat) → (x : Nat) →
    (x ∈ addBinderUniverses um bs ↔ x ∈ um ∨ ∃ k, (k, x) ∈ bs)
  | [], um, x => by simp [addBinderUniverses]
  | (k, u) :: rest, um, x => by
    simp only [addBinderUniverses]
    rw [addBinderUniverses_mem rest _ x, mem_umapAdd]
    constructor
    · rintro ((rfl | h) | ⟨k', h⟩)
      · exact .inr ⟨k, by simp⟩
      · exact .inl h
      · exact .inr ⟨k', by simp [h]⟩
    · rintro (h | ⟨k', h⟩)
      · exact .inl (.inr h)
      · rcases List.mem_cons.mp h with h | h
        · left; left; exact (Prod.mk.inj h).2
        · exact .inr ⟨k', h⟩

theorem uCollect_ok : (evs : List VisitEvent) → (um um' : List Nat) → UMapOk um →
    uCollect um evs = .ok um' → UMapOk um'
  | [], um, um', h, he => by simp [uCollect] at he; subst he; exact h
  | .infer v :: rest, um, um', h, he => by simp [uCollect] at he
  | .placeholder ui idx :: rest, um, um', h, he => by
    simp only [uCollect] at he
    exact uCollect_ok rest _ um' (umapAdd_ok ui um h) he

theorem uCollect_mem : (evs : List VisitEvent) → (um um' : List Nat) → uCollect um evs = .ok um' →
    ∀ x, (x ∈ um' ↔ x ∈ um ∨ ∃ idx, VisitEvent.placeholder x idx ∈ evs)
  | [], um, um', he, x => by simp [uCollect] at he; subst he; simp
  | .infer v :: rest, um, um', he, x => by simp [uCollect] at he
  | .placeholder ui idx :: rest, um, um', he, x => by
    simp only [uCollect] at he
    rw [uCollect_mem rest _ um' he x, mem_umapAdd]
    constructor
    · rintro ((rfl | h) | ⟨i, h⟩)
      · exact .inr ⟨idx, by simp⟩
      · exact .inl h
      · exact .inr ⟨i, by simp [h]⟩
    · rintro (h | ⟨i, h⟩)
      · exact .inl (.inr h)
      · rcases List.mem_cons.mp h with h | h
        · left; left; cases h; rfl
        · exact .inr ⟨i, h⟩

theorem uCollect_noInfer : (evs : List VisitEvent) → (um um' : List Nat) → uCollect um evs = .ok um' →
    ∀ v, VisitEvent.infer v ∉ evs
  | [], _, _, _, v => by simp
  | .infer _ :: _, um, um', he, v => by simp [uCollect] at he
  | .placeholder ui idx :: rest, um, um', he, v => by
    simp only [uCollect] at he
    simp [uCollect_noInfer rest _ um' he v]

theorem umapIndex_spec (u : Nat) : (l : List Nat) → (i : Nat) → umapIndex u l = some i → l[i]? = some u
  | [], i, h => by simp [umapIndex] at h
  | x :: xs, i, h => by
    unfold umapIndex at h
    split at h
    · rename_i hx; simp at h; subst h; simp [hx]
    · cases hr : umapIndex u xs with
      | none => simp [hr] at h
      | some j =>
        simp [hr] at h; subst h
        simpa using umapIndex_spec u xs j hr

theorem umapIndex_of_mem (u : Nat) : (l : List Nat) → u ∈ l → ∃ i, umapIndex u l = some i
  | [], h => by simp at h
  | x :: xs, h => by
    unfold umapIndex
    by_cases hx : x = u
    · simp [hx]
    · have : u ∈ xs := by
        rcases List.mem_cons.mp h with h | h
        · exact absurd h.symm hx
        · exact h
      obtain ⟨i, hi⟩ := umapIndex_of_mem u xs this
      simp [hx, hi]

theorem sorted_get_lt (l : List Nat) (hs : StrictSorted l) (i j a b : Nat) (hij : i < j)
    (hi : l[i]? = some a) (hj : l[j]? = some b) : a < b := by
  obtain ⟨hi', rfl⟩ := List.getElem?_eq_some_iff.mp hi
  obtain ⟨hj', rfl⟩ := List.getElem?_eq_some_iff.mp hj
  exact (List.pairwise_iff_getElem.mp hs) i j hi' hj' hij

theorem umapIndex_lt_iff (l : List Nat) (hs : StrictSorted l) (a b i j : Nat)
    (ha : umapIndex a l = some i) (hb : umapIndex b l = some j) : a < b ↔ i < j := by
  have hai := umapIndex_spec a l i ha
  have hbj := umapIndex_spec b l j hb
  constructor
  · intro hab
    rcases Nat.lt_trichotomy i j with h | h | h
    · exact h
    · subst h; rw [hai] at hbj; cases hbj; omega
    · have := sorted_get_lt l hs j i b a h hbj hai; omega
  · intro hij
    exact sorted_get_lt l hs i j a b hij hai hbj

theorem umapIndex_zero (l : List Nat) (h : l.head? = some 0) : umapIndex 0 l = some 0 := by
  cases l with
  | nil => simp at h
  | cons x xs => simp at h; subst h; simp [umapIndex]

theorem getLast?_ge (l : List Nat) (hs : StrictSorted l) (mx : Nat) (h : l.getLast? = some mx)
    (i x : Nat) (hx : l[i]? = some x) : x ≤ mx := by
  obtain ⟨hi, rfl⟩ := List.getElem?_eq_some_iff.mp hx
  have hlast : l[l.length - 1]? = some mx := by
    rw [List.getLast?_eq_getElem?] at h; exact h
  by_cases hlt : i < l.length - 1
  · have := sorted_get_lt l hs i (l.length - 1) l[i] mx hlt (by simp [hi]) hlast
    omega
  · have : i = l.length - 1 := by omega
    subst this
    simp [hi] at hlast
    omega

theorem mapUniverseFromCanonical_ok (um : List Nat) (hne : um ≠ []) (c : Nat) :
    ∃ u, mapUniverseFromCanonical um c = .ok u := by
  unfold mapUniverseFromCanonical
  split
  · exact ⟨_, rfl⟩
  · cases h : um.getLast? with
    | none => simp [List.getLast?_eq_none_iff] at h; exact absurd h hne
    | some mx => exact ⟨_, rfl⟩

theorem mapUniverseFromCanonical_inRange (um : List Nat) (c u : Nat) (hc : c < um.length)
    (h : mapUniverseFromCanonical um c = .ok u) : um[c]? = some u := by
  simp [mapUniverseFromCanonical, hc] at h
  simp [hc, h]

theorem mapUniverseFromCanonical_outOfRange (um : List Nat) (c u : Nat) (hc : ¬ c < um.length)
    (h : mapUniverseFromCanonical um c = .ok u) :
    ∃ mx, um.getLast? = some mx ∧ u = mx + (c - um.length) + 1 := by
  simp only [mapUniverseFromCanonical, hc, if_false] at h
  cases hl : um.getLast? with
  | none => simp [hl] at h
  | some mx => simp [hl] at h; exact ⟨mx, rfl, h.symm⟩

theorem mapUniverseFromCanonical_strictMono (um : List Nat) (hs : StrictSorted um) (c1 c2 u1 u2 : Nat)
    (h1 : mapUniverseFromCanonical um c1 = .ok u1) (h2 : mapUniverseFromCanonical um c2 = .ok u2)
    (hc : c1 < c2) : u1 < u2 := by
  by_cases hb2 : c2 < um.length
  · have hb1 : c1 < um.length := by omega
    exact sorted_get_lt um hs c1 c2 u1 u2 hc (mapUniverseFromCanonical_inRange um c1 u1 hb1 h1)
      (mapUniverseFromCanonical_inRange um c2 u2 hb2 h2)
  · obtain ⟨mx, hl, rfl⟩ := mapUniverseFromCanonical_outOfRange um c2 u2 hb2 h2
    by_cases hb1 : c1 < um.length
    · have := getLast?_ge um hs mx hl c1 u1 (mapUniverseFromCanonical_inRange um c1 u1 hb1 h1)
      omega
    · obtain ⟨mx', hl', rfl⟩ := mapUniverseFromCanonical_outOfRange um c1 u1 hb1 h1
      rw [hl] at hl'; cases hl'
      omega

theorem to_from_universe (um : List Nat) (u i : Nat) (h : mapUniverseToCanonical um u = some i) :
    mapUniverseFromCanonical um i = .ok u := by
  have hu := umapIndex_spec u um i h
  obtain ⟨hi, hu'⟩ := List.getElem?_eq_some_iff.mp hu
  simp [mapUniverseFromCanonical, hi, hu']

/-- the three placeholder methods of `uMapToCanonical` have this shape -/
theorem to_from_placeholder {α : Type} (c : Nat → α) (um : List Nat) (ui : Nat) {r : α}
    (h : (match mapUniverseToCanonical um ui with
          | some u => Except.ok (c u)
          | none => .error pExpectedUniverse) = .ok r) :
    ∃ i, r = c i ∧ mapUniverseFromCanonical um i = .ok ui := by
  cases hm : mapUniverseToCanonical um ui with
  | none => rw [hm] at h; cases h
  | some i => rw [hm] at h; cases h; exact ⟨i, rfl, to_from_universe um ui i hm⟩

theorem uMapFromCanonical_undoes (um : List Nat) : (uMapToCanonical um).Undoes (uMapFromCanonical um) where
  lt o l l' h := by
    cases l with
    | bound db idx => cases (foldLifetime_bound_none rfl ..).symm.trans h; exact foldLifetime_bound_none rfl ..
    | infer v => cases h
    | placeholder ui idx =>
      obtain ⟨i, rfl, hi⟩ := to_from_placeholder (Lifetime.placeholder · idx) um ui h
      simp only [foldLifetime, uMapFromCanonical, hi]
    | static => cases h; rfl
    | erased => cases h; rfl
    | error => cases h; rfl
  placeholder o ui idx t' h := by
    obtain ⟨i, rfl, hi⟩ := to_from_placeholder (Ty.placeholder · idx) um ui h
    simp only [foldTy, uMapFromCanonical, hi]
  bound o db idx t' h := by cases (foldTy_bound_none rfl ..).symm.trans h; exact foldTy_bound_none rfl ..
  infer o v k t' h := by cases h
  const o ty v c' ih h := by
    cases v with
    | bound db idx =>
      rw [foldConst_bound_none rfl] at h
      split at h
      · obtain ⟨ty', ht, rfl⟩ := Except.map_eq_ok h
        rw [foldConst_bound_none rfl, if_pos ‹_›, ih ty' ht]; rfl
      · cases h; rw [foldConst_bound_none rfl, if_neg ‹_›]
    | infer v => cases h
    | placeholder ui idx =>
      obtain ⟨i, rfl, hi⟩ := to_from_placeholder (Const.mk ty <| .placeholder · idx) um ui h
      simp only [foldConst, uMapFromCanonical, hi]
    | concrete c =>
      obtain ⟨ty', ht, rfl⟩ := Except.map_eq_ok (foldConst_concrete _ o ty c ▸ h)
      rw [foldConst_concrete, ih ty' ht]; rfl

theorem foldTy_to_from (um : List Nat) (o : Nat) : (t t' : Ty) →
    foldTy (uMapToCanonical um) o t = .ok t' → foldTy (uMapFromCanonical um) o t' = .ok t :=
  foldTy_undo (uMapFromCanonical_undoes um) o

theorem foldConst_to_from (um : List Nat) (o : Nat) : (c c' : Const) →
    foldConst (uMapToCanonical um) o c = .ok c' → foldConst (uMapFromCanonical um) o c' = .ok c :=
  foldConst_undo (uMapFromCanonical_undoes um) o

theorem foldGArg_to_from (um : List Nat) (o : Nat) : (a a' : GArg) →
    foldGArg (uMapToCanonical um) o a = .ok a' → foldGArg (uMapFromCanonical um) o a' = .ok a :=
  foldGArg_undo (uMapFromCanonical_undoes um) o

theorem foldArgs_to_from (um : List Nat) (o : Nat) : (a a' : Args) →
    foldArgs (uMapToCanonical um) o a = .ok a' → foldArgs (uMapFromCanonical um) o a' = .ok a :=
  foldArgs_undo (uMapFromCanonical_undoes um) o

theorem foldWC_to_from (um : List Nat) (o : Nat) : (w w' : WC) →
    foldWC (uMapToCanonical um) o w = .ok w' → foldWC (uMapFromCanonical um) o w' = .ok w :=
  foldWC_undo (uMapFromCanonical_undoes um) o

theorem foldQWC_to_from (um : List Nat) (o : Nat) : (q q' : QWC) →
    foldQWC (uMapToCanonical um) o q = .ok q' → foldQWC (uMapFromCanonical um) o q' = .ok q :=
  foldQWC_undo (uMapFromCanonical_undoes um) o

theorem foldQWCs_to_from (um : List Nat) (o : Nat) : (q q' : QWCs) →
    foldQWCs (uMapToCanonical um) o q = .ok q' → foldQWCs (uMapFromCanonical um) o q' = .ok q :=
  foldQWCs_undo (uMapFromCanonical_undoes um) o

theorem mapBinders_to_from (um : List Nat) : (bs bs' : List (VarKind × Nat)) →
    mapBinders (fun u => match mapUniverseToCanonical um u with
                         | some x => .ok x
                         | none => .error pLastNone) bs = .ok bs' →
    mapBinders (mapUniverseFromCanonical um) bs' = .ok bs
  | [], bs', h => by simp [mapBinders] at h; subst h; simp [mapBinders]
  | (k, u) :: rest, bs', h => by
    simp only [mapBinders] at h
    cases hm : mapUniverseToCanonical um u with
    | none => simp [hm] at h
    | some i =>
      simp [hm] at h
      cases hr : mapBinders (fun u => match mapUniverseToCanonical um u with
                         | some x => .ok x
                         | none => .error pLastNone) rest with
      | error e => simp [hr] at h
      | ok r =>
        simp [hr] at h; subst h
        simp [mapBinders, to_from_universe um u i hm, mapBinders_to_from um rest r hr]

theorem uCanonicalize_eq_ok {c : Canon Args} {uc : UCanonicalized Args} (h : uCanonicalize c = .ok uc) :
    ∃ um v1 bs, collectUniverses c = .ok um ∧ foldArgs (uMapToCanonical um) 0 c.value = .ok v1 ∧
      mapBinders (fun u => match mapUniverseToCanonical um u with
                           | some x => .ok x
                           | none => .error pLastNone) c.binders = .ok bs ∧
      uc = { quantified := { universes := um.length, canonical := { binders := bs, value := v1 } },
             universes := um } := by
  unfold uCanonicalize at h
  split at h; · cases h
  split at h; · cases h
  split at h <;> cases h
  exact ⟨_, _, _, ‹_›, ‹_›, ‹_›, rfl⟩

end Chalk
