/-
  C22: basic facts about tokens, states, lifetimes, constants and binder lists.
-/
import ChalkModel.Lemmas.DisplayDefs

namespace Chalk.Display.Parse
open Chalk.Display

theorem scalar_mem_all (sc : Scalar) : sc ∈ Scalar.all := by
  cases sc <;> decide

theorem scalarOfName_name (sc : Scalar) : scalarOfName sc.name = some sc :=
  have table : ∀ sc ∈ Scalar.all, scalarOfName sc.name = some sc := by decide +kernel
  table sc (scalar_mem_all sc)

/-- no scalar is named like one of the keywords `parseTy` tries first -/
theorem scalar_name_not_kw (sc : Scalar) :
    sc.name ∉ ["(", "&", "*", "[", "for", "fn", "<", "dyn", "!", "str"] :=
  have table : ∀ sc ∈ Scalar.all, sc.name ∉ ["(", "&", "*", "[", "for", "fn", "<", "dyn", "!", "str"] := by
    decide +kernel
  table sc (scalar_mem_all sc)

theorem scalar_name_mem (sc : Scalar) : sc.name ∈ tyKws := by
  show sc.name ∈ tyKws.take 10 ++ Scalar.all.map Scalar.name
  exact List.mem_append_right _ (List.mem_map_of_mem (scalar_mem_all sc))

theorem varTok_cases (s : St) (v : Nat × Nat) : s.varTok v = .self ∨ ∃ a b, s.varTok v = .var a b := by
  unfold St.varTok
  simp only
  split
  · exact Or.inl rfl
  · exact Or.inr ⟨_, _, rfl⟩

theorem varTok_ne_kw (s : St) (v : Nat × Nat) (w : String) : s.varTok v ≠ .kw w := by
  rcases varTok_cases s v with h | ⟨a, b, h⟩ <;> simp [h]

theorem varTok_ne_name (s : St) (v : Nat × Nat) (w : String) : s.varTok v ≠ .name w := by
  rcases varTok_cases s v with h | ⟨a, b, h⟩ <;> simp [h]

theorem varTok_ne_num (s : St) (v : Nat × Nat) (n : Nat) : s.varTok v ≠ .num n := by
  rcases varTok_cases s v with h | ⟨a, b, h⟩ <;> simp [h]

theorem varTok_ne_ltVar (s : St) (v : Nat × Nat) (a b : Nat) : s.varTok v ≠ .ltVar a b := by
  rcases varTok_cases s v with h | ⟨a, b, h⟩ <;> simp [h]

theorem isLtStart_varTok (s : St) (v : Nat × Nat) (rest : List Tok) : isLtStart (s.varTok v :: rest) = false := by
  rcases varTok_cases s v with h | ⟨a, b, h⟩ <;> simp [h, isLtStart]

theorem printTy_head (s : St) (t : Ty) :
    (∃ d i, t = .bound d i) ∨ ∃ tok tl, printTy s t = tok :: tl ∧ tyHead tok = true := by
  have h : (["(", "&", "*", "[", "fn", "for", "<", "dyn", "!", "str"].all fun w => tyHead (.kw w)) = true := by
    decide +kernel
  simp only [List.all_cons, List.all_nil, Bool.and_eq_true, Bool.and_true] at h
  obtain ⟨h1, h2, h3, h4, h5, h6, h7, h8, h9, h10⟩ := h
  cases t with
  | bound d i => exact Or.inl ⟨d, i, rfl⟩
  | adt id args => exact Or.inr ⟨.name id, _, rfl, rfl⟩
  | scalar sc => exact Or.inr ⟨.kw sc.name, _, rfl, decide_eq_true (scalar_name_mem sc)⟩
  | fnPtr nb args ret =>
      by_cases h : nb = 0
      · exact Or.inr ⟨.kw "fn", _, by simp only [printTy, h, if_true, List.nil_append]; rfl, h5⟩
      · exact Or.inr ⟨.kw "for", _, by simp only [printTy, h, if_false, List.cons_append]; rfl, h6⟩
  | _ => exact Or.inr ⟨_, _, rfl, by assumption⟩

theorem printTy_not_kw (s : St) (t : Ty) (rest : List Tok) (w : String) (hw : w ∉ tyKws) :
    ∀ r, printTy s t ++ rest ≠ .kw w :: r := by
  intro r h
  rcases printTy_head s t with ⟨d, i, rfl⟩ | ⟨tok, tl, e, hh⟩
  · exact varTok_ne_kw _ _ _ (List.cons.inj h).1
  · rw [e] at h
    cases (List.cons.inj h).1
    exact hw (of_decide_eq_true hh)

theorem not_tyKws : ∀ w ∈ [")", "mut", "forall", "'static", "'erased"], w ∉ tyKws := by
  decide +kernel

theorem printTy_not_rparen (s : St) (t : Ty) (rest : List Tok) : ∀ r, printTy s t ++ rest ≠ .kw ")" :: r :=
  printTy_not_kw s t rest _ (not_tyKws _ (by simp))

theorem printTy_not_mut (s : St) (t : Ty) (rest : List Tok) : ∀ r, printTy s t ++ rest ≠ .kw "mut" :: r :=
  printTy_not_kw s t rest _ (not_tyKws _ (by simp))

theorem printTy_not_forall (s : St) (t : Ty) (rest : List Tok) : ∀ r, printTy s t ++ rest ≠ .kw "forall" :: r :=
  printTy_not_kw s t rest _ (not_tyKws _ (by simp))

theorem printTy_not_ltStart (s : St) (t : Ty) (rest : List Tok) : isLtStart (printTy s t ++ rest) = false := by
  rcases printTy_head s t with ⟨d, i, rfl⟩ | ⟨tok, tl, e, hh⟩
  · exact isLtStart_varTok _ _ _
  · rw [e]
    cases tok with
    | kw w =>
        have hw : w ∈ tyKws := of_decide_eq_true hh
        rw [List.cons_append, isLtStart] <;> intros <;> rename_i e <;> cases e <;>
          exact not_tyKws _ (by simp) hw
    | name n => rfl
    | _ => cases hh

theorem kindAt_zero (ks : List VK) (env : List (List VK)) (i : Nat) : kindAt (ks :: env) 0 i = ks[i]? := by
  simp [kindAt]

theorem kindAt_succ (ks : List VK) (env : List (List VK)) (d i : Nat) : kindAt (ks :: env) (d + 1) i = kindAt env d i := by
  simp [kindAt]

theorem hasKind_iff (env : List (List VK)) (d i : Nat) (k : VK) : hasKind env d i k = true ↔ kindAt env d i = some k := by
  simp [hasKind]

theorem lookupPair_none (v : Nat × Nat) : ∀ (m : List ((Nat × Nat) × (Nat × Nat))),
    (∀ k w, (k, w) ∈ m → k ≠ v) → lookupPair v m = none
  | [], _ => rfl
  | (k, w) :: m, h => by
      have h1 : k ≠ v := h k w (by simp)
      simp only [lookupPair, h1, if_false]
      exact lookupPair_none v m (fun k' w' hm => h k' w' (by simp [hm]))

theorem lookupPair_of_mem : ∀ (m : List ((Nat × Nat) × (Nat × Nat))) (k w : Nat × Nat),
    (k, w) ∈ m → (∀ w', (k, w') ∈ m → w' = w) → lookupPair k m = some w
  | [], _, _, h, _ => by simp at h
  | (k0, w0) :: m, k, w, h, hu => by
      by_cases e : k0 = k
      · subst e
        have := hu w0 (by simp)
        simp [lookupPair, this]
      · simp only [lookupPair, e, if_false]
        refine lookupPair_of_mem m k w ?_ (fun w' h' => hu w' (by simp [h']))
        rcases List.mem_cons.1 h with h | h
        · simp at h; exact absurd h.1.symm e
        · exact h

/-- the parser's inverse look-up is the writer's look-up in the table with its pairs swapped, so
    each fact about `lookupPair` gives one about `invLookup` -/
theorem invLookup_eq_lookupPair (r : Nat × Nat) : ∀ (m : List ((Nat × Nat) × (Nat × Nat))),
    invLookup r m = lookupPair r (m.map Prod.swap)
  | [] => rfl
  | (k, w) :: m => by simp only [invLookup, lookupPair, List.map_cons, Prod.swap, invLookup_eq_lookupPair r m]

theorem mem_map_swap {α β : Type} {a : α} {b : β} {m : List (α × β)} : (b, a) ∈ m.map Prod.swap ↔ (a, b) ∈ m :=
  ⟨fun h => by obtain ⟨⟨_, _⟩, hm, e⟩ := List.mem_map.1 h; cases e; exact hm,
   fun h => List.mem_map.2 ⟨_, h, rfl⟩⟩

theorem invLookup_none (r : Nat × Nat) (m : List ((Nat × Nat) × (Nat × Nat)))
    (h : ∀ k w, (k, w) ∈ m → w ≠ r) : invLookup r m = none :=
  invLookup_eq_lookupPair r m ▸ lookupPair_none r _ fun w k hm => h k w (mem_map_swap.1 hm)

theorem invLookup_of_mem (m : List ((Nat × Nat) × (Nat × Nat))) (k w : Nat × Nat)
    (h : (k, w) ∈ m) (hu : ∀ k', (k', w) ∈ m → k' = k) : invLookup w m = some k :=
  invLookup_eq_lookupPair w m ▸
    lookupPair_of_mem _ w k (mem_map_swap.2 h) fun k' h' => hu k' (mem_map_swap.1 h')

/-- the binders at the current depth with index `≥ i` are printed under their own names -/
def FreshFrom (s : St) (i : Nat) : Prop :=
  ∀ j, i ≤ j → lookupPair (s.deep, j) s.remap = none ∧ s.self? ≠ some (s.deep, j)

theorem varTok_fresh {s : St} {i j : Nat} (h : FreshFrom s i) (hj : i ≤ j) : s.varTok (s.deep, j) = .var s.deep j := by
  obtain ⟨h1, h2⟩ := h j hj
  simp [St.varTok, h1, h2]

theorem ltTok_fresh {s : St} {i j : Nat} (h : FreshFrom s i) (hj : i ≤ j) : s.ltTok (s.deep, j) = .ltVar s.deep j := by
  obtain ⟨h1, h2⟩ := h j hj
  simp [St.ltTok, h1, h2]

theorem FreshFrom.mono {s : St} {i j : Nat} (h : FreshFrom s i) (hj : i ≤ j) : FreshFrom s j :=
  fun k hk => h k (Nat.le_trans hj hk)

theorem Faithful.fresh_deeper {p : PSt} (hp : Faithful p) : FreshFrom (p.st.deeper none) 0 := by
  intro j _
  constructor
  · apply lookupPair_none
    intro k w hm e
    have := (hp.keys k w hm).1
    subst e
    simp [St.deeper] at this
    omega
  · intro e
    have := hp.self _ e
    simp [St.deeper] at this
    omega

theorem decode_deeper {p : PSt} {r : Nat × Nat} {d i : Nat} (ks : List VK) (sel : Option Nat)
    (h : p.decode r = some (d, i)) : (p.deeper ks sel).decode r = some (d + 1, i) := by
  simp only [PSt.decode, PSt.deeper, St.deeper] at h ⊢
  split at h
  · rename_i hle
    cases h
    simp only [Nat.le_succ_of_le hle, if_true, Nat.sub_add_comm hle]
  · cases h

theorem decode_top {p : PSt} (hp : Faithful p) (ks : List VK) (sel : Option Nat) (i : Nat) :
    (p.deeper ks sel).decode (p.st.deep + 1, i) = some (0, i) := by
  have : invLookup (p.st.deep + 1, i) p.st.remap = none := by
    apply invLookup_none
    intro k w hm e
    have := (hp.keys k w hm).2
    subst e
    simp at this
    omega
  simp [PSt.decode, PSt.deeper, St.deeper, this]

theorem varOf_deeper {p : PSt} {tok : Tok} {d i : Nat} (ks : List VK)
    (h : p.varOf tok = some (d, i)) : (p.deeper ks none).varOf tok = some (d + 1, i) := by
  cases tok with
  | var a b => exact decode_deeper ks none h
  | self =>
      simp only [PSt.varOf] at h ⊢
      have e : (p.deeper ks none).st.self? = p.st.self? := rfl
      rw [e]
      cases hs : p.st.self? with
      | none => simp [hs] at h
      | some r => simp only [hs] at h ⊢; exact decode_deeper ks none h
  | _ => simp [PSt.varOf] at h

theorem Faithful.deeper {p : PSt} (hp : Faithful p) (ks : List VK) : Faithful (p.deeper ks none) := by
  have e0 : ∀ i, (p.deeper ks none).st.inv 0 i = ((p.st.deeper none).deep, i) := fun _ => rfl
  have e1 : ∀ d i, (p.deeper ks none).st.inv (d + 1) i = p.st.inv d i := fun d i => by
    simp only [St.inv, PSt.deeper, St.deeper, Nat.add_sub_add_right]
  refine ⟨congrArg (· + 1) hp.deep, fun k w hm => ?_, fun r hr => Nat.le_succ_of_le (hp.self r hr),
    fun d i k hk hne => ?_, fun d i hk => ?_⟩
  · exact ⟨Nat.le_succ_of_le (hp.keys k w hm).1, Nat.le_succ_of_le (hp.keys k w hm).2⟩
  · cases d with
    | zero =>
        rw [e0]
        show (p.deeper ks none).varOf ((p.st.deeper none).varTok ((p.st.deeper none).deep, i)) = some (0, i)
        rw [varTok_fresh hp.fresh_deeper (Nat.zero_le i)]
        exact decode_top hp ks none i
    | succ d =>
        rw [e1]
        exact varOf_deeper ks (hp.var d i k hk hne)
  · cases d with
    | zero =>
        rw [e0]
        show ∃ a b, (p.st.deeper none).ltTok ((p.st.deeper none).deep, i) = Tok.ltVar a b ∧
          (p.deeper ks none).decode (a, b) = some (0, i)
        rw [ltTok_fresh hp.fresh_deeper (Nat.zero_le i)]
        exact ⟨_, _, rfl, decode_top hp ks none i⟩
    | succ d =>
        rw [e1]
        obtain ⟨a, b, h1, h2⟩ := hp.lt d i hk
        exact ⟨a, b, h1, decode_deeper ks none h2⟩

theorem Faithful.init : Faithful PSt.init where
  deep := rfl
  keys := fun k w hm => by simp [PSt.init, St.init] at hm
  self := fun r hr => by simp [PSt.init, St.init] at hr
  var := fun d i k hk => by simp [PSt.init, kindAt] at hk
  lt := fun d i hk => by simp [PSt.init, kindAt] at hk

theorem parseLt_print {p : PSt} (hp : Faithful p) {l : Lt} (hl : wfLt p.env l = true) (rest : List Tok) :
    parseLt p (printLt p.st l ++ rest) = some (l, rest) := by
  cases l with
  | static => simp [printLt, parseLt]
  | erased => simp [printLt, parseLt]
  | bound d i =>
      simp only [wfLt, hasKind_iff] at hl
      obtain ⟨a, b, h1, h2⟩ := hp.lt d i hl
      simp [printLt, h1, parseLt, h2]

theorem isLtStart_printLt {p : PSt} (hp : Faithful p) {l : Lt} (hl : wfLt p.env l = true) (rest : List Tok) :
    isLtStart (printLt p.st l ++ rest) = true := by
  cases l with
  | static => simp [printLt, isLtStart]
  | erased => simp [printLt, isLtStart]
  | bound d i =>
      simp only [wfLt, hasKind_iff] at hl
      obtain ⟨a, b, h1, h2⟩ := hp.lt d i hl
      simp [printLt, h1, isLtStart]

theorem parseCt_print {p : PSt} (hp : Faithful p) {c : Ct} (hc : wfCt p.env c = true) (rest : List Tok) :
    parseCt p (printCt p.st c ++ rest) = some (c, rest) := by
  cases c with
  | val n => simp [printCt, parseCt]
  | bound d i =>
      simp only [wfCt, hasKind_iff] at hc
      have h := hp.var d i .ct hc (by decide)
      rcases varTok_cases p.st (p.st.inv d i) with e | ⟨a, b, e⟩
      · rw [e] at h; simp [printCt, e, parseCt, h]
      · rw [e] at h; simp [printCt, e, parseCt, h]

theorem sepBy_cons_cons (sep x y : List Tok) (zs : List (List Tok)) :
    sepBy sep (x :: y :: zs) = x ++ sep ++ sepBy sep (y :: zs) := by
  simp [sepBy]

def binderTok (s : St) (i : Nat) : VK → List Tok
  | .ty => [s.varTok (s.deep, i)]
  | .lt => [s.ltTok (s.deep, i)]
  | .ct => [.kw "const", s.varTok (s.deep, i)]

theorem binderNamesFrom_cons (s : St) (i : Nat) (k : VK) (ks : List VK) :
    s.binderNamesFrom i (k :: ks) = binderTok s i k :: s.binderNamesFrom (i + 1) ks := by
  cases k <;> simp [St.binderNamesFrom, binderTok]

theorem parseBinders_binderTok {s : St} {i : Nat} (hf : FreshFrom s i) (k : VK) (f : Nat) (rest : List Tok) :
    parseBinders (f + 1) (binderTok s i k ++ rest) = match rest with
      | .kw "," :: rest' => match parseBinders f rest' with
          | some (ks, rest'') => some (k :: ks, rest'')
          | none => none
      | _ => some ([k], rest) := by
  cases k <;> simp only [binderTok, varTok_fresh hf (Nat.le_refl i), ltTok_fresh hf (Nat.le_refl i), parseBinders,
    List.cons_append, List.nil_append] <;> rfl

theorem parseBinders_print (s : St) : ∀ (ks : List VK) (i fuel : Nat) (rest : List Tok),
    ks ≠ [] → FreshFrom s i → ks.length ≤ fuel → (∀ r, rest ≠ .kw "," :: r) →
    parseBinders fuel (sepBy comma (s.binderNamesFrom i ks) ++ rest) = some (ks, rest)
  | [], _, _, _, h, _, _, _ => absurd rfl h
  | [k], i, fuel, rest, _, hf, hfuel, hr => by
      obtain ⟨f, rfl⟩ := Nat.exists_eq_add_of_le' (show 1 ≤ fuel from hfuel)
      rw [binderNamesFrom_cons]
      simp only [St.binderNamesFrom, sepBy, parseBinders_binderTok hf]
  | k :: k' :: ks, i, fuel, rest, _, hf, hfuel, hr => by
      obtain ⟨f, rfl⟩ := Nat.exists_eq_add_of_le' (Nat.le_trans (Nat.le_add_left 1 _) hfuel)
      have ih := parseBinders_print s (k' :: ks) (i + 1) f rest (by simp) (hf.mono (Nat.le_succ i))
        (Nat.le_of_succ_le_succ hfuel) hr
      rw [binderNamesFrom_cons, binderNamesFrom_cons, sepBy_cons_cons, ← binderNamesFrom_cons, List.append_assoc,
        List.append_assoc, parseBinders_binderTok hf]
      simp only [comma] at ih
      simp only [comma, List.cons_append, List.nil_append, ih]

theorem fnBinderNames_eq (s : St) : ∀ (n i : Nat), fnBinderNames s i n = s.binderNamesFrom i (List.replicate n .lt)
  | 0, _ => rfl
  | n + 1, i => by simp [fnBinderNames, List.replicate_succ, St.binderNamesFrom, fnBinderNames_eq s n (i + 1)]

/-- `forall<..>` in front of a clause or bound, printed in the state under the new binders -/
theorem parseForall_print {p : PSt} (hp : Faithful p) (ks : List VK) (fuel : Nat) (rest : List Tok)
    (hfuel : ks.length ≤ fuel) (hr : ∀ r, rest ≠ .kw "forall" :: r) :
    parseForall fuel (forallToks (p.st.deeper none) ks ++ rest) = some (ks, rest) := by
  cases ks with
  | nil =>
      simp only [forallToks, List.isEmpty_nil, if_true, List.nil_append]
      unfold parseForall
      split
      · exact absurd rfl (hr _)
      · rfl
  | cons k ks =>
      have h := parseBinders_print (p.st.deeper none) (k :: ks) 0 fuel (.kw ">" :: rest) (by simp)
        hp.fresh_deeper hfuel (by simp)
      simp only [forallToks, St.binderNames, List.isEmpty_cons, Bool.false_eq_true, if_false,
        List.cons_append, List.append_assoc, List.nil_append] at h ⊢
      simp [parseForall, h]

end Chalk.Display.Parse
