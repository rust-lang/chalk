/-
  FixedPointWork.lean — termination side of the recursive framework (`Props/C09.lean`): the bound `workBound` on the
  hook's work counter of one call; an ambiguous answer ends the loop of `solve_new_subgoal`; a monotone iteration on
  the three-valued domain stops within 3 rounds, a non-monotone one need not; chain instances attaining the bound.
-/
import ChalkModel.Lemmas.FixedPointLemmas

namespace Chalk.FixedPoint

def Instance.Bounded (inst : Instance) (A S : Nat) : Prop :=
  ∀ g, (inst.deps g).length ≤ A ∧ ∀ alt ∈ inst.deps g, alt.length ≤ S

/-- bound on the hook's work counter (`solve_goal` entries plus loop iterations of `solve_new_subgoal`) of one
    `solveGoal` call with depth fuel `d`: one tick at the entry of `solve_goal`, then at most `rounds` iterations,
    each of which ticks once and tries at most `A` alternatives, each of which proves each of its at most `S`
    sub-goals at most twice (once in `fulfillRound`, once more in `suggestPass`) by a `solveGoal` call at depth `d`. -/
def workBound (rounds A S : Nat) : Nat → Nat
  | 0 => 0
  | d + 1 => 1 + rounds * (1 + A * (2 * S) * workBound rounds A S d)

theorem fulfillRound_work (rec : SubSolver) (W : Nat)
    (hrec : ∀ c m s, (rec c m s).state.work ≤ s.work + W) :
    ∀ l retained m s,
      (fulfillRound rec l retained m s).state.work ≤ s.work + l.length * W
      ∧ ∀ r m' s', fulfillRound rec l retained m s = .ok (some r, m') s' →
          r.length ≤ retained.length + l.length := by
  intro l
  induction l with
  | nil =>
    intro retained m s
    simp only [fulfillRound, Res.state, List.length_nil]
    refine ⟨by omega, ?_⟩
    intro r m' s' h
    cases h
    omega
  | cons c rest ih =>
    intro retained m s
    have h := hrec c m s
    simp only [fulfillRound]
    rw [List.length_cons, Nat.succ_mul]
    split
    · rename_i site s' heq
      rw [heq] at h
      simp only [Res.state] at h ⊢
      refine ⟨by omega, ?_⟩
      intro r m' s'' h'
      cases h'
    · rename_i v m1 s1 heq
      rw [heq] at h
      simp only [Res.state] at h
      split
      · simp only [Res.state]
        refine ⟨by omega, ?_⟩
        intro r m' s'' h'
        cases h'
      · have ⟨i1, i2⟩ := ih retained m1 s1
        refine ⟨by omega, ?_⟩
        intro r m' s'' h'
        have := i2 r m' s'' h'
        omega
      · have ⟨i1, i2⟩ := ih (retained ++ [c]) m1 s1
        refine ⟨by omega, ?_⟩
        intro r m' s'' h'
        have := i2 r m' s'' h'
        simp only [List.length_append, List.length_cons, List.length_nil] at this
        omega

theorem suggestPass_work (cfg : Cfg) (rec : SubSolver) (W : Nat)
    (hrec : ∀ c m s, (rec c m s).state.work ≤ s.work + W) :
    ∀ l m s, (suggestPass cfg rec l m s).state.work ≤ s.work + l.length * W := by
  intro l
  induction l with
  | nil =>
    intro m s
    simp only [suggestPass, Res.state, List.length_nil]
    omega
  | cons c rest ih =>
    intro m s
    have h := hrec c m s
    simp only [suggestPass]
    rw [List.length_cons, Nat.succ_mul]
    split
    · rename_i site s' heq
      rw [heq] at h
      simp only [Res.state] at h ⊢
      omega
    · rename_i v m1 s1 heq
      rw [heq] at h
      simp only [Res.state] at h
      split
      · split <;> simp only [Res.state] <;> omega
      · simp only [Res.state]; omega
      · have := ih m1 s1
        omega

theorem fulfillSolve_work (cfg : Cfg) (rec : SubSolver) (W : Nat)
    (hrec : ∀ c m s, (rec c m s).state.work ≤ s.work + W) (alt : List Nat) (m : Min) (s : St) :
    (fulfillSolve cfg rec alt m s).state.work ≤ s.work + (alt.length * W + alt.length * W) := by
  have ⟨h1, h2⟩ := fulfillRound_work rec W hrec alt.reverse [] m s
  rw [List.length_reverse] at h1
  simp only [fulfillSolve]
  split
  · rename_i site s' heq
    rw [heq] at h1
    simp only [Res.state] at h1 ⊢
    omega
  · rename_i m' s' heq
    rw [heq] at h1
    simp only [Res.state] at h1 ⊢
    omega
  · rename_i m' s' heq
    rw [heq] at h1
    simp only [Res.state] at h1 ⊢
    omega
  · rename_i r rs m' s' heq
    rw [heq] at h1
    simp only [Res.state] at h1
    have h3 := h2 _ _ _ heq
    simp only [List.length_nil, List.length_reverse, Nat.zero_add] at h3
    have h4 := suggestPass_work cfg rec W hrec (r :: rs).reverse m' s'
    rw [List.length_reverse] at h4
    have h5 : (r :: rs).length * W ≤ alt.length * W := Nat.mul_le_mul_right W h3
    omega

theorem solveFromClauses_work (cfg : Cfg) (rec : SubSolver) (ground : Bool) (X : Nat) :
    ∀ alts, (∀ alt ∈ alts, ∀ m s, (fulfillSolve cfg rec alt m s).state.work ≤ s.work + X) →
    ∀ cur m s, (solveFromClauses cfg rec ground alts cur m s).state.work
      ≤ s.work + alts.length * X := by
  intro alts
  induction alts with
  | nil =>
    intro _ cur m s
    simp only [solveFromClauses, Res.state, List.length_nil]
    omega
  | cons alt rest ih =>
    intro hF cur m s
    have h := hF alt (List.mem_cons_self) m s
    have ih' := ih (fun a ha => hF a (List.mem_cons_of_mem _ ha))
    simp only [solveFromClauses]
    rw [List.length_cons, Nat.succ_mul]
    split
    · rename_i site s' heq
      rw [heq] at h
      simp only [Res.state] at h ⊢
      omega
    · rename_i r m1 s1 heq
      rw [heq] at h
      simp only [Res.state] at h
      split
      · split
        · simp only [Res.state]; omega
        · refine Nat.le_trans (ih' _ m1 s1) ?_
          omega
      · refine Nat.le_trans (ih' _ m1 s1) ?_
        omega

theorem shouldContinue_work (s : St) : (shouldContinue s).2.work = s.work := by
  simp only [shouldContinue]
  split <;> rfl

theorem solveIteration_work (inst : Instance) (cfg : Cfg) (rec : SubSolver) (W A S : Nat)
    (hb : inst.Bounded A S)
    (hrec : ∀ c m s, (rec c m s).state.work ≤ s.work + W) (g : Nat) (m : Min) (s : St) :
    (solveIteration inst cfg rec g m s).state.work ≤ s.work + A * (2 * S) * W := by
  have hsc := shouldContinue_work s
  have ⟨hA, hS⟩ := hb g
  have hF : ∀ alt ∈ inst.deps g, ∀ m s,
      (fulfillSolve cfg rec alt m s).state.work ≤ s.work + (2 * S) * W := by
    intro alt ha m s
    have h1 := fulfillSolve_work cfg rec W hrec alt m s
    have h2 : alt.length * W ≤ S * W := Nat.mul_le_mul_right W (hS alt ha)
    rw [Nat.mul_assoc, Nat.two_mul]
    omega
  have hX : (inst.deps g).length * ((2 * S) * W) ≤ A * (2 * S) * W := by
    rw [Nat.mul_assoc A]
    exact Nat.mul_le_mul_right _ hA
  simp only [solveIteration]
  split
  · rename_i s1 heq
    rw [heq] at hsc
    simp only at hsc
    split <;> simp only [Res.state] <;> omega
  · rename_i s1 heq
    rw [heq] at hsc
    simp only at hsc
    have := solveFromClauses_work cfg rec (inst.ground g) ((2 * S) * W) (inst.deps g) hF none m s1
    omega

theorem tick_work (cfg : Cfg) (s : St) : (tick cfg s).state.work = s.work + 1 := by
  rw [tick_state]

theorem solveNewSubgoal_work (inst : Instance) (cfg : Cfg) (rec : SubSolver) (Y : Nat)
    (g depth dfn : Nat)
    (hit : ∀ m s, (solveIteration inst cfg rec g m s).state.work ≤ s.work + Y) :
    ∀ r s, (solveNewSubgoal inst cfg rec g depth dfn r s).state.work ≤ s.work + r * (1 + Y) := by
  intro r
  induction r with
  | zero =>
    intro s
    simp only [solveNewSubgoal, Res.state]
    omega
  | succ r ih =>
    intro s
    have ht := tick_work cfg s
    simp only [solveNewSubgoal]
    rw [Nat.succ_mul]
    split
    · rename_i site s' heq
      rw [heq] at ht
      simp only [Res.state] at ht ⊢
      omega
    · rename_i s0 heq
      rw [heq] at ht
      have hi := hit none s0
      split
      · rename_i site s' heq'
        rw [heq'] at hi
        simp only [Res.state] at ht hi ⊢
        omega
      · rename_i cur m s1 heq'
        rw [heq'] at hi
        -- one round: the tick and the iteration; the bookkeeping leaves the counter alone
        have fin : s1.work ≤ s.work + (r * (1 + Y) + (1 + Y)) := by
          simp only [Res.state] at ht hi
          omega
        split
        · split
          · exact fin
          · split
            · split <;> exact fin
            · refine Nat.le_trans (ih _) ?_
              simp only [Res.state] at ht hi
              simp only [rollbackTo]
              omega
        · exact fin
theorem push_work (cfg : Cfg) (co : Bool) (s : St) : (push cfg co s).state.work = s.work := by
  simp only [push]
  split <;> rfl

theorem pop_work (depth : Nat) (s : St) : (pop depth s).state.work = s.work := by
  simp only [pop]
  split <;> rfl

theorem moveToCache_work (dfn : Nat) (c : List (Nat × V)) (s : St) :
    (moveToCache dfn c s).state.work = s.work := by
  simp only [moveToCache]
  split <;> rfl

theorem finishGoal_work (cfg : Cfg) (m : Min) (depth dfn : Nat) (sub : Min) (s3 : St) :
    (Cyc.finishGoal cfg m depth dfn sub s3).state.work = s3.work := by
  unfold Cyc.finishGoal pop
  by_cases hp : depth + 1 = s3.stack.length
  · simp only [hp, if_true]
    split
    · rfl
    · split
      · split
        · split
          · rfl
          · rename_i c _ _
            have := moveToCache_work dfn c
              { s3 with graph := updateNode (fun n => { n with links := sub, stackDepth := none }) dfn s3.graph,
                        stack := s3.stack.dropLast }
            split <;> rename_i h <;> rw [h] at this <;> exact this
        · rfl
      · rfl
  · simp only [hp, if_false]; rfl

/-- whatever the instance (within `A`, `S`), the state, and the outcome (value or panic) -/
theorem work_bounded (inst : Instance) (cfg : Cfg) (A S : Nat) (hb : inst.Bounded A S) :
    ∀ d g m s, (solveGoal inst cfg d g m s).state.work ≤ s.work + workBound cfg.rounds A S d := by
  intro d
  induction d with
  | zero =>
    intro g m s
    simp only [solveGoal, Res.state, workBound]
    omega
  | succ d ih =>
    intro g m s
    have ht := tick_work cfg s
    simp only [workBound]
    cases hts : tick cfg s with
    | panic site s0 =>
      rw [hts] at ht
      rw [Cyc.solveGoal_tick_panic inst cfg d g m s s0 site hts]
      simp only [Res.state] at ht ⊢
      omega
    | ok u s0 =>
      rw [hts] at ht
      simp only [Res.state] at ht
      cases hc : Cyc.cacheLookup s0 g with
      | some v =>
        rw [Cyc.solveGoal_cached inst cfg d g m s s0 v hts hc]
        simp only [Res.state]; omega
      | none =>
        cases hl : lookup s0.graph g with
        | some dfn =>
          -- a goal on the stack or in the graph: answered from its node
          have : (solveGoal inst cfg (d + 1) g m s).state.work = s0.work := by
            cases hn : s0.graph[dfn]? with
            | none => rw [Cyc.solveGoal_hit_index inst cfg d g m s s0 hts hc dfn hl hn]; rfl
            | some node =>
              rw [Cyc.solveGoal_hit inst cfg d g m s s0 hts hc dfn hl node hn]
              split
              · split
                · rfl
                · split <;> rfl
              · rfl
          omega
        | none =>
          by_cases hov : cfg.overflowDepth ≤ s0.stack.length
          · rw [Cyc.solveGoal_overflow inst cfg d g m s s0 hts hc hl hov]
            simp only [Res.state]; omega
          · rw [Cyc.solveGoal_new inst cfg d g m s s0 hts hc hl hov]
            have hsn := solveNewSubgoal_work inst cfg (solveGoal inst cfg d)
              (A * (2 * S) * workBound cfg.rounds A S d) g s0.stack.length s0.graph.length
              (fun m s => solveIteration_work inst cfg (solveGoal inst cfg d) _ A S hb ih g m s)
              cfg.rounds (Cyc.pushed inst g s0)
            have hpw : (Cyc.pushed inst g s0).work = s0.work := rfl
            split
            · rename_i site s' heq
              rw [heq] at hsn
              simp only [Res.state] at hsn ⊢
              omega
            · rename_i sub s3 heq
              rw [heq] at hsn
              simp only [Res.state] at hsn
              rw [finishGoal_work]
              omega
theorem solveRootGoal_work (inst : Instance) (cfg : Cfg) (A S : Nat) (hb : inst.Bounded A S)
    (g : Nat) (s : St) :
    (solveRootGoal inst cfg g s).state.work
      ≤ s.work + workBound cfg.rounds A S (cfg.overflowDepth + 1) := by
  -- the state `solve_goal` starts from differs from `s` in stack, graph and flag only
  have key : ∀ s1 : St, s1.work = s.work →
      (match solveGoal inst cfg (cfg.overflowDepth + 1) g none s1 with
        | .ok (v, _) s' => Res.ok v s'
        | .panic site s' => .panic site s').state.work
        ≤ s.work + workBound cfg.rounds A S (cfg.overflowDepth + 1) := by
    intro s1 e
    have h := work_bounded inst cfg A S hb (cfg.overflowDepth + 1) g none s1
    rw [e] at h
    split <;> (rename_i heq; rw [heq] at h; exact h)
  simp only [solveRootGoal]
  split
  · simp only [Res.state]; omega
  · exact key _ (by split <;> split <;> rfl)
theorem runCall_work (inst : Instance) (cfg : Cfg) (A S : Nat) (hb : inst.Bounded A S)
    (c : Call) (s : St) :
    (runCall inst cfg c s).state.work ≤ workBound cfg.rounds A S (cfg.overflowDepth + 1) := by
  have h := solveRootGoal_work inst { cfg with budget := c.budget } A S hb c.goal
    { s with oracle := c.oracle, oracleDefault := c.dflt, work := 0 }
  simp only [Nat.zero_add] at h
  exact h

theorem reachedFixedPoint_ambig (old : V) : reachedFixedPoint old .ambig = true := by
  cases old <;> rfl

/-- when the iteration's answer is ambiguous the loop of `solveNewSubgoal` returns in the current round, for every
    remaining round fuel `r` (also `r = 0`): `ok` with the iteration's minimums, or the out-of-bounds panic of
    `stack[depth]` / `search_graph[dfn]`; never `Site.fuelRounds`. -/
theorem ambig_stops (inst : Instance) (cfg : Cfg) (rec : SubSolver) (g depth dfn r : Nat)
    (s s0 s1 : St) (m : Min)
    (ht : tick cfg s = .ok () s0)
    (hi : solveIteration inst cfg rec g none s0 = .ok (.ambig, m) s1) :
    (∃ s', solveNewSubgoal inst cfg rec g depth dfn (r + 1) s = .ok m s') ∨
      solveNewSubgoal inst cfg rec g depth dfn (r + 1) s = .panic .index s1 := by
  simp only [solveNewSubgoal, ht, hi, reachedFixedPoint_ambig]
  split
  · left
    split
    · exact ⟨_, rfl⟩
    · exact ⟨_, rfl⟩
  · right
    rfl

theorem ambig_stops_fuel_irrelevant (inst : Instance) (cfg : Cfg) (rec : SubSolver)
    (g depth dfn r : Nat) (s s0 s1 : St) (m : Min)
    (ht : tick cfg s = .ok () s0)
    (hi : solveIteration inst cfg rec g none s0 = .ok (.ambig, m) s1) :
    solveNewSubgoal inst cfg rec g depth dfn (r + 1) s
      = solveNewSubgoal inst cfg rec g depth dfn 1 s := by
  simp only [solveNewSubgoal, ht, hi, reachedFixedPoint_ambig]
  rfl

/-- the order of the Rust comment: `noSolution < unique < ambig` -/
def V.le : V → V → Bool
  | .noSolution, _ => true
  | .unique, .noSolution => false
  | .unique, _ => true
  | .ambig, .ambig => true
  | .ambig, _ => false

def Monotone (f : V → V) : Prop := ∀ a b, V.le a b = true → V.le (f a) (f b) = true

/-- the loop of `solve_new_subgoal` with the iteration abstracted to a function `f` of the previous answer of the
    goal; `none` = the round fuel ran out (`Site.fuelRounds`); `some (r, v)` = the loop stopped (through
    `reachedFixedPoint`) with answer `v` and `r` rounds of fuel LEFT. -/
def iterate (f : V → V) : Nat → V → Option (Nat × V)
  | 0, _ => none
  | r + 1, old =>
    let cur := f old
    if reachedFixedPoint old cur then some (r, cur) else iterate f r cur

/-- a function on values is its table -/
def tab (a b c : V) : V → V
  | .noSolution => a
  | .unique => b
  | .ambig => c

theorem tab_apply (f : V → V) (v : V) : tab (f .noSolution) (f .unique) (f .ambig) v = f v := by
  cases v <;> rfl

theorem iterate_congr {f g : V → V} (h : ∀ v, g v = f v) : ∀ n x, iterate g n x = iterate f n x
  | 0, _ => rfl
  | n + 1, x => by simp only [iterate, h, iterate_congr h n]

theorem Monotone.tab {f : V → V} (hf : Monotone f) : Monotone (tab (f .noSolution) (f .unique) (f .ambig)) :=
  fun a b h => by rw [tab_apply, tab_apply]; exact hf a b h

instance (f : V → V) : Decidable (Monotone f) := by unfold Monotone; infer_instance

/-- all 27 tables, all start values -/
theorem monotone_table : ∀ a b c : V, Monotone (tab a b c) →
    (∀ x0, (iterate (tab a b c) 3 x0).isSome = true) ∧
    ∀ co, (iterate (tab a b c) 2 (initialValue co)).isSome = true := by
  decide +kernel

theorem monotone_stabilizes (f : V → V) (hf : Monotone f) (x0 : V) :
    (iterate f 3 x0).isSome = true := by
  rw [← iterate_congr (tab_apply f)]
  exact (monotone_table _ _ _ hf.tab).1 x0

/-- from the two values `initialValue` can take (`noSolution`, `unique`) two rounds suffice. -/
theorem monotone_stabilizes_initial (f : V → V) (hf : Monotone f) (co : Bool) :
    (iterate f 2 (initialValue co)).isSome = true := by
  rw [← iterate_congr (tab_apply f)]
  exact (monotone_table _ _ _ hf.tab).2 co

/-- a monotone function that needs all three rounds (from `ambig`): the `3` is tight -/
def downF : V → V
  | .noSolution => .noSolution
  | .unique => .noSolution
  | .ambig => .unique

theorem downF_monotone : Monotone downF := by
  intro a b
  cases a <;> cases b <;> decide

theorem downF_two_rounds_fail : iterate downF 2 .ambig = none := by decide
theorem downF_three_rounds : iterate downF 3 .ambig = some (0, .noSolution) := by decide

def swapF : V → V
  | .noSolution => .unique
  | .unique => .noSolution
  | .ambig => .ambig

theorem swapF_not_monotone : ¬ Monotone swapF := by
  intro h
  exact absurd (h .noSolution .unique rfl) (by decide)

/-- without monotonicity the loop need not stop: no amount of fuel tried is enough -/
theorem nonmonotone_diverges :
    iterate swapF 3 .noSolution = none ∧ iterate swapF 50 .noSolution = none ∧
    iterate swapF 51 .unique = none := by decide

theorem nonmonotone_diverges_all (n : Nat) :
    iterate swapF n .noSolution = none ∧ iterate swapF n .unique = none := by
  induction n with
  | zero => exact ⟨rfl, rfl⟩
  | succ n ih =>
    constructor
    · simp only [iterate, swapF, reachedFixedPoint]
      exact ih.2
    · simp only [iterate, swapF, reachedFixedPoint]
      exact ih.1

/-- goals `0 .. n`: goal `k < n` has one alternative with the single sub-goal `k + 1`; goal `n`
    is a non-ground goal with two facts (its answer is `ambig`).  All goals inductive. -/
def chainTable (n : Nat) : List (Bool × Bool × List (List Nat)) :=
  (List.range n).map (fun k => (false, false, [[k + 1]])) ++ [(false, false, [[], []])]

def chain (n : Nat) : Instance := Instance.ofTable (chainTable n)

theorem chainTable_get (n g : Nat) :
    (chainTable n)[g]? =
      if g < n then some (false, false, [[g + 1]])
      else if g = n then some (false, false, [[], []]) else none := by
  unfold chainTable
  rw [List.getElem?_append]
  simp only [List.length_map, List.length_range]
  split
  · rename_i h
    simp [h]
  · rename_i h
    split
    · rename_i h2
      subst h2
      simp
    · rename_i h2
      have : g - n = (g - n - 1) + 1 := by omega
      rw [this]
      simp

theorem chain_bounded (n : Nat) : (chain n).Bounded 2 1 := by
  intro g
  simp only [chain, Instance.ofTable, chainTable_get]
  by_cases h : g < n
  · simp [h]
  · by_cases h2 : g = n
    · simp [h2]
    · simp [h, h2]

def chainWork (cachingEnabled : Bool) (n : Nat) : Nat :=
  (runCall (chain n) (Cfg.current 100 10) (Call.plain 0) (St.fresh cachingEnabled)).state.work

/-- with the cache disabled the work doubles per level (`2^(n+2) - 2`: the ambiguous sub-goal
    is proved twice by every goal above it, once in `fulfillRound` and once in `suggestPass`);
    with the cache enabled it grows linearly (`3 n + 2`). -/
theorem workBound_attained_shape :
    chainWork false 3 = 30 ∧ chainWork false 4 = 62 ∧ chainWork false 5 = 126 ∧
    chainWork true 3 = 11 ∧ chainWork true 4 = 14 ∧ chainWork true 5 = 17 := by
  decide +kernel

/-- without the cache the chain attains `workBound` exactly, for the parameters it really uses
    (one round per goal, one non-empty alternative, one sub-goal) -/
theorem workBound_attained_exact :
    chainWork false 3 = workBound 1 1 1 4 ∧ chainWork false 4 = workBound 1 1 1 5 ∧
    chainWork false 5 = workBound 1 1 1 6 :=
  ⟨workBound_attained_shape.1, workBound_attained_shape.2.1, workBound_attained_shape.2.2.1⟩

theorem chainWork_le (b : Bool) (n : Nat) : chainWork b n ≤ workBound 10 2 1 101 :=
  runCall_work (chain n) (Cfg.current 100 10) 2 1 (chain_bounded n) (Call.plain 0) (St.fresh b)

end Chalk.FixedPoint

#print axioms Chalk.FixedPoint.work_bounded
#print axioms Chalk.FixedPoint.solveRootGoal_work
#print axioms Chalk.FixedPoint.runCall_work
#print axioms Chalk.FixedPoint.ambig_stops
#print axioms Chalk.FixedPoint.ambig_stops_fuel_irrelevant
#print axioms Chalk.FixedPoint.monotone_stabilizes
#print axioms Chalk.FixedPoint.monotone_stabilizes_initial
#print axioms Chalk.FixedPoint.downF_monotone
#print axioms Chalk.FixedPoint.downF_two_rounds_fail
#print axioms Chalk.FixedPoint.swapF_not_monotone
#print axioms Chalk.FixedPoint.nonmonotone_diverges
#print axioms Chalk.FixedPoint.nonmonotone_diverges_all
#print axioms Chalk.FixedPoint.chain_bounded
#print axioms Chalk.FixedPoint.workBound_attained_shape
#print axioms Chalk.FixedPoint.workBound_attained_exact
#print axioms Chalk.FixedPoint.chainWork_le
