/-
  FixedPointMixD.lean — both polarities, the loop of `solve_new_subgoal`: the state at the head of a round
  (`LoopSt`) and the situation after its iteration (`After`, with the names of `FixedPointSemD.lean`).
-/
import ChalkModel.Lemmas.FixedPointMixB

namespace Chalk.FixedPoint.Mix
open Chalk.FixedPoint.Cyc (JE JA MinLe InCache InGraph Def Undef flagAt StackExt StackLe stackGoals
  getElem?_lt_length getElem?_prefix def_or_undef headNode mid_cases mid_at mid_corr Popped QuietSt Frame LoopFrame
  single_mid mid_mem_index drained)

theorem Strat.fold {inst : Instance} {P : Nat → Prop} (hP : Strat inst P) {v : V} {k : Nat}
    (h : JV inst v (Holds P v) k) : Holds P v k := by
  cases v with
  | unique => exact (hP.fix k).mpr h
  | noSolution =>
    intro hk
    obtain ⟨alt, ha, hall⟩ := (hP.fix k).mp hk
    obtain ⟨j, hj, hn⟩ := h alt ha
    exact hn (hall j hj)
  | ambig => exact h

section
variable {inst : Instance} {P : Nat → Prop} {dom : List Nat} {lvl : Nat → Nat} {fx : Bool}

structure LoopSt (inst : Instance) (P : Nat → Prop) (dom : List Nat) (lvl : Nat → Nat) (fx : Bool) (s0 : St) (g : Nat)
    (s : St) : Prop extends LoopFrame s0 g s where
  hP : Strat inst P
  i0 : Inv inst P dom lvl fx s0
  u0 : Undef s0 g
  gdom : g ∈ dom
  below : Below inst lvl s0 g
  inv : Inv inst P dom lvl fx s
  low : ∀ k, Undef s0 k → Def s k (botOf inst k) → ¬ InG inst P s0 k

theorem LoopSt.inG {s0 s : St} {g : Nat} (L : LoopSt inst P dom lvl fx s0 g s) {k : Nat} (h : InG inst P s0 k) :
    InG inst P s k :=
  InG.mono L.inv L.ext L.low h

theorem LoopSt.gtop {s0 s : St} {g : Nat} (L : LoopSt inst P dom lvl fx s0 g s) : GTop s g := by
  obtain ⟨w, hw⟩ := L.graph
  exact ⟨s0.graph.length, headNode s0 g w, s0.stack.length, by rw [hw]; exact mid_at _ _ _, rfl, rfl,
    L.slen.symm⟩

theorem IterFact.holds_bot (hP : Strat inst P) {s s' : St} {m : Min} {g : Nat} {v : V}
    (h : IterFact inst P s s' m g v) (hv : v = botOf inst g) : Holds P v g := by
  rcases h with h | h | h
  · rw [hv] at h; exact absurd h.1.symm (topOf_ne_botOf inst g)
  · exact hP.fold (JV.mono (fun j hj => hj.1) h.2)
  · rw [hv] at h; exact absurd h.1 (botOf_ne_ambig inst g)

theorem IterFact.val {s s' : St} {m : Min} {g : Nat} {v : V} (h : IterFact inst P s s' m g v) :
    v = topOf inst g ∨ v = botOf inst g ∨ v = .ambig := by
  rcases h with h | h | h
  · exact Or.inl h.1
  · exact Or.inr (Or.inl h.1)
  · exact Or.inr (Or.inr h.1)

theorem IterFact.ambig {s s' : St} {m : Min} {g : Nat} (h : IterFact inst P s s' m g .ambig) :
    s'.interrupted = true := by
  rcases h with h | h | h
  · exact absurd h.1.symm (topOf_ne_ambig inst g)
  · exact absurd h.1.symm (botOf_ne_ambig inst g)
  · exact h.2

/-- a pessimistic outcome excludes the optimistic justification relative to the start of the iteration -/
theorem IterFact.not_opt {s s' : St} {m : Min} {g : Nat} {v : V} (h : IterFact inst P s s' m g v)
    (hv : v = botOf inst g) : ¬ JV inst (topOf inst g) (Opt inst P (InG inst P s) (topOf inst g)) g := by
  rcases h with h | h | h
  · rw [hv] at h; exact absurd h.1.symm (topOf_ne_botOf inst g)
  · apply JV.dual
    rw [neg_topOf, ← hv]
    refine JV.mono ?_ h.2
    intro j hj ho
    cases ho with
    | inl h1 => exact hj.2 h1.1 h1.2
    | inr h1 =>
      refine Holds.excl h1 ?_
      rw [neg_topOf, ← hv]; exact hj.1
  · rw [hv] at h; exact absurd h.1 (botOf_ne_ambig inst g)

/-- the relative lower bound, from the state before the push -/
theorem loop_low {s0 st s1 : St} {g : Nat} {m : Min} {cur : V} (L : LoopSt inst P dom lvl fx s0 g st)
    (i1 : Inv inst P dom lvl fx s1) (hs : Step inst P st s1 m) (hf : IterFact inst P st s1 m g cur) :
    ∀ k, Undef s0 k → (Def s1 k (botOf inst k) ∨ (k = g ∧ cur = botOf inst g)) → ¬ InG inst P s0 k := by
  intro k hu hk hin
  cases hk with
  | inl hd =>
    cases def_or_undef st k with
    | inl hdt =>
      obtain ⟨v, hv⟩ := hdt
      have : v = botOf inst k := i1.defFun (hs.ext k v hv) hd
      rw [this] at hv
      exact L.low k hu hv hin
    | inr hut => exact hs.low k hut hd (L.inG hin)
  | inr hk =>
    obtain ⟨hkg, hcur⟩ := hk
    subst hkg
    cases hin.unfold with
    | inl hd => exact hd.elim (hu _) (hu _)
    | inr hj =>
      exact hf.not_opt hcur (JV.mono (fun j hj => hj.mono (fun j' hj' => L.inG hj')) hj.2)

theorem Wit.from0 {s0 sX : St} {lb : Min} {v : V} {j : Nat} (h : Wit inst P s0 lb v j)
    (hg : ∃ r, sX.graph = s0.graph ++ r) (hfl : ∀ d, flagAt s0.stack d → flagAt sX.stack d) :
    Wit inst P sX lb v j := by
  cases h with
  | inl h => exact Or.inl h
  | inr h =>
    obtain ⟨i, n, hn, hgo, hv, ht, hl, hf⟩ := h
    obtain ⟨r, hr⟩ := hg
    exact Or.inr ⟨i, n, by rw [hr]; exact getElem?_prefix hn, hgo, hv, ht, hl, fun d hd => hfl d (hf d hd)⟩

/-- the situation after one completed iteration of the loop -/
structure After (inst : Instance) (P : Nat → Prop) (dom : List Nat) (lvl : Nat → Nat) (fx : Bool) (s0 st s1 : St) (g : Nat)
    (old cur : V) (m : Min) (new : List Node) : Prop where
  L : LoopSt inst P dom lvl fx s0 g st
  i1 : Inv inst P dom lvl fx s1
  step : Step inst P st s1 m
  fact : IterFact inst P st s1 m g cur
  link : LinkOK lvl s1 (lvl g) st.graph.length none m
  gt : st.graph = s0.graph ++ [headNode s0 g old]
  g1 : s1.graph = s0.graph ++ headNode s0 g old :: new
  hnew : ∀ n : Node, n ∈ new → n.stackDepth = none ∧ MinLe m n.links

theorem After.intro {s0 st s1 : St} {g : Nat} {m : Min} {cur : V} (L : LoopSt inst P dom lvl fx s0 g st)
    (i1 : Inv inst P dom lvl fx s1) (hs : Step inst P st s1 m) (hf : IterFact inst P st s1 m g cur)
    (hk : LinkOK lvl s1 (lvl g) st.graph.length none m) :
    ∃ old new, After inst P dom lvl fx s0 st s1 g old cur m new := by
  obtain ⟨old, hold⟩ := L.graph
  obtain ⟨new, hnew, hn⟩ := hs.graph
  refine ⟨old, new, L, i1, hs, hf, hk, hold, ?_, hn⟩
  rw [hnew, hold, List.append_assoc]
  rfl

section AfterLemmas
variable {s0 st s1 : St} {g : Nat} {old cur : V} {m : Min} {new : List Node}

theorem After.slen (A : After inst P dom lvl fx s0 st s1 g old cur m new) : s1.stack.length = s0.stack.length + 1 :=
  A.L.slen1 A.step.toFrame

theorem After.sext (A : After inst P dom lvl fx s0 st s1 g old cur m new) : StackLe s0.stack s1.stack :=
  A.L.sext1 A.step.toFrame

theorem After.cacheExt (A : After inst P dom lvl fx s0 st s1 g old cur m new) :
    ∀ k v, InCache s0 k v → InCache s1 k v :=
  A.L.cacheExt1 A.step.toFrame

theorem After.popExt (A : After inst P dom lvl fx s0 st s1 g old cur m new) {s5 : St} (Pp : Popped s0 s1 s5) :
    StackExt s0.stack s5.stack :=
  A.L.popExt A.step.toFrame Pp

theorem After.g0 (A : After inst P dom lvl fx s0 st s1 g old cur m new) {i : Nat} {n : Node}
    (h : s0.graph[i]? = some n) : s1.graph[i]? = some n := by
  rw [A.g1]; exact getElem?_prefix h

theorem After.head (A : After inst P dom lvl fx s0 st s1 g old cur m new) :
    s1.graph[s0.graph.length]? = some (headNode s0 g old) := by
  rw [A.g1]; exact mid_at _ _ _

theorem After.st_node (A : After inst P dom lvl fx s0 st s1 g old cur m new) {i : Nat} {n : Node}
    (h : st.graph[i]? = some n) : i ≤ s0.graph.length ∧ s1.graph[i]? = some n := by
  rw [A.gt] at h; rw [A.g1]; exact single_mid h

theorem After.new_index (A : After inst P dom lvl fx s0 st s1 g old cur m new) {n : Node} (hn : n ∈ new) :
    ∃ i, s0.graph.length < i ∧ s1.graph[i]? = some n := by
  rw [A.g1]; exact mid_mem_index hn

theorem After.drained_index (A : After inst P dom lvl fx s0 st s1 g old cur m new) {n : Node}
    (hn : n ∈ drained g cur m new) :
    ∃ i n', s0.graph.length ≤ i ∧ s1.graph[i]? = some n' ∧ n'.goal = n.goal := by
  rw [A.g1]; exact Cyc.drained_index rfl hn

theorem After.node1 (A : After inst P dom lvl fx s0 st s1 g old cur m new) {h5 : Node} {i : Nat} {n : Node}
    (hn : (s0.graph ++ h5 :: new)[i]? = some n) :
    ∃ n', s1.graph[i]? = some n' ∧
      ((i = s0.graph.length ∧ n = h5 ∧ n' = headNode s0 g old) ∨ (i ≠ s0.graph.length ∧ n' = n)) := by
  rw [A.g1]; exact mid_corr s0.graph h5 (headNode s0 g old) new i n hn

theorem After.node5 (A : After inst P dom lvl fx s0 st s1 g old cur m new) {h5 : Node} (hgo : h5.goal = g)
    {i : Nat} {n : Node} (hn : s1.graph[i]? = some n) :
    ∃ n', (s0.graph ++ h5 :: new)[i]? = some n' ∧ n'.goal = n.goal := by
  rw [A.g1] at hn
  obtain ⟨n', hn', hc⟩ := mid_corr s0.graph (headNode s0 g old) h5 new i n hn
  refine ⟨n', hn', ?_⟩
  cases hc with
  | inl h => rw [h.2.1, h.2.2]; exact hgo
  | inr h => rw [h.2]

theorem After.cur_val (A : After inst P dom lvl fx s0 st s1 g old cur m new) :
    cur = topOf inst g ∨ cur = botOf inst g ∨ cur = .ambig :=
  A.fact.val

theorem After.amb (A : After inst P dom lvl fx s0 st s1 g old cur m new) (h : cur = .ambig) :
    s1.interrupted = true := by
  have hf := A.fact
  rw [h] at hf
  exact hf.ambig

theorem After.cur_holds (A : After inst P dom lvl fx s0 st s1 g old cur m new) (h : cur = botOf inst g) :
    Holds P cur g :=
  A.fact.holds_bot A.L.hP h

theorem After.popNode (A : After inst P dom lvl fx s0 st s1 g old cur m new) {s5 : St} (Pp : Popped s0 s1 s5) :
    ∀ (d : Nat) (e : StackEntry), s5.stack[d]? = some e → ∃ (i : Nat) (n : Node),
      s0.graph[i]? = some n ∧ n.stackDepth = some d ∧ e.coinductiveGoal = inst.coind n.goal := by
  intro d e he
  have hlt : d < s0.stack.length := by rw [← Pp.slen]; exact getElem?_lt_length he
  rw [Pp.sget d hlt] at he
  obtain ⟨e', he', hco, _⟩ := A.sext d s0.stack[d] (List.getElem?_eq_getElem hlt)
  rw [he] at he'
  cases he'
  obtain ⟨i, n, hn, hd, hc⟩ := A.L.i0.stackNode d s0.stack[d] (List.getElem?_eq_getElem hlt)
  exact ⟨i, n, hn, hd, by rw [hco, hc]⟩

theorem After.wit (A : After inst P dom lvl fx s0 st s1 g old cur m new) {s5 : St} (Pp : Popped s0 s1 s5)
    {h5 : Node} (hg5 : s5.graph = s0.graph ++ h5 :: new) (hgo : h5.goal = g) (hsd : h5.stackDepth = none)
    (hv : flagAt s1.stack s0.stack.length → old = h5.solution)
    {lb : Min} {v : V} {j : Nat} (h : Wit inst P s1 lb v j) : Wit inst P s5 lb v j := by
  cases h with
  | inl h => exact Or.inl h
  | inr h =>
    obtain ⟨i, n, hn, hgn, hvn, ht, hl, hf⟩ := h
    rw [A.g1] at hn
    obtain ⟨n', hn', hc⟩ := mid_corr s0.graph (headNode s0 g old) h5 new i n hn
    rw [← hg5] at hn'
    cases hc with
    | inl hc =>
      obtain ⟨_, e2, e3⟩ := hc
      subst e2; subst e3
      refine Or.inr ⟨i, _, hn', hgo.trans hgn, ?_, ht, hl, fun d hd => ?_⟩
      · rw [← hv (hf _ rfl)]; exact hvn
      · rw [hsd] at hd; cases hd
    | inr hc =>
      obtain ⟨hne, e⟩ := hc
      subst e
      refine Or.inr ⟨i, _, hn', hgn, hvn, ht, hl, fun d hd => ?_⟩
      rcases mid_cases _ _ _ i _ hn with h1 | h1 | h1
      · have := (A.L.i0.stk i _ d h1.2 hd).1
        exact Pp.flag this (hf d hd)
      · exact absurd h1.1 hne
      · rw [(A.hnew _ h1.2.1).1] at hd; cases hd

end AfterLemmas

end

end Chalk.FixedPoint.Mix
