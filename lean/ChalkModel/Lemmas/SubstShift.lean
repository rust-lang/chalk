import ChalkModel.Lemmas.SubstLemmas

/-! ### substitution commutes with shifting -/
namespace Chalk

theorem map_shift_get (k : Nat) (σ : List GArg) (i : Nat) :
    (σ.map (GArg.shift k 0))[i]? = (σ[i]?).map (GArg.shift k 0) := by simp

/-- The variable case, the same for types, lifetimes and constants.  `fσ`, `fσ'` are the two
    substitutions at depth `o`; `A`, `B` are what they put for the variable substituted for. -/
theorem subst_shift_var {α : Type} (mk : Nat → α) (sh : Nat → Nat → α → α)
    (hsh : ∀ k c db, sh k c (mk db) = if c ≤ db then mk (db + k) else mk db)
    (k o : Nat) (fσ fσ' : α → Res α) (A B : Res α) (hAB : A.map (sh k o) = B)
    (hf : ∀ db, fσ (mk db) =
      if o ≤ db then (if db - o = 0 then A else .ok (mk (db - o - 1 + o))) else .ok (mk db))
    (hf' : ∀ db, fσ' (mk db) =
      if o ≤ db then (if db - o = 0 then B else .ok (mk (db - o - 1 + o))) else .ok (mk db))
    (db : Nat) : (fσ (mk db)).map (sh k o) = fσ' (sh k (o + 1) (mk db)) := by
  rw [hsh k (o + 1) db, hf]
  rcases Nat.lt_trichotomy db o with h | rfl | h
  · have ⟨h1, h2⟩ : ¬ o ≤ db ∧ ¬ o + 1 ≤ db := by omega
    rw [if_neg h1, if_neg h2, hf', if_neg h1, Except.map_ok', hsh, if_neg h1]
  · rw [if_pos (Nat.le_refl _), if_pos (Nat.sub_self _), if_neg (Nat.not_succ_le_self _), hf',
      if_pos (Nat.le_refl _), if_pos (Nat.sub_self _), hAB]
  · have ⟨h1, h2, h3, h4, h5, h6⟩ : o ≤ db ∧ ¬ db - o = 0 ∧ o ≤ db + k ∧ ¬ db + k - o = 0 ∧
        o ≤ db - o - 1 + o ∧ db - o - 1 + o + k = db + k - o - 1 + o := by omega
    rw [if_pos h1, if_neg h2, if_pos (show o + 1 ≤ db from h), hf', if_pos h3, if_neg h4, Except.map_ok', hsh, if_pos h5, h6]

theorem foldLifetime_subst_shift (k : Nat) (σ : List GArg) (o : Nat) (l : Lifetime) :
    (foldLifetime (substFolder σ) o l).map (·.shift k o)
      = foldLifetime (substFolder (σ.map (GArg.shift k 0))) o (l.shift k (o + 1)) := by
  cases l <;> try rfl
  case bound db idx =>
    refine subst_shift_var (.bound · idx) Lifetime.shift (fun _ _ _ => rfl) k o (foldLifetime (substFolder σ) o)
      (foldLifetime (substFolder (σ.map (GArg.shift k 0))) o) _ _ ?_ (fun _ => rfl) (fun _ => rfl) db
    rw [List.getElem?_map]
    cases σ[idx]? with
    | none => rfl
    | some a =>
      cases a <;> try rfl
      case lt s =>
        simp only [Option.map, GArg.shift, foldLifetime_shifter, Except.map_ok']
        exact congrArg _ (Lifetime.shift_shift k o 0 s)

mutual
  theorem foldTy_subst_shift (k : Nat) (σ : List GArg) (o : Nat) : (t : Ty) →
      (foldTy (substFolder σ) o t).map (·.shift k o)
        = foldTy (substFolder (σ.map (GArg.shift k 0))) o (t.shift k (o + 1))
    | .app n args => by
        rw [foldTy_app, Ty.shift, foldTy_app, ← foldArgs_subst_shift k σ o args]
        cases foldArgs (substFolder σ) o args <;> rfl
    | .scalar s => rfl
    | .str => rfl
    | .never => rfl
    | .foreign id => rfl
    | .error => rfl
    | .array t cn => by
        rw [foldTy_array, Ty.shift, foldTy_array, ← foldTy_subst_shift k σ o t, ← foldConst_subst_shift k σ o cn]
        cases foldTy (substFolder σ) o t <;> cases foldConst (substFolder σ) o cn <;> rfl
    | .slice t => by
        rw [foldTy_slice, Ty.shift, foldTy_slice, ← foldTy_subst_shift k σ o t]
        cases foldTy (substFolder σ) o t <;> rfl
    | .raw m t => by
        rw [foldTy_raw, Ty.shift, foldTy_raw, ← foldTy_subst_shift k σ o t]
        cases foldTy (substFolder σ) o t <;> rfl
    | .ref m l t => by
        rw [foldTy_ref, Ty.shift, foldTy_ref, ← foldLifetime_subst_shift k σ o l, ← foldTy_subst_shift k σ o t]
        cases foldLifetime (substFolder σ) o l <;> cases foldTy (substFolder σ) o t <;> rfl
    | .placeholder ui idx => rfl
    | .dyn ks bounds l => by
        rw [foldTy_dyn, Ty.shift, foldTy_dyn, ← foldQWCs_subst_shift k σ (o+1) bounds,
          ← foldLifetime_subst_shift k σ o l]
        cases foldQWCs (substFolder σ) (o+1) bounds <;> cases foldLifetime (substFolder σ) o l <;> rfl
    | .proj id args => by
        rw [foldTy_proj, Ty.shift, foldTy_proj, ← foldArgs_subst_shift k σ o args]
        cases foldArgs (substFolder σ) o args <;> rfl
    | .opaque id args => by
        rw [foldTy_opaque, Ty.shift, foldTy_opaque, ← foldArgs_subst_shift k σ o args]
        cases foldArgs (substFolder σ) o args <;> rfl
    | .function nb sig args => by
        rw [foldTy_function, Ty.shift, foldTy_function, ← foldArgs_subst_shift k σ (o+1) args]
        cases foldArgs (substFolder σ) (o+1) args <;> rfl
    | .bound db idx => by
        refine subst_shift_var (.bound · idx) Ty.shift (fun _ _ _ => by rw [Ty.shift]) k o (foldTy (substFolder σ) o)
          (foldTy (substFolder (σ.map (GArg.shift k 0))) o) _ _ ?_ (fun _ => rfl) (fun _ => rfl) db
        rw [List.getElem?_map]
        cases σ[idx]? with
        | none => rfl
        | some a =>
          cases a <;> try rfl
          case ty s =>
            simp only [Option.map, GArg.shift, foldTy_shifter, Except.map_ok']
            exact congrArg _ (Ty.shift_shift k o 0 s)
    | .infer v kd => rfl
  theorem foldConst_subst_shift (k : Nat) (σ : List GArg) (o : Nat) : (c : Const) →
      (foldConst (substFolder σ) o c).map (·.shift k o)
        = foldConst (substFolder (σ.map (GArg.shift k 0))) o (c.shift k (o + 1))
    | .mk ty (.bound db idx) => by
        refine subst_shift_var (.mk ty <| .bound · idx) Const.shift (fun _ _ _ => by rw [Const.shift]) k o
          (foldConst (substFolder σ) o) (foldConst (substFolder (σ.map (GArg.shift k 0))) o) _ _ ?_
          (fun _ => rfl) (fun _ => rfl) db
        rw [List.getElem?_map]
        cases σ[idx]? with
        | none => rfl
        | some a =>
          cases a <;> try rfl
          case ct s =>
            simp only [Option.map, GArg.shift, foldConst_shifter, Except.map_ok']
            exact congrArg _ (Const.shift_shift k o 0 s)
    | .mk ty (.infer v) => by
        simp only [Const.shift]
        rw [foldConst_infer_none rfl, foldConst_infer_none rfl, ← foldTy_subst_shift k σ o ty]
        cases foldTy (substFolder σ) o ty <;> rfl
    | .mk ty (.placeholder ui idx) => by
        simp only [Const.shift]
        rw [foldConst_placeholder_none rfl, foldConst_placeholder_none rfl, ← foldTy_subst_shift k σ o ty]
        cases foldTy (substFolder σ) o ty <;> rfl
    | .mk ty (.concrete v) => by
        simp only [Const.shift]
        rw [foldConst_concrete, foldConst_concrete, ← foldTy_subst_shift k σ o ty]
        cases foldTy (substFolder σ) o ty <;> rfl
  theorem foldGArg_subst_shift (k : Nat) (σ : List GArg) (o : Nat) : (a : GArg) →
      (foldGArg (substFolder σ) o a).map (·.shift k o)
        = foldGArg (substFolder (σ.map (GArg.shift k 0))) o (a.shift k (o + 1))
    | .ty t => by
        rw [foldGArg_ty, GArg.shift, foldGArg_ty, ← foldTy_subst_shift k σ o t]
        cases foldTy (substFolder σ) o t <;> rfl
    | .lt l => by
        rw [foldGArg_lt, GArg.shift, foldGArg_lt, ← foldLifetime_subst_shift k σ o l]
        cases foldLifetime (substFolder σ) o l <;> rfl
    | .ct c => by
        rw [foldGArg_ct, GArg.shift, foldGArg_ct, ← foldConst_subst_shift k σ o c]
        cases foldConst (substFolder σ) o c <;> rfl
  theorem foldArgs_subst_shift (k : Nat) (σ : List GArg) (o : Nat) : (a : Args) →
      (foldArgs (substFolder σ) o a).map (·.shift k o)
        = foldArgs (substFolder (σ.map (GArg.shift k 0))) o (a.shift k (o + 1))
    | .nil => rfl
    | .cons a as => by
        rw [foldArgs_cons, Args.shift, foldArgs_cons, ← foldGArg_subst_shift k σ o a, ← foldArgs_subst_shift k σ o as]
        cases foldGArg (substFolder σ) o a <;> cases foldArgs (substFolder σ) o as <;> rfl
  theorem foldWC_subst_shift (k : Nat) (σ : List GArg) (o : Nat) : (w : WC) →
      (foldWC (substFolder σ) o w).map (·.shift k o)
        = foldWC (substFolder (σ.map (GArg.shift k 0))) o (w.shift k (o + 1))
    | .implemented tr args => by
        rw [foldWC_implemented, WC.shift, foldWC_implemented, ← foldArgs_subst_shift k σ o args]
        cases foldArgs (substFolder σ) o args <;> rfl
    | .aliasEqProj id args ty => by
        rw [foldWC_aliasEqProj, WC.shift, foldWC_aliasEqProj, ← foldArgs_subst_shift k σ o args,
          ← foldTy_subst_shift k σ o ty]
        cases foldArgs (substFolder σ) o args <;> cases foldTy (substFolder σ) o ty <;> rfl
    | .aliasEqOpaque id args ty => by
        rw [foldWC_aliasEqOpaque, WC.shift, foldWC_aliasEqOpaque, ← foldArgs_subst_shift k σ o args,
          ← foldTy_subst_shift k σ o ty]
        cases foldArgs (substFolder σ) o args <;> cases foldTy (substFolder σ) o ty <;> rfl
    | .ltOutlives a b => by
        rw [foldWC_ltOutlives, WC.shift, foldWC_ltOutlives, ← foldLifetime_subst_shift k σ o a,
          ← foldLifetime_subst_shift k σ o b]
        cases foldLifetime (substFolder σ) o a <;> cases foldLifetime (substFolder σ) o b <;> rfl
    | .tyOutlives t l => by
        rw [foldWC_tyOutlives, WC.shift, foldWC_tyOutlives, ← foldTy_subst_shift k σ o t,
          ← foldLifetime_subst_shift k σ o l]
        cases foldTy (substFolder σ) o t <;> cases foldLifetime (substFolder σ) o l <;> rfl
  theorem foldQWC_subst_shift (k : Nat) (σ : List GArg) (o : Nat) : (q : QWC) →
      (foldQWC (substFolder σ) o q).map (·.shift k o)
        = foldQWC (substFolder (σ.map (GArg.shift k 0))) o (q.shift k (o + 1))
    | .mk ks wc => by
        rw [foldQWC_mk, QWC.shift, foldQWC_mk, ← foldWC_subst_shift k σ (o+1) wc]
        cases foldWC (substFolder σ) (o+1) wc <;> rfl
  theorem foldQWCs_subst_shift (k : Nat) (σ : List GArg) (o : Nat) : (q : QWCs) →
      (foldQWCs (substFolder σ) o q).map (·.shift k o)
        = foldQWCs (substFolder (σ.map (GArg.shift k 0))) o (q.shift k (o + 1))
    | .nil => rfl
    | .cons q qs => by
        rw [foldQWCs_cons, QWCs.shift, foldQWCs_cons, ← foldQWC_subst_shift k σ o q, ← foldQWCs_subst_shift k σ o qs]
        cases foldQWC (substFolder σ) o q <;> cases foldQWCs (substFolder σ) o qs <;> rfl
end

end Chalk
