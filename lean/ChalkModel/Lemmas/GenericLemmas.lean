/-
  The "theorem on constants" (generalisation lemma) for the declarative semantics of `Sem.lean`: opaque constants that
  occur nowhere in the program may be replaced by arbitrary terms, and truth of atoms (both strata) and of positive
  goals is preserved.  Helpers for `Props/C01gen.lean`.
-/
import ChalkModel.Lemmas.SemLemmas
import ChalkModel.Contract

namespace Chalk.Sem

mutual
  /-- replace every constant `c` (a constructor symbol with no arguments) with `ρ c = some t` by `t` -/
  def Tm.repl (ρ : String → Option Tm) : Tm → Tm
    | .app c .nil => (ρ c).getD (.app c .nil)
    | .app c (.cons t ts) => .app c (.cons (t.repl ρ) (ts.repl ρ))
    | .var i => .var i
  def Tms.repl (ρ : String → Option Tm) : Tms → Tms
    | .nil => .nil
    | .cons t ts => .cons (t.repl ρ) (ts.repl ρ)
end

def Atom.repl (ρ : String → Option Tm) (a : Atom) : Atom := ⟨a.pred, a.args.repl ρ⟩

def Goal.repl (ρ : String → Option Tm) : Goal → Goal
  | .atom a => .atom (a.repl ρ)
  | .tt => .tt
  | .and g h => .and (g.repl ρ) (h.repl ρ)
  | .implies hyps g => .implies (hyps.map (Atom.repl ρ)) (g.repl ρ)
  | .not g => .not (g.repl ρ)
  | .eq s t => .eq (s.repl ρ) (t.repl ρ)

mutual
  /-- no constructor symbol of `N` occurs in the term (with whatever arguments) -/
  def Tm.Avoids (N : String → Prop) : Tm → Prop
    | .app c args => ¬ N c ∧ args.Avoids N
    | .var _ => True
  def Tms.Avoids (N : String → Prop) : Tms → Prop
    | .nil => True
    | .cons t ts => t.Avoids N ∧ ts.Avoids N
end

def Atom.Avoids (N : String → Prop) (a : Atom) : Prop := a.args.Avoids N

def Clause.Avoids (N : String → Prop) (c : Clause) : Prop := c.head.Avoids N ∧ ∀ b ∈ c.body, b.Avoids N

def Program.Avoids (N : String → Prop) (P : Program) : Prop := ∀ c ∈ P.clauses, c.Avoids N

def Goal.Avoids (N : String → Prop) : Goal → Prop
  | .atom a => a.Avoids N
  | .tt => True
  | .and g h => g.Avoids N ∧ h.Avoids N
  | .implies hyps g => (∀ a ∈ hyps, a.Avoids N) ∧ g.Avoids N
  | .not g => g.Avoids N
  | .eq s t => s.Avoids N ∧ t.Avoids N

/-- positive goals: no negation -/
def Goal.Positive : Goal → Prop
  | .atom _ => True
  | .tt => True
  | .and g h => g.Positive ∧ h.Positive
  | .implies _ g => g.Positive
  | .not _ => False
  | .eq _ _ => True

mutual
  def Tm.allSyms (p : String → Bool) : Tm → Bool
    | .app c args => p c && args.allSyms p
    | .var _ => true
  def Tms.allSyms (p : String → Bool) : Tms → Bool
    | .nil => true
    | .cons t ts => t.allSyms p && ts.allSyms p
end

def Atom.allSyms (p : String → Bool) (a : Atom) : Bool := a.args.allSyms p

def Clause.allSyms (p : String → Bool) (c : Clause) : Bool := c.head.allSyms p && c.body.all (Atom.allSyms p)

def Program.allSyms (p : String → Bool) (P : Program) : Bool := P.clauses.all (Clause.allSyms p)

def Goal.allSyms (p : String → Bool) : Goal → Bool
  | .atom a => a.allSyms p
  | .tt => true
  | .and g h => g.allSyms p && h.allSyms p
  | .implies hyps g => hyps.all (Atom.allSyms p) && g.allSyms p
  | .not g => g.allSyms p
  | .eq s t => s.allSyms p && t.allSyms p

def Goal.positiveB : Goal → Bool
  | .atom _ => true
  | .tt => true
  | .and g h => g.positiveB && h.positiveB
  | .implies _ g => g.positiveB
  | .not _ => false
  | .eq _ _ => true

mutual
  theorem Tm.avoids_of_allSyms {N : String → Prop} {p : String → Bool} (hp : ∀ c, p c = true → ¬ N c) :
      (t : Tm) → t.allSyms p = true → t.Avoids N
    | .var _, _ => by simp [Tm.Avoids]
    | .app c args, h => by
        simp only [Tm.allSyms, Bool.and_eq_true] at h
        exact ⟨hp c h.1, Tms.avoids_of_allSyms hp args h.2⟩
  theorem Tms.avoids_of_allSyms {N : String → Prop} {p : String → Bool} (hp : ∀ c, p c = true → ¬ N c) :
      (ts : Tms) → ts.allSyms p = true → ts.Avoids N
    | .nil, _ => by simp [Tms.Avoids]
    | .cons t ts, h => by
        simp only [Tms.allSyms, Bool.and_eq_true] at h
        exact ⟨Tm.avoids_of_allSyms hp t h.1, Tms.avoids_of_allSyms hp ts h.2⟩
end

theorem Atom.avoids_of_allSyms {N : String → Prop} {p : String → Bool} (hp : ∀ c, p c = true → ¬ N c)
    (a : Atom) (h : a.allSyms p = true) : a.Avoids N :=
  Tms.avoids_of_allSyms hp a.args h

theorem Clause.avoids_of_allSyms {N : String → Prop} {p : String → Bool} (hp : ∀ c, p c = true → ¬ N c)
    (c : Clause) (h : c.allSyms p = true) : c.Avoids N := by
  simp only [Clause.allSyms, Bool.and_eq_true, List.all_eq_true] at h
  exact ⟨Atom.avoids_of_allSyms hp _ h.1, fun b hb => Atom.avoids_of_allSyms hp b (h.2 b hb)⟩

theorem Program.avoids_of_allSyms {N : String → Prop} {p : String → Bool} (hp : ∀ c, p c = true → ¬ N c)
    (P : Program) (h : P.allSyms p = true) : P.Avoids N := by
  simp only [Program.allSyms, List.all_eq_true] at h
  exact fun c hc => Clause.avoids_of_allSyms hp c (h c hc)

theorem Goal.avoids_of_allSyms {N : String → Prop} {p : String → Bool} (hp : ∀ c, p c = true → ¬ N c) :
    (g : Goal) → g.allSyms p = true → g.Avoids N
  | .atom a, h => Atom.avoids_of_allSyms hp a h
  | .tt, _ => trivial
  | .and g h, hh => by
      simp only [Goal.allSyms, Bool.and_eq_true] at hh
      exact ⟨Goal.avoids_of_allSyms hp g hh.1, Goal.avoids_of_allSyms hp h hh.2⟩
  | .implies hyps g, hh => by
      simp only [Goal.allSyms, Bool.and_eq_true, List.all_eq_true] at hh
      exact ⟨fun a ha => Atom.avoids_of_allSyms hp a (hh.1 a ha), Goal.avoids_of_allSyms hp g hh.2⟩
  | .not g, hh => Goal.avoids_of_allSyms hp g hh
  | .eq s t, hh => by
      simp only [Goal.allSyms, Bool.and_eq_true] at hh
      exact ⟨Tm.avoids_of_allSyms hp s hh.1, Tm.avoids_of_allSyms hp t hh.2⟩

theorem Goal.positive_iff_positiveB (g : Goal) : g.Positive ↔ g.positiveB = true := by
  induction g <;> simp_all [Goal.Positive, Goal.positiveB]

theorem Tm.repl_app_of_none {ρ : String → Option Tm} {c : String} (h : ρ c = none) (args : Tms) :
    (Tm.app c args).repl ρ = .app c (args.repl ρ) := by
  cases args with
  | nil => simp [Tm.repl, Tms.repl, h]
  | cons t ts => simp [Tm.repl, Tms.repl]

mutual
  theorem Tm.repl_inst {N : String → Prop} {ρ : String → Option Tm} (hρ : ∀ c, ¬ N c → ρ c = none)
      (θ : Nat → Tm) : (t : Tm) → t.Avoids N → (t.inst θ).repl ρ = t.inst (fun i => (θ i).repl ρ)
    | .var _, _ => by simp [Tm.inst]
    | .app c args, h => by
        simp only [Tm.Avoids] at h
        simp only [Tm.inst]
        rw [Tm.repl_app_of_none (hρ c h.1), Tms.repl_inst hρ θ args h.2]
  theorem Tms.repl_inst {N : String → Prop} {ρ : String → Option Tm} (hρ : ∀ c, ¬ N c → ρ c = none)
      (θ : Nat → Tm) : (ts : Tms) → ts.Avoids N → (ts.inst θ).repl ρ = ts.inst (fun i => (θ i).repl ρ)
    | .nil, _ => by simp [Tms.inst, Tms.repl]
    | .cons t ts, h => by
        simp only [Tms.Avoids] at h
        simp only [Tms.inst, Tms.repl]
        rw [Tm.repl_inst hρ θ t h.1, Tms.repl_inst hρ θ ts h.2]
end

theorem Atom.repl_inst {N : String → Prop} {ρ : String → Option Tm} (hρ : ∀ c, ¬ N c → ρ c = none)
    (θ : Nat → Tm) (a : Atom) (h : a.Avoids N) : (a.inst θ).repl ρ = a.inst (fun i => (θ i).repl ρ) := by
  simp only [Atom.inst, Atom.repl]
  rw [Tms.repl_inst hρ θ a.args h]

theorem Goal.repl_inst {N : String → Prop} {ρ : String → Option Tm} (hρ : ∀ c, ¬ N c → ρ c = none)
    (θ : Nat → Tm) : (g : Goal) → g.Avoids N → (g.inst θ).repl ρ = g.inst (fun i => (θ i).repl ρ)
  | .atom a, h => by simp only [Goal.inst, Goal.repl]; rw [Atom.repl_inst hρ θ a h]
  | .tt, _ => rfl
  | .and g h, hh => by
      simp only [Goal.inst, Goal.repl]
      rw [Goal.repl_inst hρ θ g hh.1, Goal.repl_inst hρ θ h hh.2]
  | .implies hyps g, hh => by
      simp only [Goal.inst, Goal.repl, List.map_map]
      rw [Goal.repl_inst hρ θ g hh.2]
      congr 1
      apply List.map_congr_left
      intro a ha
      exact Atom.repl_inst hρ θ a (hh.1 a ha)
  | .not g, hh => by
      simp only [Goal.inst, Goal.repl]
      rw [Goal.repl_inst hρ θ g hh]
  | .eq s t, hh => by
      simp only [Goal.inst, Goal.repl]
      rw [Tm.repl_inst hρ θ s hh.1, Tm.repl_inst hρ θ t hh.2]

theorem ViaClause.repl {N : String → Prop} {ρ : String → Option Tm} (hρ : ∀ c, ¬ N c → ρ c = none)
    {P : Program} (hP : P.Avoids N) {X Y : Atom → Prop} (hXY : ∀ b, X b → Y (b.repl ρ)) {a : Atom}
    (hv : ViaClause P X a) : ViaClause P Y (a.repl ρ) := by
  obtain ⟨c, hc, σ, hs, hb⟩ := hv
  refine ⟨c, hc, fun i => (σ i).repl ρ, ?_, ?_⟩
  · rw [← Atom.repl_inst hρ σ c.head (hP c hc).1, hs]
  · intro b hbm
    rw [← Atom.repl_inst hρ σ b ((hP c hc).2 b hbm)]
    exact hXY _ (hb b hbm)

theorem ViaClause.repl_image {N : String → Prop} {ρ : String → Option Tm} (hρ : ∀ c, ¬ N c → ρ c = none)
    {P : Program} (hP : P.Avoids N) {X : Atom → Prop} {a : Atom} (hv : ViaClause P X a) :
    ViaClause P (fun b => ∃ b', X b' ∧ b = b'.repl ρ) (a.repl ρ) :=
  hv.repl hρ hP fun b hb => ⟨b, hb, rfl⟩

theorem CoHolds.repl {N : String → Prop} {ρ : String → Option Tm} (hρ : ∀ c, ¬ N c → ρ c = none)
    {P : Program} (hP : P.Avoids N) {Γ : List Atom} {a : Atom} (h : CoHolds P Γ a) :
    CoHolds P (Γ.map (Atom.repl ρ)) (a.repl ρ) :=
  h.sim (f := Atom.repl ρ) (R := fun _ => True) (fun _ _ => rfl)
    (fun _ _ hm hco => .of_mem hco (List.mem_map_of_mem hm))
    (fun _ _ _ _ hXY hv => Or.inr (hv.repl hρ hP fun b hb => hXY b hb trivial)) trivial

theorem Holds.repl {N : String → Prop} {ρ : String → Option Tm} (hρ : ∀ c, ¬ N c → ρ c = none)
    {P : Program} (hP : P.Avoids N) {Γ : List Atom} {a : Atom} (h : Holds P Γ a) :
    Holds P (Γ.map (Atom.repl ρ)) (a.repl ρ) :=
  h.sim (f := Atom.repl ρ) (R := fun _ => True) (fun _ _ => rfl)
    (fun _ _ hm => .of_mem (List.mem_map_of_mem hm))
    (fun _ _ _ _ hXY hv => Or.inr (hv.repl hρ hP fun b hb => hXY b hb trivial)) trivial

theorem GHolds.repl {N : String → Prop} {ρ : String → Option Tm} (hρ : ∀ c, ¬ N c → ρ c = none)
    {P : Program} (hP : P.Avoids N) : (g : Goal) → g.Positive → (Γ : List Atom) → GHolds P Γ g →
    GHolds P (Γ.map (Atom.repl ρ)) (g.repl ρ)
  | .atom _, _, _, h => Holds.repl hρ hP h
  | .tt, _, _, _ => trivial
  | .and g h, hp, Γ, hh => ⟨GHolds.repl hρ hP g hp.1 Γ hh.1, GHolds.repl hρ hP h hp.2 Γ hh.2⟩
  | .implies hyps g, hp, Γ, hh => by
      have := GHolds.repl hρ hP g hp (hyps ++ Γ) hh
      rwa [List.map_append] at this
  | .not _, hp, _, _ => hp.elim
  | .eq _ _, _, _, hh => congrArg (Tm.repl ρ) hh

theorem Goal.positive_inst (θ : Nat → Tm) (g : Goal) (h : g.Positive) : (g.inst θ).Positive := by
  induction g <;> simp_all [Goal.Positive, Goal.inst]

theorem avoids_getD {N : String → Prop} {σ : List Tm} (hσ : ∀ t ∈ σ, t.Avoids N) (i : Nat) :
    (σ.getD i (.var i)).Avoids N := by
  rw [List.getD_eq_getElem?_getD]
  cases h : σ[i]? with
  | none => simp [Tm.Avoids]
  | some t => exact hσ t (List.mem_of_getElem? h)

end Chalk.Sem
