/-
  C22, layer "items": `parseItem` inverts `printItem` on well-formed items, and
  `parseProgram (print p) = some p`.
-/
import ChalkModel.Lemmas.DisplayItemParts

namespace Chalk.Display.Parse
open Chalk.Display

/-- struct/enum: clauses and fields live under the item's binders; a struct has exactly one
    field list -/
def wfAdt (d : AdtDatum) : Bool :=
  d.wcs.all (wfQWC [d.kinds]) && d.vfields.all (fun v => v.all (wfTy [d.kinds]))
    && (d.isEnum || d.vfields.length == 1)

/-- `tks`: the trait's binders; the associated type's binders start with them, and its bounds and
    clauses only refer to its own binder level -/
def wfAssocTy (tks : List VK) (a : AssocTyDatum) : Bool :=
  a.kinds.take tks.length == tks && a.bounds.all (wfBound [a.kinds, []]) && a.wcs.all (wfQWC [a.kinds, []])

/-- `Self` is the trait's first binder -/
def wfTrait (d : TraitDatum) : Bool :=
  d.kinds.head? == some .ty && d.wcs.all (wfQWC [d.kinds]) && d.assocs.all (wfAssocTy d.kinds)

def wfValue (iks : List VK) (v : AssocTyValue) : Bool :=
  v.kinds.take iks.length == iks && wfTy [v.kinds, []] v.value

def wfImpl (d : ImplDatum) : Bool :=
  wfArgs [d.kinds] d.args && wfTy [d.kinds] d.selfTy && d.wcs.all (wfQWC [d.kinds]) && d.values.all (wfValue d.kinds)

def wfItem : Item → Bool
  | .adt d => wfAdt d
  | .trait d => wfTrait d
  | .impl d => wfImpl d

def wfProgram (p : Program) : Bool := p.all wfItem

def WfItem (it : Item) : Prop := wfItem it = true
instance (it : Item) : Decidable (WfItem it) := by unfold WfItem; infer_instance

def WfProgram (p : Program) : Prop := wfProgram p = true
instance (p : Program) : Decidable (WfProgram p) := by unfold WfProgram; infer_instance

def optAttr (b : Bool) (x : String × Option String) : List (String × Option String) := if b then [x] else []

theorem render_optAttr_none (b : Bool) (w : String) :
    ((optAttr b (w, none)).map renderAttr).flatten = flag b w := by
  cases b <;> rfl

theorem render_optAttr_some (b : Bool) (w a : String) :
    ((optAttr b (w, some a)).map renderAttr).flatten = if b then attr1 w a else [] := by
  cases b <;> rfl

theorem hasAttr_append (as bs : List (String × Option String)) (w : String) :
    hasAttr (as ++ bs) w = (hasAttr as w || hasAttr bs w) := List.any_append

theorem hasAttr1_append (as bs : List (String × Option String)) (w a : String) :
    hasAttr1 (as ++ bs) w a = (hasAttr1 as w a || hasAttr1 bs w a) := List.any_append

theorem hasAttr_optAttr (b : Bool) (x : String × Option String) (w : String) :
    hasAttr (optAttr b x) w = (b && (x.1 == w && x.2.isNone)) := by
  cases b <;> simp [optAttr, hasAttr]

theorem hasAttr1_optAttr (b : Bool) (x : String × Option String) (w a : String) :
    hasAttr1 (optAttr b x) w a = (b && (x.1 == w && x.2 == some a)) := by
  cases b <;> simp [optAttr, hasAttr1]

theorem find_optAttr (b : Bool) (x : String × Option String) (f : String × Option String → Bool) :
    (optAttr b x).find? f = if (b && f x) = true then some x else none := by
  cases b <;> simp [optAttr]

theorem scalarOfName_C : scalarOfName "C" = none := by decide +kernel
theorem scalarOfName_packed : scalarOfName "packed" = none := by decide +kernel

theorem scalar_name_ne {w : String} (h : scalarOfName w = none) (sc : Scalar) : sc.name ≠ w := by
  intro e
  rw [← e, scalarOfName_name] at h
  cases h

def adtAttrs (d : AdtDatum) : List (String × Option String) :=
  optAttr d.upstream ("upstream", none) ++ optAttr d.fundamental ("fundamental", none)
    ++ optAttr d.phantomData ("phantom_data", none) ++ optAttr d.oneZst ("one_zst", none)
    ++ optAttr d.reprC ("repr", some "C") ++ optAttr d.reprPacked ("repr", some "packed")
    ++ (match d.reprInt with | some sc => [("repr", some sc.name)] | none => [])

theorem adtAttrs_print (d : AdtDatum) :
    ((adtAttrs d).map renderAttr).flatten =
      flag d.upstream "upstream" ++ flag d.fundamental "fundamental" ++ flag d.phantomData "phantom_data"
        ++ flag d.oneZst "one_zst"
        ++ (if d.reprC then attr1 "repr" "C" else []) ++ (if d.reprPacked then attr1 "repr" "packed" else [])
        ++ (match d.reprInt with | some sc => attr1 "repr" sc.name | none => []) := by
  simp only [adtAttrs, List.map_append, List.flatten_append, render_optAttr_none, render_optAttr_some]
  cases d.reprInt <;> rfl

theorem hasAttr_reprInt (o : Option Scalar) (w : String) :
    hasAttr (match o with | some sc => [("repr", some sc.name)] | none => []) w = false := by
  cases o <;> simp [hasAttr]

theorem hasAttr1_reprInt (o : Option Scalar) {a : String} (h : scalarOfName a = none) :
    hasAttr1 (match o with | some sc => [("repr", some sc.name)] | none => []) "repr" a = false := by
  cases o with
  | none => rfl
  | some sc => simp [hasAttr1, scalar_name_ne h sc]

theorem adtAttrs_decode (d : AdtDatum) :
    hasAttr (adtAttrs d) "upstream" = d.upstream ∧ hasAttr (adtAttrs d) "fundamental" = d.fundamental ∧
    hasAttr (adtAttrs d) "phantom_data" = d.phantomData ∧ hasAttr (adtAttrs d) "one_zst" = d.oneZst ∧
    hasAttr1 (adtAttrs d) "repr" "C" = d.reprC ∧ hasAttr1 (adtAttrs d) "repr" "packed" = d.reprPacked ∧
    reprIntOf (adtAttrs d) = d.reprInt := by
  simp only [adtAttrs, hasAttr_append, hasAttr_optAttr, hasAttr_reprInt, hasAttr1_append, hasAttr1_optAttr,
    hasAttr1_reprInt _ scalarOfName_C, hasAttr1_reprInt _ scalarOfName_packed, Option.isNone_none, Option.isNone_some,
    String.reduceBEq, Bool.and_true, Bool.and_false, Bool.or_false, Bool.false_or, 
    Option.some_beq_some, Option.none_beq_some, true_and]
  simp only [reprIntOf, List.find?_append, find_optAttr, scalarOfName_C, scalarOfName_packed, Option.isSome_none,
    Bool.and_false, Bool.false_eq_true, if_false, Option.none_or]
  cases d.reprInt <;> simp [scalarOfName_name]

theorem parseAdt_step {fuel : Nat} {as : List (String × Option String)} {isEnum : Bool} {n : String}
    {toks rest1 rest2 rest3 : List Tok} {ks : List VK} {wcs : List QWC} {vs : List (List Ty)}
    (h1 : parseAngleBinders fuel toks = some (ks, rest1))
    (h2 : parseWhere fuel (PSt.init.deeper ks none) rest1 = some (wcs, .kw "{" :: rest2))
    (h3 : if isEnum then parseVariants fuel (PSt.init.deeper ks none) rest2 = some (vs, .kw "}" :: rest3)
      else ∃ fs, vs = [fs] ∧ parseFields fuel (PSt.init.deeper ks none) rest2 = some (fs, .kw "}" :: rest3)) :
    parseAdt fuel as isEnum (.name n :: toks) =
      some (.adt ⟨n, hasAttr as "upstream", hasAttr as "fundamental", hasAttr as "phantom_data", hasAttr as "one_zst",
        hasAttr1 as "repr" "C", hasAttr1 as "repr" "packed", reprIntOf as, isEnum, ks, wcs, vs⟩, rest3) := by
  cases isEnum with
  | true =>
      simp only [if_true] at h3
      simp only [parseAdt, h1, h2, h3, if_true]
  | false =>
      simp only [Bool.false_eq_true, if_false] at h3
      obtain ⟨fs, rfl, h3⟩ := h3
      simp only [parseAdt, h1, h2, h3, Bool.false_eq_true, if_false]

theorem parseItem_adt_kw {fuel : Nat} {toks rest rest' : List Tok} {as : List (String × Option String)} {isEnum : Bool}
    {it : Item} (h1 : parseAttrs fuel toks = some (as, .kw (if isEnum then "enum" else "struct") :: rest))
    (h2 : parseAdt fuel as isEnum rest = some (it, rest')) : parseItem fuel toks = some (it, rest') := by
  cases isEnum <;> simp only [Bool.false_eq_true, if_false, if_true] at h1 <;> simp only [parseItem, h1, h2]

theorem parseItem_trait {fuel : Nat} {toks rest rest' : List Tok} {as : List (String × Option String)} {it : Item}
    (h1 : parseAttrs fuel toks = some (as, .kw "trait" :: rest))
    (h2 : parseTrait fuel as rest = some (it, rest')) : parseItem fuel toks = some (it, rest') := by
  simp only [parseItem, h1, h2]

theorem parseItem_impl {fuel : Nat} {toks rest rest' : List Tok} {as : List (String × Option String)} {it : Item}
    (h1 : parseAttrs fuel toks = some (as, .kw "impl" :: rest))
    (h2 : parseImpl fuel as rest = some (it, rest')) : parseItem fuel toks = some (it, rest') := by
  simp only [parseItem, h1, h2]

theorem printAdt_eq (d : AdtDatum) : printAdt d = ((adtAttrs d).map renderAttr).flatten ++
    .kw (if d.isEnum then "enum" else "struct") :: .name d.name ::
      (angle ((St.init.deeper none).binderNamesFrom 0 d.kinds) ++ (printWhere (St.init.deeper none) d.wcs ++
        .kw "{" :: ((if d.isEnum then printVariantsFrom (St.init.deeper none) 0 d.vfields
          else printFields (St.init.deeper none) (d.vfields.headD [])) ++ [.kw "}"]))) := by
  rw [adtAttrs_print]
  simp only [printAdt, St.binderNames, List.append_assoc, List.cons_append]
  cases d.reprInt <;> rfl

theorem parseAdtBody_print {p : PSt} (hp : Faithful p) {isEnum : Bool} {vs : List (List Ty)}
    (hwf : vs.all (fun v => v.all (wfTy p.env)) = true) (hone : isEnum = true ∨ vs.length = 1) {fuel : Nat}
    {rest : List Tok}
    (hfuel : 8 * (if isEnum then printVariantsFrom p.st 0 vs else printFields p.st (vs.headD [])).length + 1 ≤ fuel) :
    if isEnum then parseVariants fuel p
        ((if isEnum then printVariantsFrom p.st 0 vs else printFields p.st (vs.headD [])) ++ .kw "}" :: rest)
        = some (vs, .kw "}" :: rest)
      else ∃ fs, vs = [fs] ∧ parseFields fuel p
        ((if isEnum then printVariantsFrom p.st 0 vs else printFields p.st (vs.headD [])) ++ .kw "}" :: rest)
        = some (fs, .kw "}" :: rest) := by
  cases isEnum with
  | true => exact parseVariants_print hp vs 0 fuel _ hwf hfuel (by simp)
  | false =>
      obtain ⟨fs, rfl⟩ : ∃ fs, vs = [fs] := by
        match vs, hone.resolve_left Bool.false_ne_true with
        | [fs], _ => exact ⟨fs, rfl⟩
      simp only [List.all_cons, List.all_nil, Bool.and_true] at hwf
      exact ⟨fs, rfl, parseFields_print hp fs 0 fuel _ hwf hfuel (by simp) (by simp) (by simp)⟩

theorem parseItem_adt_print (d : AdtDatum) (hwf : wfAdt d = true) (fuel : Nat)
    (hfuel : 8 * (printAdt d).length + 16 ≤ fuel) (rest : List Tok) :
    parseItem fuel (printAdt d ++ rest) = some (.adt d, rest) := by
  simp only [wfAdt, Bool.and_eq_true, Bool.or_eq_true, beq_iff_eq] at hwf
  obtain ⟨⟨hwcs, hfields⟩, hone⟩ := hwf
  have hp : Faithful (PSt.init.deeper d.kinds none) := faithful_item d.kinds
  obtain ⟨e1, e2, e3, e4, e5, e6, e7⟩ := adtAttrs_decode d
  rw [printAdt_eq] at hfuel ⊢
  simp only [List.length_append, List.length_cons, List.length_nil] at hfuel
  simp only [List.append_assoc, List.cons_append, List.nil_append]
  refine (parseItem_adt_kw (parseAttrs_print (adtAttrs d) fuel _ ?_ ?_) (parseAdt_step (n := d.name)
    (parseAngleBinders_print _ d.kinds 0 fuel _ fresh_item ?_ ?_) (parseWhere_print hp hwcs ?_ ?_ ?_ ?_)
    (parseAdtBody_print hp hfields hone ?_))).trans ?_
  · exact Nat.le_trans (by simp +arith only) hfuel
  · cases d.isEnum <;> simp
  · exact Nat.le_trans (by simp +arith only) hfuel
  · exact printWhere_follow _ _ _ _ _ (by decide) (by decide)
  · exact Nat.le_trans (by simp +arith only [PSt.deeper, PSt.init]) hfuel
  · simp
  · simp
  · simp
  · exact Nat.le_trans (by simp +arith only [PSt.deeper, PSt.init]) hfuel
  · rw [e1, e2, e3, e4, e5, e6, e7]

/-- zero or more entries, each starting with `type` and read by `one` -/
theorem parseMany_print {α : Type} {one : Nat → List Tok → Option (α × List Tok)}
    {many : Nat → List Tok → Option (List α × List Tok)} {pr : α → List Tok}
    (hnil : ∀ f rest, (∀ r, rest ≠ .kw "type" :: r) → many (f + 1) rest = some ([], rest))
    (hcons : ∀ f tl rest rest' a as, one f (.kw "type" :: tl) = some (a, rest) → many f rest = some (as, rest') →
      many (f + 1) (.kw "type" :: tl) = some (a :: as, rest'))
    (hhead : ∀ a, ∃ tl, pr a = .kw "type" :: tl) :
    ∀ (xs : List α) (fuel : Nat) (rest : List Tok),
      (∀ a ∈ xs, ∀ f rest, 8 * (pr a).length + 1 ≤ f → one f (pr a ++ rest) = some (a, rest)) →
      8 * ((xs.map pr).flatten).length + 2 ≤ fuel → (∀ r, rest ≠ .kw "type" :: r) →
      many fuel ((xs.map pr).flatten ++ rest) = some (xs, rest)
  | [], fuel, rest, _, hf, h => by
      obtain ⟨f, rfl⟩ := Nat.exists_eq_add_of_le' (Nat.le_trans (by simp +arith only : 1 ≤ _) hf)
      exact hnil f rest h
  | a :: as, fuel, rest, hone, hf, h => by
      obtain ⟨f, rfl⟩ := Nat.exists_eq_add_of_le' (Nat.le_trans (by simp +arith only : 1 ≤ _) hf)
      have hf : 8 * ((List.map pr (a :: as)).flatten).length + 1 ≤ f := Nat.le_of_succ_le_succ hf
      simp only [List.map_cons, List.flatten_cons, List.length_append] at hf
      have ha := hone a (by simp) f ((as.map pr).flatten ++ rest) (Nat.le_trans (by simp +arith only) hf)
      obtain ⟨tl, e⟩ := hhead a
      rw [e, List.length_cons] at hf
      have ih := parseMany_print hnil hcons hhead as f rest (fun x hx => hone x (by simp [hx]))
        (Nat.le_trans (by simp +arith only) hf) h
      simp only [List.map_cons, List.flatten_cons, List.append_assoc]
      rw [e] at ha ⊢
      exact hcons f _ _ _ a as ha ih

theorem parseAssocTy_nobounds {fuel : Nat} {p : PSt} {tks own : List VK} {n : String}
    {toks rest1 rest4 : List Tok} {wcs : List QWC}
    (h1 : parseAngleBinders fuel toks = some (own, rest1)) (h0 : ∀ r, rest1 ≠ .kw ":" :: r)
    (h3 : parseWhere fuel (p.mapped tks.length (tks ++ own)) rest1 = some (wcs, .kw ";" :: rest4)) :
    parseAssocTy fuel p tks (.kw "type" :: .name n :: toks) = some (⟨n, tks ++ own, [], wcs⟩, rest4) := by
  simp only [parseAssocTy, h1, h3]

theorem parseAssocTy_bounds {fuel : Nat} {p : PSt} {tks own : List VK} {n : String}
    {toks rest2 rest3 rest4 : List Tok} {bs : Bounds} {wcs : List QWC}
    (h1 : parseAngleBinders fuel toks = some (own, .kw ":" :: rest2))
    (h2 : parseBounds fuel (p.mapped tks.length (tks ++ own)) rest2 = some (bs, rest3))
    (h3 : parseWhere fuel (p.mapped tks.length (tks ++ own)) rest3 = some (wcs, .kw ";" :: rest4)) :
    parseAssocTy fuel p tks (.kw "type" :: .name n :: toks) = some (⟨n, tks ++ own, bs.toList, wcs⟩, rest4) := by
  simp only [parseAssocTy, h1, h2, h3]

theorem exists_eq_append_of_take {tks ks : List VK} (h : (ks.take tks.length == tks) = true) :
    ∃ own, ks = tks ++ own :=
  ⟨ks.drop tks.length, by conv => lhs; rw [← List.take_append_drop tks.length ks, eq_of_beq h]⟩

theorem parseAssocTy_print {p : PSt} (hp : Faithful p) (hre : p.st.remap = []) {tks : List VK} {tl : List (List VK)}
    (henv : p.env = tks :: tl) (a : AssocTyDatum)
    (hk : (a.kinds.take tks.length == tks) = true)
    (hwb : a.bounds.all (wfBound (p.mapped tks.length a.kinds).env) = true)
    (hww : a.wcs.all (wfQWC (p.mapped tks.length a.kinds).env) = true)
    (fuel : Nat) (hfuel : 8 * (printAssocTy p.st tks.length a).length + 1 ≤ fuel) (rest : List Tok) :
    parseAssocTy fuel p tks (printAssocTy p.st tks.length a ++ rest) = some (a, rest) := by
  rcases a with ⟨name, kinds, bounds, wcs⟩
  obtain ⟨own, rfl⟩ := exists_eq_append_of_take hk
  have hM : Faithful (p.mapped tks.length (tks ++ own)) := hp.mapped hre henv own
  have hfr : FreshFrom (p.mapped tks.length (tks ++ own)).st tks.length := fresh_mapped hp hre _ _ (by simp)
  have hsh : printAssocTy p.st tks.length ⟨name, tks ++ own, bounds, wcs⟩ =
      .kw "type" :: .name name :: (angle ((p.mapped tks.length (tks ++ own)).st.binderNamesFrom tks.length own) ++
        ((if bounds.isEmpty then [] else .kw ":" :: printBounds (p.mapped tks.length (tks ++ own)).st (Bounds.ofList bounds))
          ++ (printWhere (p.mapped tks.length (tks ++ own)).st wcs ++ [.kw ";"]))) := by
    rw [← printBounds_ofList, ← binderNames_drop]
    simp only [printAssocTy, PSt.mapped, List.append_assoc, List.cons_append]
  rw [hsh] at hfuel ⊢
  cases bounds with
  | nil =>
      simp only [List.isEmpty_nil, if_true, List.nil_append, List.length_append, List.length_cons,
        List.length_nil] at hfuel
      simp only [List.isEmpty_nil, if_true, List.nil_append, List.append_assoc, List.cons_append]
      refine parseAssocTy_nobounds (parseAngleBinders_print _ own tks.length fuel _ hfr ?_ ?_) ?_
        (parseWhere_print hM hww ?_ ?_ ?_ ?_)
      · exact Nat.le_trans (by simp +arith only) hfuel
      · exact printWhere_follow _ _ _ _ _ (by decide) (by decide)
      · exact printWhere_follow _ _ _ _ _ (by decide) (by decide)
      · exact Nat.le_trans (by simp +arith only) hfuel
      · simp
      · simp
      · simp
  | cons b bs =>
      simp only [List.isEmpty_cons, Bool.false_eq_true, if_false, List.length_append, List.length_cons,
        List.length_nil] at hfuel
      simp only [List.isEmpty_cons, Bool.false_eq_true, if_false, List.append_assoc, List.cons_append, List.nil_append]
      refine (parseAssocTy_bounds (parseAngleBinders_print _ own tks.length fuel _ hfr ?_ ?_)
        (parseBounds_print hM ?_ ?_ ?_ ?_ ?_) (parseWhere_print hM hww ?_ ?_ ?_ ?_)).trans ?_
      · exact Nat.le_trans (by simp +arith only) hfuel
      · simp
      · exact fun h => Bounds.noConfusion h
      · rw [wfBounds_ofList]; exact hwb
      · exact Nat.le_trans (by simp +arith only) hfuel
      · exact printWhere_follow _ _ _ _ _ (by decide) (by decide)
      · exact fun r e => absurd e (printWhere_follow _ _ _ _ _ (by decide) (by decide) r)
      · exact Nat.le_trans (by simp +arith only) hfuel
      · simp
      · simp
      · simp
      · rw [toList_ofList]

theorem parseAssocTys_print {p : PSt} (hp : Faithful p) (hre : p.st.remap = []) {tks : List VK} {tl : List (List VK)}
    (henv : p.env = tks :: tl) (as : List AssocTyDatum) (fuel : Nat) (rest : List Tok)
    (hwf : ∀ a ∈ as, (a.kinds.take tks.length == tks) = true ∧
      a.bounds.all (wfBound (p.mapped tks.length a.kinds).env) = true ∧
      a.wcs.all (wfQWC (p.mapped tks.length a.kinds).env) = true)
    (hfuel : 8 * ((as.map (printAssocTy p.st tks.length)).flatten).length + 2 ≤ fuel)
    (hrest : ∀ r, rest ≠ .kw "type" :: r) :
    parseAssocTys fuel p tks ((as.map (printAssocTy p.st tks.length)).flatten ++ rest) = some (as, rest) :=
  parseMany_print (one := fun f toks => parseAssocTy f p tks toks) (many := fun f toks => parseAssocTys f p tks toks)
    (fun f rest h => by rw [parseAssocTys]; exact h)
    (fun f tl rest rest' a as h1 h2 => by rw [parseAssocTys, h1]; simp only [h2])
    (fun a => ⟨_, rfl⟩) as fuel rest
    (fun a ha f rest hf => parseAssocTy_print hp hre henv a (hwf a ha).1 (hwf a ha).2.1 (hwf a ha).2.2 f hf rest)
    hfuel hrest

def traitAttrs (d : TraitDatum) : List (String × Option String) :=
  optAttr d.auto ("auto", none) ++ optAttr d.marker ("marker", none) ++ optAttr d.upstream ("upstream", none)
    ++ optAttr d.fundamental ("fundamental", none) ++ optAttr d.nonEnumerable ("non_enumerable", none)
    ++ optAttr d.coind ("coinductive", none) ++ optAttr d.objectSafe ("object_safe", none)
    ++ (match d.wellKnown with | some w => [("lang", some w)] | none => [])

theorem traitAttrs_print (d : TraitDatum) :
    ((traitAttrs d).map renderAttr).flatten =
      flag d.auto "auto" ++ flag d.marker "marker" ++ flag d.upstream "upstream" ++ flag d.fundamental "fundamental"
        ++ flag d.nonEnumerable "non_enumerable" ++ flag d.coind "coinductive" ++ flag d.objectSafe "object_safe"
        ++ (match d.wellKnown with | some w => attr1 "lang" w | none => []) := by
  simp only [traitAttrs, List.map_append, List.flatten_append, render_optAttr_none]
  cases d.wellKnown <;> rfl

theorem hasAttr_wellKnown (o : Option String) (w : String) :
    hasAttr (match o with | some a => [("lang", some a)] | none => []) w = false := by
  cases o <;> simp [hasAttr]

theorem traitAttrs_decode (d : TraitDatum) :
    hasAttr (traitAttrs d) "auto" = d.auto ∧ hasAttr (traitAttrs d) "marker" = d.marker ∧
    hasAttr (traitAttrs d) "upstream" = d.upstream ∧ hasAttr (traitAttrs d) "fundamental" = d.fundamental ∧
    hasAttr (traitAttrs d) "non_enumerable" = d.nonEnumerable ∧ hasAttr (traitAttrs d) "coinductive" = d.coind ∧
    hasAttr (traitAttrs d) "object_safe" = d.objectSafe ∧ attrArg (traitAttrs d) "lang" = d.wellKnown := by
  simp only [traitAttrs, hasAttr_append, hasAttr_optAttr, hasAttr_wellKnown, Option.isNone_none,
    String.reduceBEq, Bool.and_true, Bool.and_false, Bool.or_false, Bool.false_or, true_and]
  simp only [attrArg, List.find?_append, find_optAttr, Option.isSome_none, Bool.and_false, Bool.false_eq_true, if_false,
    Option.none_or]
  cases d.wellKnown <;> simp

theorem parseTrait_step {fuel : Nat} {as : List (String × Option String)} {n : String}
    {toks rest1 rest2 rest3 : List Tok} {own : List VK} {wcs : List QWC} {assocs : List AssocTyDatum}
    (h1 : parseAngleBinders fuel toks = some (own, rest1))
    (h2 : parseWhere fuel (PSt.init.deeper (.ty :: own) (some 0)) rest1 = some (wcs, .kw "{" :: rest2))
    (h3 : parseAssocTys fuel (PSt.init.deeper (.ty :: own) (some 0)) (.ty :: own) rest2 = some (assocs, .kw "}" :: rest3)) :
    parseTrait fuel as (.name n :: toks) =
      some (.trait ⟨n, hasAttr as "auto", hasAttr as "marker", hasAttr as "upstream", hasAttr as "fundamental",
        hasAttr as "non_enumerable", hasAttr as "coinductive", hasAttr as "object_safe", attrArg as "lang",
        .ty :: own, wcs, assocs⟩, rest3) := by
  simp only [parseTrait, h1, h2, h3]

theorem printTrait_eq (d : TraitDatum) {own : List VK} (hown : d.kinds = .ty :: own) :
    printTrait d = ((traitAttrs d).map renderAttr).flatten ++ .kw "trait" :: .name d.name ::
      (angle ((St.init.deeper (some 0)).binderNamesFrom 1 own) ++ (printWhere (St.init.deeper (some 0)) d.wcs ++
        .kw "{" :: ((d.assocs.map (printAssocTy (St.init.deeper (some 0)) (own.length + 1))).flatten ++ [.kw "}"]))) := by
  rw [traitAttrs_print]
  simp only [printTrait, hown, St.binderNames, binderNamesFrom_cons, List.drop_succ_cons, List.drop_zero,
    List.append_assoc, List.cons_append, List.length_cons]
  cases d.wellKnown <;> rfl

theorem parseItem_trait_print (d : TraitDatum) (hwf : wfTrait d = true) (fuel : Nat)
    (hfuel : 8 * (printTrait d).length + 16 ≤ fuel) (rest : List Tok) :
    parseItem fuel (printTrait d ++ rest) = some (.trait d, rest) := by
  simp only [wfTrait, Bool.and_eq_true, beq_iff_eq] at hwf
  obtain ⟨⟨hhead, hwcs⟩, hassocs⟩ := hwf
  obtain ⟨own, hown⟩ : ∃ own, d.kinds = .ty :: own := by
    match h : d.kinds, hhead with
    | .ty :: own, _ => exact ⟨own, rfl⟩
  rw [hown] at hwcs hassocs
  have hp : Faithful (PSt.init.deeper (.ty :: own) (some 0)) := faithful_trait own
  obtain ⟨e1, e2, e3, e4, e5, e6, e7, e8⟩ := traitAttrs_decode d
  rw [printTrait_eq d hown] at hfuel ⊢
  simp only [List.length_append, List.length_cons, List.length_nil] at hfuel
  simp only [List.append_assoc, List.cons_append, List.nil_append]
  refine (parseItem_trait (parseAttrs_print (traitAttrs d) fuel _ ?_ ?_) (parseTrait_step (n := d.name)
    (parseAngleBinders_print _ own 1 fuel _ fresh_trait ?_ ?_) (parseWhere_print hp hwcs ?_ ?_ ?_ ?_)
    (parseAssocTys_print hp rfl (tks := .ty :: own) (tl := []) rfl d.assocs fuel _ ?_ ?_ ?_))).trans ?_
  · exact Nat.le_trans (by simp +arith only) hfuel
  · simp
  · exact Nat.le_trans (by simp +arith only) hfuel
  · exact printWhere_follow _ _ _ _ _ (by decide) (by decide)
  · exact Nat.le_trans (by simp +arith only [PSt.deeper, PSt.init]) hfuel
  · simp
  · simp
  · simp
  · intro a ha
    have := List.all_eq_true.1 hassocs a ha
    simp only [wfAssocTy, Bool.and_eq_true] at this
    exact ⟨this.1.1, this.1.2, this.2⟩
  · exact Nat.le_trans (by simp +arith only [PSt.deeper, PSt.init, List.length_cons]) hfuel
  · simp
  · rw [e1, e2, e3, e4, e5, e6, e7, e8, ← hown]

theorem parseAssocValue_step {fuel : Nat} {p : PSt} {iks own : List VK} {n : String}
    {toks rest1 rest2 : List Tok} {t : Ty}
    (h1 : parseAngleBinders fuel toks = some (own, .kw "=" :: rest1))
    (h2 : parseTy fuel (p.mapped iks.length (iks ++ own)) rest1 = some (t, .kw ";" :: rest2)) :
    parseAssocValue fuel p iks (.kw "type" :: .name n :: toks) = some (⟨n, iks ++ own, t⟩, rest2) := by
  simp only [parseAssocValue, h1, h2]

theorem parseAssocValue_print {p : PSt} (hp : Faithful p) (hre : p.st.remap = []) {iks : List VK} {tl : List (List VK)}
    (henv : p.env = iks :: tl) (v : AssocTyValue)
    (hk : (v.kinds.take iks.length == iks) = true)
    (hwv : wfTy (p.mapped iks.length v.kinds).env v.value = true)
    (fuel : Nat) (hfuel : 8 * (printAssocValue p.st iks.length v).length + 1 ≤ fuel) (rest : List Tok) :
    parseAssocValue fuel p iks (printAssocValue p.st iks.length v ++ rest) = some (v, rest) := by
  rcases v with ⟨name, kinds, value⟩
  obtain ⟨own, rfl⟩ := exists_eq_append_of_take hk
  have hsh : printAssocValue p.st iks.length ⟨name, iks ++ own, value⟩ =
      .kw "type" :: .name name :: (angle ((p.mapped iks.length (iks ++ own)).st.binderNamesFrom iks.length own) ++
        .kw "=" :: (printTy (p.mapped iks.length (iks ++ own)).st value ++ [.kw ";"])) := by
    rw [← binderNames_drop]
    simp only [printAssocValue, PSt.mapped, List.append_assoc, List.cons_append]
  rw [hsh] at hfuel ⊢
  simp only [List.length_append, List.length_cons, List.length_nil] at hfuel
  simp only [List.append_assoc, List.cons_append, List.nil_append]
  refine parseAssocValue_step (parseAngleBinders_print _ own iks.length fuel _
    (fresh_mapped hp hre _ _ (by simp)) ?_ ?_) (parseTy_print_len (hp.mapped hre henv own) hwv ?_ ?_)
  · exact Nat.le_trans (by simp +arith only) hfuel
  · simp
  · exact Nat.le_trans (by simp +arith only) hfuel
  · simp

theorem parseAssocValues_print {p : PSt} (hp : Faithful p) (hre : p.st.remap = []) {iks : List VK} {tl : List (List VK)}
    (henv : p.env = iks :: tl) (vs : List AssocTyValue) (fuel : Nat) (rest : List Tok)
    (hwf : ∀ v ∈ vs, (v.kinds.take iks.length == iks) = true ∧
      wfTy (p.mapped iks.length v.kinds).env v.value = true)
    (hfuel : 8 * ((vs.map (printAssocValue p.st iks.length)).flatten).length + 2 ≤ fuel)
    (hrest : ∀ r, rest ≠ .kw "type" :: r) :
    parseAssocValues fuel p iks ((vs.map (printAssocValue p.st iks.length)).flatten ++ rest) = some (vs, rest) :=
  parseMany_print (one := fun f toks => parseAssocValue f p iks toks)
    (many := fun f toks => parseAssocValues f p iks toks)
    (fun f rest h => by rw [parseAssocValues]; exact h)
    (fun f tl rest rest' a as h1 h2 => by rw [parseAssocValues, h1]; simp only [h2])
    (fun a => ⟨_, rfl⟩) vs fuel rest
    (fun v hv f rest hf => parseAssocValue_print hp hre henv v (hwf v hv).1 (hwf v hv).2 f hf rest)
    hfuel hrest

theorem parseImpl_step {fuel : Nat} {as : List (String × Option String)} (neg : Bool) {tr : String}
    {toks rest1 rest2 rest3 rest4 rest5 : List Tok} {ks : List VK} {args : Args} {self : Ty}
    {wcs : List QWC} {vals : List AssocTyValue}
    (h1 : parseAngleBinders fuel toks = some (ks, (if neg then [.kw "!"] else []) ++ .name tr :: rest1))
    (h2 : parseAngleArgs fuel (PSt.init.deeper ks none) rest1 = some (args, .kw "for" :: rest2))
    (h3 : parseTy fuel (PSt.init.deeper ks none) rest2 = some (self, rest3))
    (h4 : parseWhere fuel (PSt.init.deeper ks none) rest3 = some (wcs, .kw "{" :: rest4))
    (h5 : parseAssocValues fuel (PSt.init.deeper ks none) ks rest4 = some (vals, .kw "}" :: rest5)) :
    parseImpl fuel as toks = some (.impl ⟨hasAttr as "upstream", ks, neg, tr, args, self, wcs, vals⟩, rest5) := by
  cases neg <;> simp only [Bool.false_eq_true, if_false, if_true, List.nil_append, List.cons_append] at h1 <;>
    simp only [parseImpl, h1, h2, h3, h4, h5]

theorem printImpl_eq (d : ImplDatum) :
    printImpl d = (((optAttr d.external ("upstream", none)).map renderAttr).flatten) ++
      .kw "impl" :: (angle ((St.init.deeper none).binderNamesFrom 0 d.kinds) ++
        ((if d.negative then [.kw "!"] else []) ++ .name d.tr :: (printAngleArgs (St.init.deeper none) d.args ++
          .kw "for" :: (printTy (St.init.deeper none) d.selfTy ++ (printWhere (St.init.deeper none) d.wcs ++
            .kw "{" :: ((d.values.map (printAssocValue (St.init.deeper none) d.kinds.length)).flatten ++ [.kw "}"])))))) := by
  rw [render_optAttr_none]
  simp only [printImpl, St.binderNames, List.append_assoc, List.cons_append]

theorem parseItem_impl_print (d : ImplDatum) (hwf : wfImpl d = true) (fuel : Nat)
    (hfuel : 8 * (printImpl d).length + 16 ≤ fuel) (rest : List Tok) :
    parseItem fuel (printImpl d ++ rest) = some (.impl d, rest) := by
  simp only [wfImpl, Bool.and_eq_true] at hwf
  obtain ⟨⟨⟨hargs, hself⟩, hwcs⟩, hvals⟩ := hwf
  have hp : Faithful (PSt.init.deeper d.kinds none) := faithful_item d.kinds
  rw [printImpl_eq] at hfuel ⊢
  simp only [List.length_append, List.length_cons, List.length_nil] at hfuel
  simp only [List.append_assoc, List.cons_append, List.nil_append]
  refine (parseItem_impl (parseAttrs_print (optAttr d.external ("upstream", none)) fuel _ ?_ ?_)
    (parseImpl_step d.negative (parseAngleBinders_print _ d.kinds 0 fuel _ fresh_item ?_ ?_)
      (parseAngleArgs_print hp hargs ?_ ?_) (parseTy_print_len hp hself ?_ ?_) (parseWhere_print hp hwcs ?_ ?_ ?_ ?_)
      (parseAssocValues_print hp rfl (iks := d.kinds) (tl := []) rfl d.values fuel _ ?_ ?_ ?_))).trans ?_
  · exact Nat.le_trans (by simp +arith only) hfuel
  · simp
  · exact Nat.le_trans (by simp +arith only) hfuel
  · cases d.negative <;> simp
  · exact Nat.le_trans (by simp +arith only [PSt.deeper, PSt.init]) hfuel
  · simp
  · exact Nat.le_trans (by simp +arith only [PSt.deeper, PSt.init]) hfuel
  · exact printWhere_follow _ _ _ _ _ (by decide) (by decide)
  · exact Nat.le_trans (by simp +arith only [PSt.deeper, PSt.init]) hfuel
  · simp
  · simp
  · simp
  · intro v hv
    have := List.all_eq_true.1 hvals v hv
    simp only [wfValue, Bool.and_eq_true] at this
    exact this
  · exact Nat.le_trans (by simp +arith only [PSt.deeper, PSt.init]) hfuel
  · simp
  · rw [hasAttr_optAttr]
    simp only [beq_self_eq_true, Option.isNone_none, Bool.and_true]

theorem parseItem_print (it : Item) (hwf : wfItem it = true) (fuel : Nat)
    (hfuel : 8 * (printItem it).length + 16 ≤ fuel) (rest : List Tok) :
    parseItem fuel (printItem it ++ rest) = some (it, rest) := by
  cases it with
  | adt d => exact parseItem_adt_print d hwf fuel hfuel rest
  | trait d => exact parseItem_trait_print d hwf fuel hfuel rest
  | impl d => exact parseItem_impl_print d hwf fuel hfuel rest

theorem printItem_length_pos (it : Item) : 1 ≤ (printItem it).length := by
  cases it <;> exact List.length_pos_iff.2 (List.append_ne_nil_of_right_ne_nil _ (List.cons_ne_nil _ _))

theorem parseItems_cons {n fuel : Nat} {toks rest : List Tok} {it : Item} {its : Program}
    (h0 : toks ≠ []) (h1 : parseItem fuel toks = some (it, rest)) (h2 : parseItems n fuel rest = some its) :
    parseItems (n + 1) fuel toks = some (it :: its) := by
  cases toks with
  | nil => exact absurd rfl h0
  | cons tok tl => simp only [parseItems, h1, h2]

theorem parseItems_print : ∀ (p : Program) (n fuel : Nat), wfProgram p = true → p.length + 1 ≤ n →
    (∀ it ∈ p, 8 * (printItem it).length + 16 ≤ fuel) → parseItems n fuel (print p) = some p
  | [], n, fuel, _, hn, _ => by
      obtain ⟨m, rfl⟩ := Nat.exists_eq_add_of_le' hn
      rfl
  | it :: its, n, fuel, hwf, hn, hfuel => by
      obtain ⟨m, rfl⟩ := Nat.exists_eq_add_of_le' (Nat.le_trans (Nat.le_add_left 1 _) hn)
      simp only [wfProgram, List.all_cons, Bool.and_eq_true] at hwf
      refine parseItems_cons ?_ (parseItem_print it hwf.1 fuel (hfuel it (by simp)) (print its))
        (parseItems_print its m fuel hwf.2 (Nat.le_of_succ_le_succ hn) (fun x hx => hfuel x (by simp [hx])))
      exact List.append_ne_nil_of_left_ne_nil (List.ne_nil_of_length_pos (printItem_length_pos it)) _

theorem print_length_ge (p : Program) : p.length ≤ (print p).length ∧ ∀ it ∈ p, (printItem it).length ≤ (print p).length := by
  induction p with
  | nil => exact ⟨Nat.le_refl _, fun _ h => nomatch h⟩
  | cons it its ih =>
      have h1 := printItem_length_pos it
      have e2 : (print (it :: its)).length = (printItem it).length + (print its).length := by
        simp only [print, List.map_cons, List.flatten_cons, List.length_append]
      constructor
      · rw [e2, List.length_cons]; omega
      · intro x hx
        rw [e2]
        rcases List.mem_cons.1 hx with rfl | hx
        · omega
        · have := ih.2 x hx; omega

/-- the parser inverts the writer on well-formed programs -/
theorem parseProgram_print (p : Program) (hwf : wfProgram p = true) : parseProgram (print p) = some p := by
  obtain ⟨h1, h2⟩ := print_length_ge p
  refine parseItems_print p _ _ hwf (Nat.succ_le_succ h1) (fun it hit => ?_)
  have := h2 it hit
  simp only [fuelFor]
  omega

end Chalk.Display.Parse
