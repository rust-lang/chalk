/-
  C22: one-step unfoldings of the type parser, one lemma per production: what a parser function
  returns on a leading token, given what its recursive calls return.  `rw [parseTy]` picks the
  equation of the production from the leading token.
-/
import ChalkModel.Lemmas.DisplayStates

namespace Chalk.Display.Parse
open Chalk.Display

variable (f : Nat) (p : PSt)

theorem parseTy_adt {n : String} {rest rest' : List Tok} {args : Args}
    (h : parseAngleArgs f p rest = some (args, rest')) :
    parseTy (f + 1) p (.name n :: rest) = some (.adt n args, rest') := by
  rw [parseTy, h]

theorem parseTy_scalar (sc : Scalar) (rest : List Tok) :
    parseTy (f + 1) p (.kw sc.name :: rest) = some (.scalar sc, rest) := by
  have h := scalar_name_not_kw sc
  simp only [List.mem_cons, List.not_mem_nil, or_false, not_or] at h
  rw [parseTy, scalarOfName_name]
  all_goals simp only [h, false_imp_iff, implies_true]

theorem parseTy_unit (rest : List Tok) :
    parseTy (f + 1) p (.kw "(" :: .kw ")" :: rest) = some (.tuple .nil, rest) := by
  rw [parseTy]

theorem parseTy_tuple1 {toks rest : List Tok} {t : Ty}
    (h0 : ∀ r, toks ≠ .kw ")" :: r)
    (ht : parseTy f p toks = some (t, .kw "," :: .kw ")" :: rest)) :
    parseTy (f + 1) p (.kw "(" :: toks) = some (.tuple (.cons t .nil), rest) := by
  rw [parseTy, ht]
  · simp only
  · exact h0

theorem parseTy_tuple2 {toks rest rest' : List Tok} {t : Ty} {ts : Tys}
    (h0 : ∀ r, toks ≠ .kw ")" :: r)
    (ht : parseTy f p toks = some (t, .kw "," :: rest))
    (h1 : ∀ r, rest ≠ .kw ")" :: r)
    (hts : parseTys f p rest = some (ts, .kw ")" :: rest')) :
    parseTy (f + 1) p (.kw "(" :: toks) = some (.tuple (.cons t ts), rest') := by
  rw [parseTy, ht]
  · simp only [hts]
  · exact h0

theorem parseTy_ref_mut {toks rest rest' : List Tok} {l : Lt} {t : Ty}
    (hl : parseLt p toks = some (l, .kw "mut" :: rest))
    (ht : parseTy f p rest = some (t, rest')) :
    parseTy (f + 1) p (.kw "&" :: toks) = some (.ref true l t, rest') := by
  rw [parseTy, hl]
  simp only [ht]

theorem parseTy_ref {toks rest rest' : List Tok} {l : Lt} {t : Ty}
    (hl : parseLt p toks = some (l, rest)) (hm : ∀ r, rest ≠ .kw "mut" :: r)
    (ht : parseTy f p rest = some (t, rest')) :
    parseTy (f + 1) p (.kw "&" :: toks) = some (.ref false l t, rest') := by
  rw [parseTy, hl]
  simp only [ht]

theorem parseTy_raw_mut {toks rest : List Tok} {t : Ty}
    (ht : parseTy f p toks = some (t, rest)) :
    parseTy (f + 1) p (.kw "*" :: .kw "mut" :: toks) = some (.raw true t, rest) := by
  rw [parseTy, ht]

theorem parseTy_raw_const {toks rest : List Tok} {t : Ty}
    (ht : parseTy f p toks = some (t, rest)) :
    parseTy (f + 1) p (.kw "*" :: .kw "const" :: toks) = some (.raw false t, rest) := by
  rw [parseTy, ht]

theorem parseTy_slice {toks rest : List Tok} {t : Ty}
    (ht : parseTy f p toks = some (t, .kw "]" :: rest)) :
    parseTy (f + 1) p (.kw "[" :: toks) = some (.slice t, rest) := by
  rw [parseTy, ht]
  simp only

theorem parseTy_array {toks rest rest' : List Tok} {t : Ty} {c : Ct}
    (ht : parseTy f p toks = some (t, .kw ";" :: rest))
    (hc : parseCt p rest = some (c, .kw "]" :: rest')) :
    parseTy (f + 1) p (.kw "[" :: toks) = some (.array t c, rest') := by
  rw [parseTy, ht]
  simp only [hc]

theorem parseTy_for {toks rest : List Tok} {ks : List VK}
    (hb : parseBinders f toks = some (ks, .kw ">" :: .kw "fn" :: .kw "(" :: rest)) :
    parseTy (f + 1) p (.kw "for" :: .kw "<" :: toks) = parseFnRest f p ks.length rest := by
  rw [parseTy, hb]
  simp only

theorem parseTy_fn (rest : List Tok) :
    parseTy (f + 1) p (.kw "fn" :: .kw "(" :: rest) = parseFnRest f p 0 rest := by
  rw [parseTy]

theorem parseTy_proj {toks r1 r2 r3 : List Tok} {self : Ty} {tr assoc : String} {targs aargs : Args}
    (hs : parseTy f p toks = some (self, .kw "as" :: .name tr :: r1))
    (ht : parseAngleArgs f p r1 = some (targs, .kw ">" :: .kw "::" :: .name assoc :: r2))
    (ha : parseAngleArgs f p r2 = some (aargs, r3)) :
    parseTy (f + 1) p (.kw "<" :: toks) = some (.proj tr assoc self targs aargs, r3) := by
  rw [parseTy, hs]
  simp only [ht, ha]

theorem parseTy_dyn {toks r1 r2 : List Tok} {bs : Bounds} {l : Lt}
    (hb : parseBounds f (p.deeper [.ty] none) toks = some (bs, .kw "+" :: r1))
    (hl : parseLt p r1 = some (l, r2)) :
    parseTy (f + 1) p (.kw "dyn" :: toks) = some (.dyn bs l, r2) := by
  rw [parseTy, hb]
  simp only [hl]

theorem parseTy_never (rest : List Tok) :
    parseTy (f + 1) p (.kw "!" :: rest) = some (.never, rest) := by
  rw [parseTy]

theorem parseTy_str (rest : List Tok) :
    parseTy (f + 1) p (.kw "str" :: rest) = some (.str, rest) := by
  rw [parseTy]

theorem parseTy_var (s : St) (v : Nat × Nat) {d i : Nat} (rest : List Tok)
    (h : p.varOf (s.varTok v) = some (d, i)) :
    parseTy (f + 1) p (s.varTok v :: rest) = some (.bound d i, rest) := by
  rw [parseTy, h]
  all_goals intros; first | exact varTok_ne_kw _ _ _ ‹_› | exact varTok_ne_name _ _ _ ‹_›

theorem parseFnRest_nil {nb : Nat} {rest rest' : List Tok} {ret : Ty}
    (hr : parseTy f (p.deeper (List.replicate nb .lt) none) rest = some (ret, rest')) :
    parseFnRest (f + 1) p nb (.kw ")" :: .kw "->" :: rest) = some (.fnPtr nb .nil ret, rest') := by
  rw [parseFnRest]
  simp only [hr]

theorem parseFnRest_cons {nb : Nat} {toks rest rest' : List Tok} {args : Tys} {ret : Ty}
    (h0 : ∀ r, toks ≠ .kw ")" :: .kw "->" :: r)
    (ha : parseTys f (p.deeper (List.replicate nb .lt) none) toks = some (args, .kw ")" :: .kw "->" :: rest))
    (hr : parseTy f (p.deeper (List.replicate nb .lt) none) rest = some (ret, rest')) :
    parseFnRest (f + 1) p nb toks = some (.fnPtr nb args ret, rest') := by
  rw [parseFnRest, ha]
  · simp only [hr]
  · exact h0

theorem parseTys_one {toks rest : List Tok} {t : Ty}
    (ht : parseTy f p toks = some (t, rest)) (h : ∀ r, rest ≠ .kw "," :: r) :
    parseTys (f + 1) p toks = some (.cons t .nil, rest) := by
  rw [parseTys, ht]
  simp only

theorem parseTys_more {toks rest rest' : List Tok} {t : Ty} {ts : Tys}
    (ht : parseTy f p toks = some (t, .kw "," :: rest))
    (hts : parseTys f p rest = some (ts, rest')) :
    parseTys (f + 1) p toks = some (.cons t ts, rest') := by
  rw [parseTys, ht]
  simp only [hts]

theorem parseArgs_one {toks rest : List Tok} {a : GArg}
    (ha : parseGArg f p toks = some (a, rest)) (h : ∀ r, rest ≠ .kw "," :: r) :
    parseArgs (f + 1) p toks = some (.cons a .nil, rest) := by
  rw [parseArgs, ha]
  simp only

theorem parseArgs_more {toks rest rest' : List Tok} {a : GArg} {as : Args}
    (ha : parseGArg f p toks = some (a, .kw "," :: rest))
    (has : parseArgs f p rest = some (as, rest')) :
    parseArgs (f + 1) p toks = some (.cons a as, rest') := by
  rw [parseArgs, ha]
  simp only [has]

theorem parseAngleArgs_nil {toks : List Tok} (h : ∀ r, toks ≠ .kw "<" :: r) :
    parseAngleArgs (f + 1) p toks = some (.nil, toks) := by
  rw [parseAngleArgs]
  exact h

theorem parseAngleArgs_cons {toks rest : List Tok} {args : Args}
    (h : parseArgs f p toks = some (args, .kw ">" :: rest)) :
    parseAngleArgs (f + 1) p (.kw "<" :: toks) = some (args, rest) := by
  rw [parseAngleArgs, h]
  simp only

theorem parseGArg_lt {toks rest : List Tok} {l : Lt}
    (h1 : isLtStart toks = true) (h2 : parseLt p toks = some (l, rest)) :
    parseGArg (f + 1) p toks = some (.lt l, rest) := by
  simp only [parseGArg, h1, h2, if_true]

theorem parseGArg_num (n : Nat) (rest : List Tok) :
    parseGArg (f + 1) p (.num n :: rest) = some (.ct (.val n), rest) := by
  rw [parseGArg]
  rfl

theorem parseGArg_var_ct (s : St) (v : Nat × Nat) {d i : Nat} (rest : List Tok)
    (h : p.varOf (s.varTok v) = some (d, i)) (hk : kindAt p.env d i = some .ct) :
    parseGArg (f + 1) p (s.varTok v :: rest) = some (.ct (.bound d i), rest) := by
  rw [parseGArg, isLtStart_varTok, h]
  · simp only [hk, Bool.false_eq_true, if_false]
  · exact fun n => varTok_ne_num _ _ n

theorem parseGArg_var_ty (s : St) (v : Nat × Nat) {d i : Nat} (rest : List Tok)
    (h : p.varOf (s.varTok v) = some (d, i)) (hk : kindAt p.env d i = some .ty) :
    parseGArg (f + 1) p (s.varTok v :: rest) = some (.ty (.bound d i), rest) := by
  rw [parseGArg, isLtStart_varTok, h]
  · simp only [hk, Bool.false_eq_true, if_false]
  · exact fun n => varTok_ne_num _ _ n

theorem parseGArg_ty {tok : Tok} {tl rest : List Tok} {t : Ty}
    (hh : tyHead tok = true) (h1 : isLtStart (tok :: tl) = false)
    (ht : parseTy f p (tok :: tl) = some (t, rest)) :
    parseGArg (f + 1) p (tok :: tl) = some (.ty t, rest) := by
  cases tok with
  | kw w => simp only [parseGArg, h1, PSt.varOf, ht, Bool.false_eq_true, if_false]
  | name n => simp only [parseGArg, h1, PSt.varOf, ht, Bool.false_eq_true, if_false]
  | _ => cases hh

theorem parseTraitTail_nil {toks : List Tok} (h : ∀ r, toks ≠ .kw "<" :: r) :
    parseTraitTail (f + 1) p toks = some (.plain .nil, toks) := by
  rw [parseTraitTail]
  exact h

theorem parseTraitTail_plain {toks rest : List Tok} {args : Args}
    (h : parseArgs f p toks = some (args, .kw ">" :: rest)) :
    parseTraitTail (f + 1) p (.kw "<" :: toks) = some (.plain args, rest) := by
  rw [parseTraitTail, h]
  simp only

theorem parseTraitTail_assoc {toks r1 r2 : List Tok} {args targs aargs : Args} {assoc : String} {v : Ty}
    (h : parseArgs f p toks = some (args, .kw "=" :: r1))
    (hu : unsnocArgs args = some (targs, .ty (.adt assoc aargs)))
    (hv : parseTy f p r1 = some (v, .kw ">" :: r2)) :
    parseTraitTail (f + 1) p (.kw "<" :: toks) = some (.assoc targs assoc aargs v, r2) := by
  rw [parseTraitTail, h]
  simp only [hu, hv]

theorem parseBound_trait {toks rest rest' : List Tok} {ks : List VK} {tr : String} {args : Args}
    (h1 : parseForall f toks = some (ks, .name tr :: rest))
    (h2 : parseTraitTail f (p.deeper ks none) rest = some (.plain args, rest')) :
    parseBound (f + 1) p toks = some (.trait ks tr args, rest') := by
  rw [parseBound, h1]
  simp only [h2]

theorem parseBound_aliasEq {toks rest rest' : List Tok} {ks : List VK} {tr assoc : String} {targs aargs : Args} {v : Ty}
    (h1 : parseForall f toks = some (ks, .name tr :: rest))
    (h2 : parseTraitTail f (p.deeper ks none) rest = some (.assoc targs assoc aargs v, rest')) :
    parseBound (f + 1) p toks = some (.aliasEq ks tr assoc targs aargs v, rest') := by
  rw [parseBound, h1]
  simp only [h2]

theorem parseBounds_last {toks rest : List Tok} {b : Bound}
    (hb : parseBound f p toks = some (b, rest))
    (h : ∀ r, rest = .kw "+" :: r → isLtStart r = true) :
    parseBounds (f + 1) p toks = some (.cons b .nil, rest) := by
  rw [parseBounds, hb]
  by_cases hr : ∃ r, rest = .kw "+" :: r
  · obtain ⟨r, rfl⟩ := hr
    simp only [h r rfl, if_true]
  · have hr' : ∀ r, rest ≠ .kw "+" :: r := fun r e => hr ⟨r, e⟩
    simp only

theorem parseBounds_more {toks rest rest' : List Tok} {b : Bound} {bs : Bounds}
    (hb : parseBound f p toks = some (b, .kw "+" :: rest))
    (h : isLtStart rest = false)
    (hbs : parseBounds f p rest = some (bs, rest')) :
    parseBounds (f + 1) p toks = some (.cons b bs, rest') := by
  rw [parseBounds, hb]
  simp only [h, hbs, Bool.false_eq_true, if_false]

end Chalk.Display.Parse
