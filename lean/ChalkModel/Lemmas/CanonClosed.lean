import ChalkModel.Lemmas.CanonLemmas
import ChalkModel.Lemmas.ShiftPure

/-! Closedness of canonical forms: the output of the canonicalizer contains no inference variable,
    and every bound variable that is free in it refers to the canonical binder with an index below
    the number of binders. -/
namespace Chalk

/-! `closedAt n o x` (one definition per sort): `x`, standing under `o` binders of its own, has no inference variable, and
    every bound variable in it is either local (`db < o`) or `^o.idx` with `idx < n`, i.e. refers to
    the single enclosing binder of `n` variables.  The types of variable and placeholder constants
    are not inspected: the canonicalizer copies them unchanged, and they are closed scalar types in
    every well-typed term. -/

def Lifetime.closedAt (n o : Nat) : Lifetime → Bool
  | .bound db idx => decide (db < o) || (decide (db = o) && decide (idx < n))
  | .infer _ => false
  | _ => true

mutual
  def Ty.closedAt (n o : Nat) : Ty → Bool
    | .app _ args => args.closedAt n o
    | .scalar _ => true
    | .str => true
    | .never => true
    | .foreign _ => true
    | .error => true
    | .array t c => t.closedAt n o && c.closedAt n o
    | .slice t => t.closedAt n o
    | .raw _ t => t.closedAt n o
    | .ref _ l t => l.closedAt n o && t.closedAt n o
    | .placeholder _ _ => true
    | .dyn _ bounds l => bounds.closedAt n (o + 1) && l.closedAt n o
    | .proj _ args => args.closedAt n o
    | .opaque _ args => args.closedAt n o
    | .function _ _ args => args.closedAt n (o + 1)
    | .bound db idx => decide (db < o) || (decide (db = o) && decide (idx < n))
    | .infer _ _ => false
  def Const.closedAt (n o : Nat) : Const → Bool
    | .mk _ (.bound db idx) => decide (db < o) || (decide (db = o) && decide (idx < n))
    | .mk _ (.infer _) => false
    | .mk _ (.placeholder _ _) => true
    | .mk ty (.concrete _) => ty.closedAt n o
  def GArg.closedAt (n o : Nat) : GArg → Bool
    | .ty t => t.closedAt n o
    | .lt l => l.closedAt n o
    | .ct c => c.closedAt n o
  def Args.closedAt (n o : Nat) : Args → Bool
    | .nil => true
    | .cons a as => a.closedAt n o && as.closedAt n o
  def WC.closedAt (n o : Nat) : WC → Bool
    | .implemented _ args => args.closedAt n o
    | .aliasEqProj _ args ty => args.closedAt n o && ty.closedAt n o
    | .aliasEqOpaque _ args ty => args.closedAt n o && ty.closedAt n o
    | .ltOutlives a b => a.closedAt n o && b.closedAt n o
    | .tyOutlives t l => t.closedAt n o && l.closedAt n o
  def QWC.closedAt (n o : Nat) : QWC → Bool
    | .mk _ wc => wc.closedAt n (o + 1)
  def QWCs.closedAt (n o : Nat) : QWCs → Bool
    | .nil => true
    | .cons q qs => q.closedAt n o && qs.closedAt n o
end

/-- the variable case, the same for the three sorts -/
theorem closedAt_var_shifted {n k c db idx : Nat}
    (h : (decide (db < c) || (decide (db = c) && decide (idx < n))) = true) (hc : c ≤ db) :
    (decide (db + k < c + k) || (decide (db + k = c + k) && decide (idx < n))) = true := by
  simp only [Bool.or_eq_true, Bool.and_eq_true, decide_eq_true_eq] at h ⊢; omega

theorem closedAt_var_kept {n k c db idx : Nat}
    (h : (decide (db < c) || (decide (db = c) && decide (idx < n))) = true) (hc : ¬ c ≤ db) :
    (decide (db < c + k) || (decide (db = c + k) && decide (idx < n))) = true := by
  simp only [Bool.or_eq_true, Bool.and_eq_true, decide_eq_true_eq] at h ⊢; omega

theorem Lifetime.closedAt_shift (n k c : Nat) (l : Lifetime) (h : l.closedAt n c = true) :
    (l.shift k c).closedAt n (c + k) = true := by
  cases l <;> try exact h
  case bound db idx =>
    rw [Lifetime.shift]; split
    · exact closedAt_var_shifted h ‹_›
    · exact closedAt_var_kept h ‹_›

mutual
  theorem Ty.closedAt_shift (n k c : Nat) : (t : Ty) → t.closedAt n c = true → (t.shift k c).closedAt n (c + k) = true
    | .app _ args, h => Args.closedAt_shift n k c args h
    | .scalar _, _ => rfl
    | .str, _ => rfl
    | .never, _ => rfl
    | .foreign _, _ => rfl
    | .error, _ => rfl
    | .array t cn, h =>
        have ⟨h1, h2⟩ := Bool.and_eq_true_iff.mp h
        Bool.and_eq_true_iff.mpr ⟨Ty.closedAt_shift n k c t h1, Const.closedAt_shift n k c cn h2⟩
    | .slice t, h => Ty.closedAt_shift n k c t h
    | .raw _ t, h => Ty.closedAt_shift n k c t h
    | .ref _ l t, h =>
        have ⟨h1, h2⟩ := Bool.and_eq_true_iff.mp h
        Bool.and_eq_true_iff.mpr ⟨Lifetime.closedAt_shift n k c l h1, Ty.closedAt_shift n k c t h2⟩
    | .placeholder _ _, _ => rfl
    | .dyn _ bounds l, h => by
        have ⟨h1, h2⟩ := Bool.and_eq_true_iff.mp h
        have := QWCs.closedAt_shift n k (c + 1) bounds h1
        rw [Nat.add_right_comm] at this
        exact Bool.and_eq_true_iff.mpr ⟨this, Lifetime.closedAt_shift n k c l h2⟩
    | .proj _ args, h => Args.closedAt_shift n k c args h
    | .opaque _ args, h => Args.closedAt_shift n k c args h
    | .function _ _ args, h => by
        have := Args.closedAt_shift n k (c + 1) args h
        rw [Nat.add_right_comm] at this
        exact this
    | .bound db idx, h => by
        rw [Ty.shift]; split
        · exact closedAt_var_shifted h ‹_›
        · exact closedAt_var_kept h ‹_›
    | .infer _ _, h => by cases h
  theorem Const.closedAt_shift (n k c : Nat) : (cn : Const) → cn.closedAt n c = true → (cn.shift k c).closedAt n (c + k) = true
    | .mk ty (.bound db idx), h => by
        rw [Const.shift]; split
        · exact closedAt_var_shifted h ‹_›
        · exact closedAt_var_kept h ‹_›
    | .mk ty (.infer _), h => by cases h
    | .mk ty (.placeholder _ _), _ => rfl
    | .mk ty (.concrete _), h => Ty.closedAt_shift n k c ty h
  theorem GArg.closedAt_shift (n k c : Nat) : (a : GArg) → a.closedAt n c = true → (a.shift k c).closedAt n (c + k) = true
    | .ty t, h => Ty.closedAt_shift n k c t h
    | .lt l, h => Lifetime.closedAt_shift n k c l h
    | .ct cn, h => Const.closedAt_shift n k c cn h
  theorem Args.closedAt_shift (n k c : Nat) : (a : Args) → a.closedAt n c = true → (a.shift k c).closedAt n (c + k) = true
    | .nil, _ => rfl
    | .cons a as, h =>
        have ⟨h1, h2⟩ := Bool.and_eq_true_iff.mp h
        Bool.and_eq_true_iff.mpr ⟨GArg.closedAt_shift n k c a h1, Args.closedAt_shift n k c as h2⟩
  theorem WC.closedAt_shift (n k c : Nat) : (w : WC) → w.closedAt n c = true → (w.shift k c).closedAt n (c + k) = true
    | .implemented _ args, h => Args.closedAt_shift n k c args h
    | .aliasEqProj _ args ty, h =>
        have ⟨h1, h2⟩ := Bool.and_eq_true_iff.mp h
        Bool.and_eq_true_iff.mpr ⟨Args.closedAt_shift n k c args h1, Ty.closedAt_shift n k c ty h2⟩
    | .aliasEqOpaque _ args ty, h =>
        have ⟨h1, h2⟩ := Bool.and_eq_true_iff.mp h
        Bool.and_eq_true_iff.mpr ⟨Args.closedAt_shift n k c args h1, Ty.closedAt_shift n k c ty h2⟩
    | .ltOutlives a b, h =>
        have ⟨h1, h2⟩ := Bool.and_eq_true_iff.mp h
        Bool.and_eq_true_iff.mpr ⟨Lifetime.closedAt_shift n k c a h1, Lifetime.closedAt_shift n k c b h2⟩
    | .tyOutlives t l, h =>
        have ⟨h1, h2⟩ := Bool.and_eq_true_iff.mp h
        Bool.and_eq_true_iff.mpr ⟨Ty.closedAt_shift n k c t h1, Lifetime.closedAt_shift n k c l h2⟩
  theorem QWC.closedAt_shift (n k c : Nat) : (q : QWC) → q.closedAt n c = true → (q.shift k c).closedAt n (c + k) = true
    | .mk _ wc, h => by
        have := WC.closedAt_shift n k (c + 1) wc h
        rw [Nat.add_right_comm] at this
        exact this
  theorem QWCs.closedAt_shift (n k c : Nat) : (q : QWCs) → q.closedAt n c = true → (q.shift k c).closedAt n (c + k) = true
    | .nil, _ => rfl
    | .cons q qs, h =>
        have ⟨h1, h2⟩ := Bool.and_eq_true_iff.mp h
        Bool.and_eq_true_iff.mpr ⟨QWC.closedAt_shift n k c q h1, QWCs.closedAt_shift n k c qs h2⟩
end

/-! ### a stateful fold whose leaves are closed produces closed terms -/

section Closed
variable {σ : Type}

/-- a successful step does not shrink the measure `len` below `base`, and its value satisfies `C m`
    for every `m` at or above the measure of the new state -/
def ClosedRes {α : Type} (len : σ → Nat) (C : Nat → α → Bool) (base : Nat) (r : Res (α × σ)) : Prop :=
  ∀ a s', r = .ok (a, s') → base ≤ len s' ∧ ∀ m, len s' ≤ m → C m a = true

theorem ClosedRes.pure {α : Type} {len : σ → Nat} {C : Nat → α → Bool} {base : Nat} {a : α} {s : σ}
    (h : base ≤ len s) (hc : ∀ m, len s ≤ m → C m a = true) : ClosedRes len C base (.ok (a, s)) := by
  intro a' s' he; cases he; exact ⟨h, hc⟩

theorem ClosedRes.bind {α β : Type} {len : σ → Nat} {C1 : Nat → α → Bool} {C2 : Nat → β → Bool} {base : Nat}
    {x : Res (α × σ)} {k : α → σ → Res (β × σ)} (hx : ClosedRes len C1 base x)
    (hk : ∀ a s1, base ≤ len s1 → (∀ m, len s1 ≤ m → C1 m a = true) → ClosedRes len C2 (len s1) (k a s1)) :
    ClosedRes len C2 base (bindS x k) := by
  intro r s' h
  obtain ⟨a, s1, h1, h2⟩ := bindS_eq_ok.mp h
  obtain ⟨hb, hc⟩ := hx a s1 h1
  obtain ⟨hb', hc'⟩ := hk a s1 hb hc r s' h2
  exact ⟨Nat.le_trans hb hb', hc'⟩

theorem ClosedRes.map {α β : Type} {len : σ → Nat} {C1 : Nat → α → Bool} {C2 : Nat → β → Bool} {base : Nat}
    {x : Res (α × σ)} {c : α → β} (hx : ClosedRes len C1 base x) (hc : ∀ m a, C2 m (c a) = C1 m a) :
    ClosedRes len C2 base (bindS x fun a s => .ok (c a, s)) :=
  ClosedRes.bind hx fun a _ _ ha => ClosedRes.pure (Nat.le_refl _) fun m hm => (hc m a).trans (ha m hm)

theorem ClosedRes.map₂ {α β γ : Type} {len : σ → Nat} {C1 : Nat → α → Bool} {C2 : Nat → β → Bool}
    {C3 : Nat → γ → Bool} {base : Nat} {x : Res (α × σ)} {y : σ → Res (β × σ)} {c : α → β → γ}
    (hx : ClosedRes len C1 base x) (hy : ∀ s1, ClosedRes len C2 (len s1) (y s1))
    (hc : ∀ m a b, C3 m (c a b) = (C1 m a && C2 m b)) :
    ClosedRes len C3 base (bindS x fun a s1 => bindS (y s1) fun b s2 => .ok (c a b, s2)) :=
  ClosedRes.bind hx fun a s1 _ ha => ClosedRes.bind (hy s1) fun b _ h2 hb =>
    ClosedRes.pure (Nat.le_refl _) fun m hm =>
      (hc m a b).trans (Bool.and_eq_true_iff.mpr ⟨ha m (Nat.le_trans h2 hm), hb m hm⟩)

structure ClosedHandlers (len : σ → Nat) (f : SFolder σ) : Prop where
  freeVarTy : ∀ db idx o s, ClosedRes len (fun m (a : Ty) => a.closedAt m o) (len s) (f.freeVarTy db idx o s)
  freeVarLt : ∀ db idx o s, ClosedRes len (fun m (a : Lifetime) => a.closedAt m o) (len s) (f.freeVarLt db idx o s)
  freeVarConst : ∀ ty db idx o s, ClosedRes len (fun m (a : Const) => a.closedAt m o) (len s) (f.freeVarConst ty db idx o s)
  inferTy : ∀ v k o s, ClosedRes len (fun m (a : Ty) => a.closedAt m o) (len s) (f.inferTy v k o s)
  inferLt : ∀ v o s, ClosedRes len (fun m (a : Lifetime) => a.closedAt m o) (len s) (f.inferLt v o s)
  inferConst : ∀ ty v o s, ClosedRes len (fun m (a : Const) => a.closedAt m o) (len s) (f.inferConst ty v o s)
  phTy : ∀ ui idx o s, ClosedRes len (fun m (a : Ty) => a.closedAt m o) (len s) (f.phTy ui idx o s)
  phLt : ∀ ui idx o s, ClosedRes len (fun m (a : Lifetime) => a.closedAt m o) (len s) (f.phLt ui idx o s)
  phConst : ∀ ty ui idx o s, ClosedRes len (fun m (a : Const) => a.closedAt m o) (len s) (f.phConst ty ui idx o s)
  noTyFold : f.NoTyFold

variable {len : σ → Nat} {f : SFolder σ}

theorem closedAt_var_local {db o idx m : Nat} (hd : ¬ o ≤ db) :
    (decide (db < o) || (decide (db = o) && decide (idx < m))) = true :=
  Bool.or_eq_true_iff.mpr (.inl (decide_eq_true (Nat.lt_of_not_le hd)))

theorem sfoldLifetime_closed (H : ClosedHandlers len f) (o : Nat) (l : Lifetime) (s : σ) :
    ClosedRes len (fun m (a : Lifetime) => a.closedAt m o) (len s) (sfoldLifetime f o l s) := by
  cases l with
  | bound db idx =>
    simp only [sfoldLifetime]
    split
    · exact H.freeVarLt _ _ _ _
    · exact ClosedRes.pure (Nat.le_refl _) fun m _ => closedAt_var_local ‹_›
  | infer v => exact H.inferLt _ _ _
  | placeholder ui idx => exact H.phLt _ _ _ _
  | static => exact ClosedRes.pure (Nat.le_refl _) fun m _ => rfl
  | erased => exact ClosedRes.pure (Nat.le_refl _) fun m _ => rfl
  | error => exact ClosedRes.pure (Nat.le_refl _) fun m _ => rfl

mutual
  theorem sfoldTy_closed (H : ClosedHandlers len f) (o : Nat) : (t : Ty) → (s : σ) →
      ClosedRes len (fun m (a : Ty) => a.closedAt m o) (len s) (sfoldTy f o t s)
    | .app n args => fun s => ClosedRes.map (sfoldArgs_closed H o args s) fun _ _ => rfl
    | .scalar _ => fun s => ClosedRes.pure (Nat.le_refl _) fun m _ => rfl
    | .str => fun s => ClosedRes.pure (Nat.le_refl _) fun m _ => rfl
    | .never => fun s => ClosedRes.pure (Nat.le_refl _) fun m _ => rfl
    | .foreign _ => fun s => ClosedRes.pure (Nat.le_refl _) fun m _ => rfl
    | .error => fun s => ClosedRes.pure (Nat.le_refl _) fun m _ => rfl
    | .array t c => fun s =>
        ClosedRes.map₂ (sfoldTy_closed H o t s) (sfoldConst_closed H o c) fun _ _ _ => rfl
    | .slice t => fun s => ClosedRes.map (sfoldTy_closed H o t s) fun _ _ => rfl
    | .raw _ t => fun s => ClosedRes.map (sfoldTy_closed H o t s) fun _ _ => rfl
    | .ref _ l t => fun s =>
        ClosedRes.map₂ (sfoldLifetime_closed H o l s) (sfoldTy_closed H o t) fun _ _ _ => rfl
    | .placeholder ui idx => fun s => H.phTy _ _ _ _
    | .dyn _ bounds l => fun s =>
        ClosedRes.map₂ (sfoldQWCs_closed H (o + 1) bounds s) (sfoldLifetime_closed H o l) fun _ _ _ => rfl
    | .proj _ args => fun s => ClosedRes.map (sfoldArgs_closed H o args s) fun _ _ => rfl
    | .opaque _ args => fun s => ClosedRes.map (sfoldArgs_closed H o args s) fun _ _ => rfl
    | .function _ _ args => fun s => ClosedRes.map (sfoldArgs_closed H (o + 1) args s) fun _ _ => rfl
    | .bound db idx => fun s => by
        simp only [sfoldTy]
        split
        · exact H.freeVarTy _ _ _ _
        · exact ClosedRes.pure (Nat.le_refl _) fun m _ => closedAt_var_local ‹_›
    | .infer v k => fun s => H.inferTy _ _ _ _
  theorem sfoldConst_closed (H : ClosedHandlers len f) (o : Nat) : (c : Const) → (s : σ) →
      ClosedRes len (fun m (a : Const) => a.closedAt m o) (len s) (sfoldConst f o c s)
    | .mk ty (.bound db idx) => fun s => by
        simp only [sfoldConst, H.noTyFold.freeVar]
        split
        · exact H.freeVarConst _ _ _ _ _
        · exact ClosedRes.pure (Nat.le_refl _) fun m _ => closedAt_var_local ‹_›
    | .mk ty (.infer v) => fun s => by
        simp only [sfoldConst, H.noTyFold.infer]
        exact H.inferConst _ _ _ _
    | .mk ty (.placeholder ui idx) => fun s => by
        simp only [sfoldConst, H.noTyFold.ph]
        exact H.phConst _ _ _ _ _
    | .mk ty (.concrete k) => fun s => ClosedRes.map (sfoldTy_closed H o ty s) fun _ _ => rfl
  theorem sfoldGArg_closed (H : ClosedHandlers len f) (o : Nat) : (g : GArg) → (s : σ) →
      ClosedRes len (fun m (a : GArg) => a.closedAt m o) (len s) (sfoldGArg f o g s)
    | .ty t => fun s => ClosedRes.map (sfoldTy_closed H o t s) fun _ _ => rfl
    | .lt l => fun s => ClosedRes.map (sfoldLifetime_closed H o l s) fun _ _ => rfl
    | .ct c => fun s => ClosedRes.map (sfoldConst_closed H o c s) fun _ _ => rfl
  theorem sfoldArgs_closed (H : ClosedHandlers len f) (o : Nat) : (as : Args) → (s : σ) →
      ClosedRes len (fun m (a : Args) => a.closedAt m o) (len s) (sfoldArgs f o as s)
    | .nil => fun s => ClosedRes.pure (Nat.le_refl _) fun m _ => rfl
    | .cons g as => fun s =>
        ClosedRes.map₂ (sfoldGArg_closed H o g s) (sfoldArgs_closed H o as) fun _ _ _ => rfl
  theorem sfoldWC_closed (H : ClosedHandlers len f) (o : Nat) : (w : WC) → (s : σ) →
      ClosedRes len (fun m (a : WC) => a.closedAt m o) (len s) (sfoldWC f o w s)
    | .implemented _ args => fun s => ClosedRes.map (sfoldArgs_closed H o args s) fun _ _ => rfl
    | .aliasEqProj _ args ty => fun s =>
        ClosedRes.map₂ (sfoldArgs_closed H o args s) (sfoldTy_closed H o ty) fun _ _ _ => rfl
    | .aliasEqOpaque _ args ty => fun s =>
        ClosedRes.map₂ (sfoldArgs_closed H o args s) (sfoldTy_closed H o ty) fun _ _ _ => rfl
    | .ltOutlives x y => fun s =>
        ClosedRes.map₂ (sfoldLifetime_closed H o x s) (sfoldLifetime_closed H o y) fun _ _ _ => rfl
    | .tyOutlives t l => fun s =>
        ClosedRes.map₂ (sfoldTy_closed H o t s) (sfoldLifetime_closed H o l) fun _ _ _ => rfl
  theorem sfoldQWC_closed (H : ClosedHandlers len f) (o : Nat) : (q : QWC) → (s : σ) →
      ClosedRes len (fun m (a : QWC) => a.closedAt m o) (len s) (sfoldQWC f o q s)
    | .mk _ wc => fun s => ClosedRes.map (sfoldWC_closed H (o + 1) wc s) fun _ _ => rfl
  theorem sfoldQWCs_closed (H : ClosedHandlers len f) (o : Nat) : (qs : QWCs) → (s : σ) →
      ClosedRes len (fun m (a : QWCs) => a.closedAt m o) (len s) (sfoldQWCs f o qs s)
    | .nil => fun s => ClosedRes.pure (Nat.le_refl _) fun m _ => rfl
    | .cons q qs => fun s =>
        ClosedRes.map₂ (sfoldQWC_closed H o q s) (sfoldQWCs_closed H o qs) fun _ _ _ => rfl
end

end Closed

def cLen (st : CState) : Nat := st.freeVars.length

theorem canonAdd_closed (t : Table) (st st' : CState) (k : VarKind) (r i : Nat)
    (h : canonAdd t st k r = .ok (i, st')) : cLen st ≤ cLen st' ∧ i < cLen st' := by
  obtain ⟨u, _, rfl, rfl⟩ := canonAdd_eq_ok h
  exact ⟨(prefix_addIfNew _ _).length_le, posOf_lt_length r _ _ (posOf_addIfNew _ k r)⟩

theorem closedAt_var {o i m n : Nat} (hi : i < n) (hm : n ≤ m) :
    (decide (o < o) || (decide (o = o) && decide (i < m))) = true := by
  simp only [Nat.lt_irrefl, decide_false, Bool.false_or, decide_true, Bool.true_and, decide_eq_true_eq]
  exact Nat.lt_of_lt_of_le hi hm

theorem canonStep_closed (t : Table) (inner : Option (SFolder CState))
    (hin : ∀ f, inner = some f → ClosedHandlers cLen f) : ClosedHandlers cLen (canonStep t inner) := by
  refine
    { freeVarTy := ?_, freeVarLt := ?_, freeVarConst := ?_, inferTy := ?_, inferLt := ?_, inferConst := ?_,
      phTy := ?_, phLt := ?_, phConst := ?_, noTyFold := ⟨rfl, rfl, rfl⟩ }
  · intro db idx o s a s' h; cases h
  · intro db idx o s a s' h; cases h
  · intro ty db idx o s a s' h; cases h
  · intro v k o s a s' h
    rcases canonStep_inferTy_ok h with ⟨_, i, st', hadd, he⟩ | ⟨ty, f, ty', st', _, rfl, hf, he⟩ <;> cases he
    · obtain ⟨h1, h2⟩ := canonAdd_closed t s _ _ _ i hadd
      exact ⟨h1, fun m hm => closedAt_var h2 hm⟩
    · obtain ⟨h1, h2⟩ := sfoldTy_closed (hin f rfl) 0 ty s ty' _ hf
      exact ⟨h1, fun m hm => by have := Ty.closedAt_shift m o 0 ty' (h2 m hm); rwa [Nat.zero_add] at this⟩
  · intro v o s a s' h
    rcases canonStep_inferLt_ok h with ⟨_, i, st', hadd, he⟩ | ⟨l, f, l', st', _, rfl, hf, he⟩ <;> cases he
    · obtain ⟨h1, h2⟩ := canonAdd_closed t s _ _ _ i hadd
      exact ⟨h1, fun m hm => closedAt_var h2 hm⟩
    · obtain ⟨h1, h2⟩ := sfoldLifetime_closed (hin f rfl) 0 l s l' _ hf
      exact ⟨h1, fun m hm => by have := Lifetime.closedAt_shift m o 0 l' (h2 m hm); rwa [Nat.zero_add] at this⟩
  · intro ty v o s a s' h
    rcases canonStep_inferConst_ok h with ⟨_, i, st', hadd, he⟩ | ⟨c, f, c', st', _, rfl, hf, he⟩ <;> cases he
    · obtain ⟨h1, h2⟩ := canonAdd_closed t s _ _ _ i hadd
      exact ⟨h1, fun m hm => closedAt_var h2 hm⟩
    · obtain ⟨h1, h2⟩ := sfoldConst_closed (hin f rfl) 0 c s c' _ hf
      exact ⟨h1, fun m hm => by have := Const.closedAt_shift m o 0 c' (h2 m hm); rwa [Nat.zero_add] at this⟩
  · intro ui idx o s a s' h; cases h; exact ⟨Nat.le_refl _, fun m _ => rfl⟩
  · intro ui idx o s a s' h; cases h; exact ⟨Nat.le_refl _, fun m _ => rfl⟩
  · intro ty ui idx o s a s' h; cases h; exact ⟨Nat.le_refl _, fun m _ => rfl⟩

theorem canonFolder_closed (t : Table) : (fuel : Nat) → ClosedHandlers cLen (canonFolder t fuel)
  | 0 => canonStep_closed t none (fun f h => by simp at h)
  | n + 1 => canonStep_closed t (some (canonFolder t n)) (fun f h => by
      simp at h; subst h; exact canonFolder_closed t n)

end Chalk
