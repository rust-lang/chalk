/-
  For the acyclicity half of C14: the kind discipline `Table.Kinded`, table extension `Table.Ext`,
  preservation of `Kinded` / `Ranked` by the table steps, what shallow normalization reaches in a
  well-kinded table, and the invariants of the C14 theorems under `new`, `newVariable`, `newUniverse`.
-/
import ChalkModel.Lemmas.UnifyCanon
import ChalkModel.Lemmas.UnifyStep

namespace Chalk

/- every occurrence `.infer v k` carries the kind `κ v` -/
mutual
  def Ty.kinded (κ : Nat → TyVarKind) : Ty → Bool
    | .app _ args => args.kinded κ
    | .slice t => t.kinded κ
    | .raw _ t => t.kinded κ
    | .infer v k => decide (k = κ v)
    | _ => true
  def GArg.kinded (κ : Nat → TyVarKind) : GArg → Bool
    | .ty t => t.kinded κ
    | _ => true
  def Args.kinded (κ : Nat → TyVarKind) : Args → Bool
    | .nil => true
    | .cons a as => a.kinded κ && as.kinded κ
end

/-- The table is well-kinded for the kind assignment `κ`: unallocated variables are general,
    stored types annotate every variable with its kind, classes are kind-uniform, and a variable
    is bound to a variable type only in the form "general variable := integer/float variable"
    (what `relate_ty_ty` does: integer/float variables are bound to scalars only). -/
structure Table.Kinded (κ : Nat → TyVarKind) (t : Table) : Prop where
  fresh : ∀ v, t.numVars ≤ v → κ v = .general
  occ : ∀ v ty, v < t.numVars → t.probeVar v = some (.ty ty) → ty.kinded κ = true
  cls : ∀ v, v < t.numVars → κ (t.find v) = κ v
  varval : ∀ v w k, v < t.numVars → t.probeVar v = some (.ty (.infer w k)) →
    κ v = .general ∧ k ≠ .general

structure Table.Ext (t t' : Table) : Prop where
  numVars : t.numVars ≤ t'.numVars
  find : ∀ v, v < t.numVars → t'.find v = t.find v
  probe : ∀ v, v < t.numVars → t'.probeVar v = t.probeVar v
  fresh : ∀ v, t.numVars ≤ v → v < t'.numVars → t'.probeVar v = none ∧ t.numVars ≤ t'.find v

theorem Table.Ext.refl (t : Table) : t.Ext t :=
  ⟨Nat.le_refl _, fun _ _ => rfl, fun _ _ => rfl, fun _ h1 h2 => absurd h2 (Nat.not_lt.mpr h1)⟩

theorem Table.Ext.trans {t1 t2 t3 : Table} (h12 : t1.Ext t2) (h23 : t2.Ext t3) : t1.Ext t3 := by
  refine ⟨Nat.le_trans h12.numVars h23.numVars, ?_, ?_, ?_⟩
  · intro v hv
    rw [h23.find v (Nat.lt_of_lt_of_le hv h12.numVars), h12.find v hv]
  · intro v hv
    rw [h23.probe v (Nat.lt_of_lt_of_le hv h12.numVars), h12.probe v hv]
  · intro v h1 h3
    by_cases h2 : v < t2.numVars
    · rw [h23.probe v h2, h23.find v h2]; exact h12.fresh v h1 h2
    · have := h23.fresh v (Nat.le_of_not_lt h2) h3
      exact ⟨this.1, Nat.le_trans h12.numVars this.2⟩

theorem Table.newVariable_Ext (t : Table) (ui : Nat) (hwf : t.WF) : t.Ext (t.newVariable ui).1 := by
  refine ⟨by rw [t.newVariable_numVars]; omega, t.newVariable_find_old ui hwf,
    t.newVariable_probeVar_old ui hwf, ?_⟩
  intro v h1 h2
  rw [t.newVariable_numVars] at h2
  have : v = t.numVars := by omega
  subst this
  rw [t.newVariable_probeVar_new ui hwf, t.newVariable_find_new]
  exact ⟨rfl, Nat.le_refl _⟩

theorem Table.newUniverse_Ext (t : Table) : t.Ext t.newUniverse.1 :=
  ⟨Nat.le_refl _, fun v _ => Table.find_congr t.newUniverse.1 t rfl v, fun v _ => t.newUniverse_probeVar v,
   fun _ h1 h2 => absurd h2 (Nat.not_lt.mpr h1)⟩

/-- a bound variable of an extension is an old variable with the same binding -/
theorem Table.Ext.probe_some {t t' : Table} (h : t.Ext t') {v : Nat} {g : GArg} (hv : v < t'.numVars)
    (hp : t'.probeVar v = some g) : v < t.numVars ∧ t.probeVar v = some g := by
  by_cases hlt : v < t.numVars
  · exact ⟨hlt, by rw [← h.probe v hlt]; exact hp⟩
  · rw [(h.fresh v (Nat.le_of_not_lt hlt) hv).1] at hp; cases hp

theorem Table.Ext.foValues {t t' : Table} (h : t.Ext t') (hfo : t.foValues) : t'.foValues := by
  intro v g hv hp
  obtain ⟨hlt, hp⟩ := h.probe_some hv hp
  obtain ⟨ty, he, hfo, hvb⟩ := hfo v g hlt hp
  exact ⟨ty, he, hfo, Ty.varsBelow_mono _ _ h.numVars ty hvb⟩

theorem Table.Ext.arityValues {ar : TyName → Nat} {t t' : Table} (h : t.Ext t')
    (ha : t.arityValues ar) : t'.arityValues ar := by
  intro v ty hv hp
  obtain ⟨hlt, hp⟩ := h.probe_some hv hp
  exact ha v ty hlt hp

theorem Table.unifyVarValue_unbound_Ext (t : Table) (a u : Nat) (t' : Table) (hwf : t.WF)
    (h : t.unifyVarValue a (.unbound u) = .ok t') : t.Ext t' := by
  obtain ⟨z, hz, rfl⟩ := t.unifyVarValue_cases a _ t' h
  refine ⟨Nat.le_refl _, fun v _ => t.setValue_find _ _ v, ?_, fun v h1 h2 => absurd h2 (Nat.not_lt.mpr h1)⟩
  intro v hv
  rw [t.setValue_probeVar hwf _ _ v hv]
  split
  · rename_i hf
    rw [Table.probeVar_eq t v, hf]
    generalize t.value.getD (t.find a) (.unbound 0) = x at hz
    cases x <;> simp [unifyValues] at hz <;> subst hz <;> rfl
  · rfl

theorem Table.Ext.kinded {κ : Nat → TyVarKind} {t t' : Table} (h : t.Ext t')
    (hk : t.Kinded κ) : t'.Kinded κ := by
  refine ⟨fun v hv => hk.fresh v (Nat.le_trans h.numVars hv), ?_, ?_, ?_⟩
  · intro v ty hv hp
    obtain ⟨hlt, hp⟩ := h.probe_some hv hp
    exact hk.occ v ty hlt hp
  · intro v hv
    by_cases hlt : v < t.numVars
    · rw [h.find v hlt]; exact hk.cls v hlt
    · rw [hk.fresh _ (h.fresh v (Nat.le_of_not_lt hlt) hv).2, hk.fresh v (Nat.le_of_not_lt hlt)]
  · intro v w k hv hp
    obtain ⟨hlt, hp⟩ := h.probe_some hv hp
    exact hk.varval v w k hlt hp

theorem Table.Ext.ranked {ar : TyName → Nat} {t t' : Table} (h : t.Ext t') (hg : t.goodValues ar)
    (hr : t.Ranked) : t'.Ranked := by
  obtain ⟨N, ρ, hN, hr⟩ := hr
  refine ⟨N, ρ, hN, ?_⟩
  intro v ty hv hp w hw
  obtain ⟨hlt, hp⟩ := h.probe_some hv hp
  obtain ⟨T, he, hT⟩ := hg v _ hlt hp
  cases he
  rw [h.find v hlt, h.find w (Ty.tyVars_lt_of_good hT w hw)]
  exact hr v ty hlt hp w hw

/-- `hstep`: an edge of `t'` (bound variable to a variable of its value) points into an unbound class
    or is an edge of `t` whose two roots have not moved; rank unbound classes 0, the others old rank + 1. -/
theorem Table.Ranked_step {ar : TyName → Nat} (t t' : Table) (hg' : t'.Good ar) (hr : t.Ranked)
    (hstep : ∀ v ty w, v < t'.numVars → t'.probeVar v = some (.ty ty) → w ∈ ty.tyVars →
      t'.probeVar w = none ∨
      (v < t.numVars ∧ t.probeVar v = some (.ty ty) ∧ t'.find w = t.find w ∧ t'.find v = t.find v)) :
    t'.Ranked := by
  obtain ⟨N, ρ, hN, hr⟩ := hr
  refine ⟨N + 1, fun x => if t'.probeVar x = none then 0 else ρ x + 1, ?_, ?_⟩
  · intro v
    show (if t'.probeVar v = none then 0 else ρ v + 1) < N + 1
    have := hN v
    split <;> omega
  · intro v ty hv hp w hw
    obtain ⟨T, he, hT⟩ := hg'.vals v _ hv hp
    cases he
    have hw' : w < t'.numVars := Ty.tyVars_lt_of_good hT w hw
    have hpv : t'.probeVar (t'.find v) ≠ none := by
      rw [t'.probeVar_find hg'.wf v hv, hp]; exact fun h => by cases h
    show (if t'.probeVar (t'.find w) = none then 0 else ρ (t'.find w) + 1) <
      (if t'.probeVar (t'.find v) = none then 0 else ρ (t'.find v) + 1)
    rw [if_neg hpv]
    rcases hstep v ty w hv hp hw with hnone | ⟨hv0, hp0, hfw, hfv⟩
    · rw [if_pos (by rw [t'.probeVar_find hg'.wf w hw']; exact hnone)]; omega
    · have := hr v ty hv0 hp0 w hw
      rw [hfw, hfv]
      split <;> omega

theorem Table.unifyVarVar_unbound_Kinded_Ranked {ar : TyName → Nat} {κ : Nat → TyVarKind} (t : Table) (a b : Nat)
    (t' : Table) (hg : t.Good ar) (hk : t.Kinded κ) (hr : t.Ranked) (ha : a < t.numVars)
    (hb : b < t.numVars) (hpa : t.probeVar a = none) (hpb : t.probeVar b = none) (hκ : κ a = κ b)
    (h : t.unifyVarVar a b = .ok t') : t'.Kinded κ ∧ t'.Ranked := by
  obtain ⟨_, hn, _, hprobe, hfind⟩ := t.unifyVarVar_unbound a b t' hg.wf ha hb hpa hpb h
  have hle := (t.unifyVarVar_Le a b t' hg ha hb h).1
  have hbound : ∀ x, x < t.numVars → t.probeVar x ≠ none → t'.find x = t.find x := by
    intro x hx hne
    rcases hfind x hx with h | ⟨_, h | h⟩
    · exact h
    · exfalso; apply hne
      rw [← t.probeVar_find hg.wf x hx, h, t.probeVar_find hg.wf a ha]; exact hpa
    · exfalso; apply hne
      rw [← t.probeVar_find hg.wf x hx, h, t.probeVar_find hg.wf b hb]; exact hpb
  refine ⟨⟨?_, ?_, ?_, ?_⟩, ?_⟩
  · intro v hv; exact hk.fresh v (by omega)
  · intro v ty hv hp
    rw [hn] at hv; rw [hprobe v hv] at hp; exact hk.occ v ty hv hp
  · intro v hv
    rw [hn] at hv
    rcases hfind v hv with h | ⟨h1, h2⟩
    · rw [h]; exact hk.cls v hv
    · have e1 : κ (t'.find v) = κ a := by
        rcases h1 with h1 | h1 <;> rw [h1]
        · exact hk.cls a ha
        · rw [hk.cls b hb]; exact hκ.symm
      have e2 : κ (t.find v) = κ a := by
        rcases h2 with h2 | h2 <;> rw [h2]
        · exact hk.cls a ha
        · rw [hk.cls b hb]; exact hκ.symm
      rw [e1, ← e2]; exact hk.cls v hv
  · intro v w k hv hp
    rw [hn] at hv; rw [hprobe v hv] at hp; exact hk.varval v w k hv hp
  · apply Table.Ranked_step t t' hle.good hr
    intro v ty w hv hp hw
    rw [hn] at hv
    have hp0 : t.probeVar v = some (.ty ty) := by rw [← hprobe v hv]; exact hp
    obtain ⟨T, he, hT⟩ := hg.vals v _ hv hp0
    cases he
    have hw' : w < t.numVars := Ty.tyVars_lt_of_good hT w hw
    by_cases hwn : t.probeVar w = none
    · left; rw [hprobe w hw']; exact hwn
    · right
      exact ⟨hv, hp0, hbound w hw' hwn, hbound v hv (by rw [hp0]; exact fun h => by cases h)⟩

theorem Table.bind_spec (t : Table) (a : Nat) (T : Ty) (t' : Table) (hwf : t.WF)
    (h : t.unifyVarValue a (.bound (.ty T)) = .ok t') :
    t.probeVar a = none ∧ t'.numVars = t.numVars ∧ (∀ x, t'.find x = t.find x) ∧
    ∀ x, x < t.numVars → t'.probeVar x = if t.find x = t.find a then some (.ty T) else t.probeVar x := by
  obtain ⟨hpa, rfl⟩ := (t.unifyVarValue_bound a _ t').mp h
  exact ⟨hpa, rfl, fun x => t.setValue_find _ _ x, fun x hxn => t.setValue_probeVar hwf _ _ x hxn⟩

theorem Table.bind_Kinded_Ranked {ar : TyName → Nat} {κ : Nat → TyVarKind} (t : Table) (a : Nat) (T : Ty) (t' : Table)
    (hg : t.Good ar) (hk : t.Kinded κ) (hr : t.Ranked) (ha : a < t.numVars)
    (hT : T.good ar t.numVars = true) (hTk : T.kinded κ = true)
    (hTv : ∀ w k, T = .infer w k → κ a = .general ∧ k ≠ .general)
    (hTu : ∀ w, w ∈ T.tyVars → t.probeVar w = none ∧ t.find w ≠ t.find a)
    (h : t.unifyVarValue a (.bound (.ty T)) = .ok t') : t'.Kinded κ ∧ t'.Ranked := by
  obtain ⟨hpa, hn, hfind, hprobe⟩ := t.bind_spec a T t' hg.wf h
  have hle := (t.unifyVarValue_bound_Le a T t' hg ha hT h).1
  refine ⟨⟨?_, ?_, ?_, ?_⟩, ?_⟩
  · intro v hv; exact hk.fresh v (by omega)
  · intro v ty hv hp
    rw [hn] at hv; rw [hprobe v hv] at hp
    split at hp
    · cases hp; exact hTk
    · exact hk.occ v ty hv hp
  · intro v hv
    rw [hn] at hv; rw [hfind v]; exact hk.cls v hv
  · intro v w k hv hp
    rw [hn] at hv; rw [hprobe v hv] at hp
    split at hp
    · rename_i hf
      cases hp
      have := hTv w k rfl
      refine ⟨?_, this.2⟩
      rw [← hk.cls v hv, hf, hk.cls a ha]; exact this.1
    · exact hk.varval v w k hv hp
  · apply Table.Ranked_step t t' hle.good hr
    intro v ty w hv hp hw
    rw [hn] at hv
    rw [hprobe v hv] at hp
    split at hp
    · cases hp
      left
      have := hTu w hw
      rw [hprobe w (Ty.tyVars_lt_of_good hT w hw), if_neg this.2]; exact this.1
    · right; exact ⟨hv, hp, hfind w, hfind v⟩

/-- binding a general variable `x` to the integer/float variable `y` of an unbound class: the two
    classes differ because their kinds do -/
theorem Table.bindVar_Kinded_Ranked {ar : TyName → Nat} {κ : Nat → TyVarKind} (t : Table) (x y : Nat)
    (k : TyVarKind) (t' : Table) (hg : t.Good ar) (hk : t.Kinded κ) (hr : t.Ranked) (hx : x < t.numVars)
    (hy : y < t.numVars) (hkx : κ x = .general) (hky : k = κ y) (hkn : k ≠ .general)
    (huy : t.probeVar y = none) (h : t.unifyVarValue x (.bound (.ty (.infer y k))) = .ok t') :
    t'.Kinded κ ∧ t'.Ranked := by
  refine t.bind_Kinded_Ranked x (.infer y k) t' hg hk hr hx (decide_eq_true hy) (decide_eq_true hky) ?_ ?_ h
  · intro w k' e; cases e; exact ⟨hkx, hkn⟩
  · intro w hw
    obtain rfl : w = y := List.mem_singleton.mp hw
    refine ⟨huy, fun e => hkn ?_⟩
    rw [hky, ← hk.cls w hy, e, hk.cls x hx]; exact hkx

theorem Table.normalizeInner_cases {ar : TyName → Nat} (t : Table) (hg : t.Good ar) (a : Ty)
    (ha : a.good ar t.numVars = true) :
    (t.normalizeTyShallowInner a = none ∧ ∀ v k, a = .infer v k → t.probeVar v = none) ∨
    ∃ v k T, a = .infer v k ∧ v < t.numVars ∧ t.probeVar v = some (.ty T) ∧ t.normalizeTyShallowInner a = some T := by
  by_cases hi : a.isInfer = false
  · exact .inl ⟨t.normalizeInner_noninfer a hi, fun v k e => by rw [e] at hi; cases hi⟩
  · cases a <;> first | exact absurd rfl hi | skip
    rename_i v k
    have hv : v < t.numVars := of_decide_eq_true ha
    cases hp : t.probeVar v with
    | none =>
      refine .inl ⟨?_, fun v' k' e => by cases e; exact hp⟩
      simp only [Table.normalizeTyShallowInner, hp]
    | some g =>
      obtain ⟨T, rfl, _⟩ := hg.vals v g hv hp
      exact .inr ⟨v, k, T, rfl, hv, hp, by simp only [Table.normalizeTyShallowInner, hp]⟩

theorem Table.normalize_kinded {ar : TyName → Nat} {κ : Nat → TyVarKind} (t : Table) (hg : t.Good ar)
    (hk : t.Kinded κ) (a0 : Ty) (ha : a0.good ar t.numVars = true) (hka : a0.kinded κ = true) :
    ((t.normalizeTyShallow a0).getD a0).kinded κ = true ∧
    ∀ v k, (t.normalizeTyShallow a0).getD a0 = .infer v k → t.probeVar v = none := by
  unfold Table.normalizeTyShallow
  rcases t.normalizeInner_cases hg a0 ha with ⟨e, hu⟩ | ⟨v, k, T, rfl, hv, hp, e⟩
  · rw [e]; exact ⟨hka, hu⟩
  rw [e]; dsimp only
  obtain ⟨T', he, hT⟩ := hg.vals v _ hv hp
  cases he
  have hTk := hk.occ v T hv hp
  rcases t.normalizeInner_cases hg T hT with ⟨e2, hu2⟩ | ⟨w, k2, T2, rfl, hw, hq, e2⟩
  · rw [e2]; exact ⟨hTk, hu2⟩
  rw [e2]
  refine ⟨hk.occ w T2 hw hq, ?_⟩
  intro v' k' e3
  change T2 = _ at e3; subst e3
  -- `?v := ?w` and `?w := ?v'` cannot both be in a well-kinded table
  have h1 := (hk.varval v w k2 hv hp).2
  have h2 := (hk.varval w v' k' hw hq).1
  exact absurd ((of_decide_eq_true hTk : k2 = κ w).trans h2) h1

/-! `new`, `newVariable`, `newUniverse` keep the invariants, so the hypotheses of the C14 theorems hold
  of every table built with them. -/

theorem Table.new_foValues : Table.new.foValues :=
  fun v _ hv => absurd hv (Nat.not_lt_zero v)

theorem Table.new_arityValues (ar : TyName → Nat) : Table.new.arityValues ar :=
  fun v _ hv => absurd hv (Nat.not_lt_zero v)

theorem Table.newVariable_foValues (t : Table) (ui : Nat) (hwf : t.WF) (h : t.foValues) :
    (t.newVariable ui).1.foValues :=
  (t.newVariable_Ext ui hwf).foValues h

theorem Table.newVariable_arityValues (ar : TyName → Nat) (t : Table) (ui : Nat) (hwf : t.WF)
    (h : t.arityValues ar) : (t.newVariable ui).1.arityValues ar :=
  (t.newVariable_Ext ui hwf).arityValues h

theorem Table.newUniverse_foValues (t : Table) (h : t.foValues) : t.newUniverse.1.foValues :=
  t.newUniverse_Ext.foValues h

theorem Table.newUniverse_arityValues (ar : TyName → Nat) (t : Table) (h : t.arityValues ar) :
    t.newUniverse.1.arityValues ar :=
  t.newUniverse_Ext.arityValues h

theorem Table.new_Ranked : Table.new.Ranked :=
  ⟨1, fun _ => 0, fun _ => Nat.zero_lt_one, fun v _ hv => absurd hv (Nat.not_lt_zero v)⟩

/-- no `goodValues` needed when `find` agrees everywhere, not only below `t.numVars` -/
theorem Table.Ext.ranked_of_find {t t' : Table} (h : t.Ext t') (hf : ∀ v, t'.find v = t.find v)
    (hr : t.Ranked) : t'.Ranked := by
  obtain ⟨N, ρ, hN, hr⟩ := hr
  refine ⟨N, ρ, hN, ?_⟩
  intro v ty hv hp w hw
  obtain ⟨hlt, hp⟩ := h.probe_some hv hp
  rw [hf, hf]
  exact hr v ty hlt hp w hw

theorem Table.newVariable_Ranked (t : Table) (ui : Nat) (hwf : t.WF) (h : t.Ranked) :
    (t.newVariable ui).1.Ranked :=
  (t.newVariable_Ext ui hwf).ranked_of_find (t.newVariable_find ui hwf) h

theorem Table.newUniverse_Ranked (t : Table) (h : t.Ranked) : t.newUniverse.1.Ranked :=
  t.newUniverse_Ext.ranked_of_find (Table.find_congr t.newUniverse.1 t rfl) h

mutual
  theorem Ty.kinded_congr (κ κ' : Nat → TyVarKind) : (t : Ty) →
      (∀ w, w ∈ t.tyVars → κ' w = κ w) → t.kinded κ' = t.kinded κ
    | .app n args => by
        intro h; simp only [Ty.kinded]
        exact Args.kinded_congr κ κ' args (by simpa only [Ty.tyVars] using h)
    | .slice t | .raw _ t => by
        intro h; simp only [Ty.kinded]
        exact Ty.kinded_congr κ κ' t (by simpa only [Ty.tyVars] using h)
    | .scalar _ | .str | .never | .foreign _ | .error | .array _ _ | .ref _ _ _ | .placeholder _ _
    | .dyn _ _ _ | .proj _ _ | .opaque _ _ | .function _ _ _ | .bound _ _ => fun _ => rfl
    | .infer v k => by
        intro h; simp only [Ty.kinded]; rw [h v (by simp [Ty.tyVars])]
  theorem GArg.kinded_congr (κ κ' : Nat → TyVarKind) : (a : GArg) →
      (∀ w, w ∈ a.tyVars → κ' w = κ w) → a.kinded κ' = a.kinded κ
    | .ty t => by
        intro h; simp only [GArg.kinded]
        exact Ty.kinded_congr κ κ' t (by simpa only [GArg.tyVars] using h)
    | .lt _ | .ct _ => fun _ => rfl
  theorem Args.kinded_congr (κ κ' : Nat → TyVarKind) : (a : Args) →
      (∀ w, w ∈ a.tyVars → κ' w = κ w) → a.kinded κ' = a.kinded κ
    | .nil => fun _ => rfl
    | .cons a as => by
        intro h; simp only [Args.kinded]
        simp only [Args.tyVars, List.mem_append] at h
        rw [GArg.kinded_congr κ κ' a (fun w hw => h w (Or.inl hw)),
            Args.kinded_congr κ κ' as (fun w hw => h w (Or.inr hw))]
end

theorem Table.new_Kinded : Table.new.Kinded (fun _ => .general) :=
  ⟨fun _ _ => rfl, fun v _ hv => absurd hv (Nat.not_lt_zero v), fun v hv => absurd hv (Nat.not_lt_zero v),
   fun v _ _ hv => absurd hv (Nat.not_lt_zero v)⟩

theorem Table.newVariable_Kinded (κ : Nat → TyVarKind) (t : Table) (ui : Nat) (k : TyVarKind)
    (hwf : t.WF) (hfo : t.foValues) (hk : t.Kinded κ) :
    (t.newVariable ui).1.Kinded (fun v => if v = t.numVars then k else κ v) := by
  have hn := t.newVariable_numVars ui
  refine ⟨?_, ?_, ?_, ?_⟩
  · intro v hv
    rw [hn] at hv
    show (if v = t.numVars then k else κ v) = .general
    rw [if_neg (by omega)]; exact hk.fresh v (by omega)
  · intro v ty hv hp
    obtain ⟨hlt, hp⟩ := t.newVariable_probeVar_some ui hwf hv hp
    obtain ⟨ty', he, _, hvb⟩ := hfo v _ hlt hp
    cases he
    rw [Ty.kinded_congr κ _ ty (fun w hw => by
      have := Ty.tyVars_lt _ ty hvb w hw
      show (if w = t.numVars then k else κ w) = κ w
      rw [if_neg (by omega)])]
    exact hk.occ v ty hlt hp
  · intro v hv
    rw [hn] at hv
    by_cases hlt : v < t.numVars
    · rw [t.newVariable_find_old ui hwf v hlt]
      have := t.find_lt hwf v hlt
      show (if t.find v = t.numVars then k else κ (t.find v)) = (if v = t.numVars then k else κ v)
      rw [if_neg (by omega), if_neg (by omega)]; exact hk.cls v hlt
    · have : v = t.numVars := by omega
      subst this
      rw [t.newVariable_find_new]
  · intro v w k' hv hp
    obtain ⟨hlt, hp⟩ := t.newVariable_probeVar_some ui hwf hv hp
    show (if v = t.numVars then k else κ v) = .general ∧ _
    rw [if_neg (by omega)]; exact hk.varval v w k' hlt hp

theorem Table.newUniverse_Kinded (κ : Nat → TyVarKind) (t : Table) (hk : t.Kinded κ) :
    t.newUniverse.1.Kinded κ :=
  t.newUniverse_Ext.kinded hk

end Chalk
