/-
  FixedPointSemG.lean — one polarity, leaving the loop as the head of a component: the answers of the nodes from
  `dfn` on are correct (`After.drained_corr`); they are moved to the cache (`After.finish_cache`) or dropped
  (`After.finish_discard`: caching disabled, or interrupted).
-/
import ChalkModel.Lemmas.FixedPointSemD

namespace Chalk.FixedPoint.Cyc

section
variable {c : Bool} {inst : Instance} {dom : List Nat} {fx : Bool}
variable {s0 st s1 : St} {g : Nat} {old cur : V} {m : Min} {new : List Node}

theorem After.drained_corr (A : After c inst dom fx s0 st s1 g old cur m new)
    (hfl : ¬ flagAt s1.stack s0.stack.length ∨ old = cur) (hm : MinLe (some s0.graph.length) m) :
    ∀ n : Node, n ∈ drained g cur m new → n.solution ≠ .ambig → Corr c inst n.goal n.solution := by
  -- the optimistic ones justify each other
  have hS : ∀ k, (∃ n : Node, n ∈ drained g cur m new ∧ n.goal = k ∧ n.solution = top c) →
      J c inst (fun j => (∃ n : Node, n ∈ drained g cur m new ∧ n.goal = j ∧ n.solution = top c) ∨
        Tgt c inst j) k := by
    have hw : ∀ {lb : Min} {j : Nat}, MinLe (some s0.graph.length) lb → Wit c inst s1 lb j →
        (∃ n : Node, n ∈ drained g cur m new ∧ n.goal = j ∧ n.solution = top c) ∨ Tgt c inst j := by
      intro lb j hlb hw
      cases hw with
      | inl h => exact Or.inr h
      | inr h =>
        obtain ⟨i, n, hn, hgo, hv, hl, hf⟩ := h
        have hle : s0.graph.length ≤ i := hlb.trans hl
        rw [A.g1] at hn
        rcases mid_cases _ _ _ i n hn with h1 | h1 | h1
        · exact absurd h1.1 (Nat.not_lt.mpr hle)
        · left
          rw [h1.2] at hgo hv hf
          have hflag : flagAt s1.stack s0.stack.length := hf _ rfl
          have : old = cur := by
            cases hfl with
            | inl h => exact absurd hflag h
            | inr h => exact h
          refine ⟨_, List.mem_cons_self .., hgo, ?_⟩
          show cur = top c
          rw [← this]; exact hv
        · left
          exact ⟨n, List.mem_cons_of_mem _ h1.2.1, hgo, hv⟩
    intro k hk
    obtain ⟨n, hn, hgo, hv⟩ := hk
    cases List.mem_cons.mp hn with
    | inl e =>
      rw [e] at hgo hv
      subst hgo
      rcases A.fact with h | h | h
      · exact J.mono (fun j hj => hw hm hj) h.2
      · rw [h.1] at hv; exact absurd hv.symm (top_ne_bot c)
      · rw [h.1] at hv; exact absurd hv.symm (top_ne_ambig c)
    | inr e =>
      obtain ⟨i, _, hn1⟩ := A.new_index e
      rw [← hgo]
      exact J.mono (fun j hj => hw (hm.trans (A.hnew n e).2) hj) (A.i1.just i n hn1 (A.hnew n e).1 hv)
  have htgt := Tgt.coind (c := c) (inst := inst) _ hS
  intro n hn hna
  have hval : n.solution = top c ∨ n.solution = bot c ∨ n.solution = .ambig := by
    cases List.mem_cons.mp hn with
    | inl e => rw [e]; exact A.cur_val
    | inr e =>
      obtain ⟨i, _, hn1⟩ := A.new_index e
      exact A.i1.val i n hn1
  rcases hval with h | h | h
  · exact Or.inl ⟨h, htgt n.goal ⟨n, hn, rfl, h⟩⟩
  · refine Or.inr ⟨h, ?_⟩
    cases List.mem_cons.mp hn with
    | inl e => rw [e] at h ⊢; exact A.fact.not_tgt h
    | inr e =>
      obtain ⟨i, _, hn1⟩ := A.new_index e
      exact A.i1.approx i n hn1 h
  · exact absurd h hna

theorem After.inv_old (A : After c inst dom fx s0 st s1 g old cur m new) {s6 : St}
    (hext : StackExt s0.stack s6.stack) (e1 : s6.oracle = s1.oracle) (e2 : s6.oracleDefault = s1.oracleDefault)
    (e3 : s6.interrupted = s1.interrupted) (hg6 : s6.graph = s0.graph)
    (hok : ∀ k v, InCache s6 k v → Corr c inst k v)
    (hdisj : ∀ (i : Nat) (n : Node), s0.graph[i]? = some n → ∀ v, ¬ InCache s6 n.goal v) :
    Inv c inst dom fx s6 := by
  refine ⟨fixes_of_eq A.i1.fixes e1 e2 e3, ?_, hok, hext.allCo A.L.i0.stackCo, ?_, ?_, ?_, ?_, ?_, ?_, ?_, ?_, ?_⟩
  · intro i n hn ha
    rw [hg6] at hn
    rw [e3]
    exact A.i1.amb i n (A.g0 hn) ha
  · rw [hg6]; exact A.L.i0.nodup
  · rw [hg6]; exact hdisj
  · rw [hg6]; exact A.L.i0.inDom
  · rw [hg6]; exact A.L.i0.val
  · rw [hg6]; exact A.L.i0.approx
  · intro i n d hn hd
    rw [hg6] at hn
    have := A.L.i0.stk i n d hn hd
    exact ⟨by rw [hext.1]; exact this.1, this.2⟩
  · rw [hg6]; exact A.L.i0.nonstk
  · rw [hg6, hext.1]; exact A.L.i0.cnt
  · intro i n hn hd htop
    rw [hg6] at hn
    exact J.mono (fun j hj => hj.from0 ⟨[], by rw [hg6, List.append_nil]⟩ (fun _ hd => hext.flag hd))
      (A.L.i0.just i n hn hd htop)

/-- the nodes from `dfn` on are moved to the cache.  (`Popped` fixes the cache, so it is stated of `s6` with the
    cache of `s1` put back.) -/
theorem After.finish_cache (A : After c inst dom fx s0 st s1 g old cur m new) {s6 : St}
    (P : Popped s0 s1 { s6 with cache := s1.cache })
    (hfl : ¬ flagAt s1.stack s0.stack.length ∨ old = cur) (hm : MinLe (some s0.graph.length) m)
    (hg6 : s6.graph = s0.graph) (cc1 cc6 : List (Nat × V)) (hc1 : s1.cache = some cc1)
    (hc6 : s6.cache = some cc6)
    (hdr : drainToCache s0.graph.length (drained g cur m new) cc1 = .ok cc6)
    (hni : s1.interrupted = false) :
    Inv c inst dom fx s6 ∧ (∀ lb, Step c inst s0 s6 lb) ∧ Corr c inst g cur := by
  have hna : ∀ n : Node, n ∈ drained g cur m new → n.solution ≠ .ambig := by
    intro n hn ha
    have : s1.interrupted = true := by
      cases List.mem_cons.mp hn with
      | inl e => rw [e] at ha; exact A.amb ha
      | inr e =>
        obtain ⟨i, _, hn1⟩ := A.new_index e
        exact A.i1.amb i n hn1 ha
    rw [hni] at this
    cases this
  have hcorr := fun n hn => A.drained_corr hfl hm n hn (hna n hn)
  have hext : StackExt s0.stack s6.stack := A.popExt (s5 := { s6 with cache := s1.cache }) P
  -- a drained goal is not a goal of the old graph, nor in the old cache
  have hfresh : ∀ n : Node, n ∈ drained g cur m new → ∀ v, ¬ InCache s1 n.goal v := by
    intro n hn v hc
    obtain ⟨i, n', _, hn', hgo⟩ := A.drained_index hn
    exact A.i1.disj i n' hn' v (by rw [hgo]; exact hc)
  have hsub : ∀ k v, InCache s6 k v → InCache s1 k v ∨
      ∃ n : Node, n ∈ drained g cur m new ∧ n.goal = k ∧ n.solution = v := by
    intro k v h
    obtain ⟨cc, e, hk⟩ := h
    rw [hc6] at e
    cases e
    cases drain_sub _ _ _ _ hdr k v hk with
    | inl h => exact Or.inl ⟨cc1, hc1, h⟩
    | inr h => exact Or.inr h
  have hkeep : ∀ k v, InCache s1 k v → InCache s6 k v := by
    intro k v h
    obtain ⟨cc, e, hk⟩ := h
    rw [hc1] at e
    cases e
    refine ⟨cc6, hc6, drain_keep _ _ _ _ hdr k v hk ?_⟩
    intro n hn hgo
    exact hfresh n hn v (by rw [hgo]; exact ⟨cc1, hc1, hk⟩)
  have hinv : Inv c inst dom fx s6 := by
    refine A.inv_old hext P.oracle P.oracleDefault P.interrupted hg6 ?_ ?_
    · intro k v h
      cases hsub k v h with
      | inl h => exact A.i1.cacheOK k v h
      | inr h =>
        obtain ⟨n, hn, hgo, hv⟩ := h
        rw [← hgo, ← hv]; exact hcorr n hn
    · intro i n hn v hc
      cases hsub _ v hc with
      | inl h => exact A.i1.disj i n (A.g0 hn) v h
      | inr h =>
        obtain ⟨n', hn', hgo, _⟩ := h
        obtain ⟨i', n'', hle, hn'', hgo''⟩ := A.drained_index hn'
        have : i' = i := A.i1.index_inj hn'' (A.g0 hn) (hgo''.trans hgo)
        have := getElem?_lt_length hn
        omega
  refine ⟨hinv, fun lb => ⟨A.L.frame_to A.step.toFrame hext P.oracle P.oracleDefault P.interrupted hkeep
    (by rw [hc6, hc1]; rfl) (r := []) (by rw [hg6, List.append_nil]) (fun n hn => by cases hn), ?_⟩,
    hcorr _ (List.mem_cons_self ..)⟩
  intro k hu hd
  apply loop_low A.L A.i1 A.step A.fact k hu
  cases hd with
  | inl h =>
    cases hsub k _ h with
    | inl h => exact Or.inl (Or.inl h)
    | inr h =>
      obtain ⟨n, hn, hgo, hv⟩ := h
      cases List.mem_cons.mp hn with
      | inl e =>
        rw [e] at hgo hv
        exact Or.inr ⟨hgo.symm, hv⟩
      | inr e =>
        obtain ⟨i, _, hn1⟩ := A.new_index e
        exact Or.inl (Or.inr ⟨i, n, hn1, hgo, hv⟩)
  | inr h =>
    obtain ⟨i, n, hn, h2⟩ := h
    rw [hg6] at hn
    exact absurd (Or.inr ⟨i, n, hn, h2⟩) (hu _)

/-- caching disabled (or, generally, the cache left alone): the nodes from `dfn` on are dropped
    (`rollback_to(dfn)`); the answer of the head is correct all the same -/
theorem After.finish_discard (A : After c inst dom fx s0 st s1 g old cur m new) {s6 : St}
    (P : Popped s0 s1 s6) (hfl : cur ≠ .ambig → ¬ flagAt s1.stack s0.stack.length ∨ old = cur)
    (hm : MinLe (some s0.graph.length) m) (hg6 : s6.graph = s0.graph) :
    Inv c inst dom fx s6 ∧ (∀ lb, Step c inst s0 s6 lb) ∧ (cur ≠ .ambig → Corr c inst g cur) := by
  have hinv : Inv c inst dom fx s6 :=
    A.inv_old (A.popExt P) P.oracle P.oracleDefault P.interrupted hg6
      (fun k v h => A.i1.cacheOK k v (P.inCache.mp h))
      (fun i n hn v hc => A.i1.disj i n (A.g0 hn) v (P.inCache.mp hc))
  refine ⟨hinv, fun lb => ⟨A.L.popped A.step.toFrame P (r := []) (by rw [hg6, List.append_nil])
    (fun n hn => by cases hn), ?_⟩, fun hne => A.drained_corr (hfl hne) hm _ (List.mem_cons_self ..) hne⟩
  intro k hu hd
  apply loop_low A.L A.i1 A.step A.fact k hu
  cases hd with
  | inl h => exact Or.inl (Or.inl (P.inCache.mp h))
  | inr h =>
    obtain ⟨i, n, hn, h2⟩ := h
    rw [hg6] at hn
    exact absurd (Or.inr ⟨i, n, hn, h2⟩) (hu _)

end

end Chalk.FixedPoint.Cyc
