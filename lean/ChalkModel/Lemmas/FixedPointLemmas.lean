/-
  FixedPointLemmas.lean — `FixedPoint.lean` on RANKED (acyclic) instances: semantics by local equations (`IsSem`),
  the order "`ambig` may stand for anything once solving was interrupted" (`Approx`), the specification of `solveGoal`
  and of histories of calls; `semOf` is the semantic value. The basic facts here are used by every `FixedPoint*.lean`.
-/
import ChalkModel.FixedPoint

namespace Chalk.FixedPoint

def altVal (vals : List V) : V :=
  if vals.any (fun v => v == .noSolution) then .noSolution
  else if vals.any (fun v => v == .ambig) then .ambig
  else .unique

/-- the clause loop of `solve_from_clauses` over the values of the alternatives -/
def clauseVal (ground : Bool) : List V → Option V → V
  | [], cur => cur.getD .noSolution
  | r :: rest, cur =>
    let cur' : Option V :=
      match r with
      | .noSolution => cur
      | sol => some (match cur with | none => sol | some c => combine ground c sol)
    match cur' with
    | some c => if trivialTrue ground c then c else clauseVal ground rest cur'
    | none => clauseVal ground rest cur'

def IsSem (inst : Instance) (sem : Nat → V) : Prop :=
  ∀ g, sem g = clauseVal (inst.ground g) ((inst.deps g).map (fun alt => altVal (alt.map sem))) none

def Ranked (inst : Instance) (rank : Nat → Nat) : Prop :=
  ∀ g alt, alt ∈ inst.deps g → ∀ c, c ∈ alt → rank c < rank g

/-- `v` is `w`, or — if solving was interrupted (`b`) — the placeholder `ambig` -/
def Approx (b : Bool) (v w : V) : Prop := v = w ∨ (b = true ∧ v = .ambig)

theorem Approx.refl (b : Bool) (v : V) : Approx b v v := Or.inl rfl

theorem Approx.mono {b b' : Bool} {v w : V} (h : Approx b v w) (hb : b = true → b' = true) :
    Approx b' v w := by
  cases h with
  | inl h => exact Or.inl h
  | inr h => exact Or.inr ⟨hb h.1, h.2⟩

theorem Approx.exact {v w : V} (h : Approx false v w) : v = w := by
  cases h with
  | inl h => exact h
  | inr h => cases h.1

def ApproxO (b : Bool) : Option V → Option V → Prop
  | none, none => True
  | some v, some w => Approx b v w
  | some v, none => b = true ∧ v = .ambig
  | none, some _ => False

def ApproxL (b : Bool) : List V → List V → Prop
  | [], [] => True
  | v :: vs, w :: ws => Approx b v w ∧ ApproxL b vs ws
  | _, _ => False

theorem ApproxL.refl (b : Bool) : ∀ vs, ApproxL b vs vs
  | [] => trivial
  | v :: vs => ⟨Approx.refl b v, ApproxL.refl b vs⟩

theorem ApproxL.mono {b b' : Bool} (hb : b = true → b' = true) :
    ∀ {vs ws}, ApproxL b vs ws → ApproxL b' vs ws
  | [], [], _ => trivial
  | _ :: _, _ :: _, h => ⟨h.1.mono hb, ApproxL.mono hb h.2⟩
  | [], _ :: _, h => h.elim
  | _ :: _, [], h => h.elim

theorem ApproxL.exact : ∀ {vs ws : List V}, ApproxL false vs ws → vs = ws
  | [], [], _ => rfl
  | _ :: _, _ :: _, h => by rw [h.1.exact, ApproxL.exact h.2]
  | [], _ :: _, h => h.elim
  | _ :: _, [], h => h.elim

theorem ApproxO.exact : ∀ {a c : Option V}, ApproxO false a c → a = c
  | none, none, _ => rfl
  | some _, some _, h => by rw [Approx.exact h]
  | some _, none, h => by cases h.1
  | none, some _, h => h.elim

theorem approx_true_of_ne {v w : V} (h : v ≠ .noSolution) (hw : w = .unique) : Approx true v w := by
  cases v <;> simp_all [Approx]

def stepCur (ground : Bool) (r : V) (cur : Option V) : Option V :=
  match r with
  | .noSolution => cur
  | sol => some (match cur with | none => sol | some c => combine ground c sol)

theorem clauseVal_cons (ground : Bool) (r : V) (rest : List V) (cur : Option V) :
    clauseVal ground (r :: rest) cur =
      match stepCur ground r cur with
      | some c => if trivialTrue ground c then c else clauseVal ground rest (some c)
      | none => clauseVal ground rest none := by
  cases r <;> cases cur <;> simp [clauseVal, stepCur]

instance (b : Bool) (v w : V) : Decidable (Approx b v w) := by unfold Approx; infer_instance
instance (b : Bool) : (a c : Option V) → Decidable (ApproxO b a c)
  | none, none => by unfold ApproxO; infer_instance
  | some _, some _ => by unfold ApproxO; infer_instance
  | some _, none => by unfold ApproxO; infer_instance
  | none, some _ => by unfold ApproxO; infer_instance

/-! Statements about all values are finite tables: decided by evaluation. -/

instance {P : V → Prop} [DecidablePred P] : Decidable (∀ v, P v) :=
  decidable_of_iff (P .noSolution ∧ P .unique ∧ P .ambig)
    ⟨fun h v => by cases v; exact h.1; exact h.2.1; exact h.2.2, fun h => ⟨h _, h _, h _⟩⟩
instance {P : Option V → Prop} [DecidablePred P] : Decidable (∀ o, P o) :=
  decidable_of_iff (P none ∧ ∀ v, P (some v))
    ⟨fun h o => by cases o; exact h.1; exact h.2 _, fun h => ⟨h _, fun _ => h _⟩⟩

theorem stepCur_approx : ∀ (ground : Bool) (r' r : V) (cur' cur : Option V),
    Approx true r' r → ApproxO true cur' cur →
    ApproxO true (stepCur ground r' cur') (stepCur ground r cur) := by
  decide +kernel

theorem trivialTrue_unique : ∀ {ground : Bool} {c : V}, trivialTrue ground c = true → c = .unique := by
  decide +kernel

theorem stepCur_some_ne : ∀ (ground : Bool) (r c : V), c ≠ .noSolution →
    (stepCur ground r (some c)).any (· != .noSolution) = true := by
  decide +kernel

theorem clauseVal_some_ne (ground : Bool) :
    ∀ (rs : List V) (c : V), c ≠ .noSolution → clauseVal ground rs (some c) ≠ .noSolution
  | [], c, hc => hc
  | r :: rs, c, hc => by
    have h := stepCur_some_ne ground r c hc
    rw [clauseVal_cons]
    generalize stepCur ground r (some c) = o at h ⊢
    cases o with
    | none => cases h
    | some c' =>
      have hc' : c' ≠ .noSolution := by simpa using h
      simp only []
      split
      · exact hc'
      · exact clauseVal_some_ne ground rs c' hc'

theorem clauseVal_approx_true (ground : Bool) :
    ∀ (rs' rs : List V) (cur' cur : Option V), ApproxL true rs' rs → ApproxO true cur' cur →
      Approx true (clauseVal ground rs' cur') (clauseVal ground rs cur)
  | [], [], cur', cur, _, hc => by
    cases cur' <;> cases cur <;> simp_all [ApproxO, clauseVal, Approx]
  | [], _ :: _, _, _, h, _ => h.elim
  | _ :: _, [], _, _, h, _ => h.elim
  | r' :: rs', r :: rs, cur', cur, h, hc => by
    have ih := clauseVal_approx_true ground rs' rs
    obtain ⟨hr, hrs⟩ := h
    have hs := stepCur_approx ground r' r cur' cur hr hc
    rw [clauseVal_cons, clauseVal_cons]
    cases h1 : stepCur ground r' cur' with
    | none =>
      cases h2 : stepCur ground r cur with
      | none => exact ih none none hrs trivial
      | some c => rw [h1, h2] at hs; exact hs.elim
    | some c' =>
      cases h2 : stepCur ground r cur with
      | none =>
        rw [h1, h2] at hs
        obtain ⟨_, hc'⟩ := hs
        subst hc'
        have : trivialTrue ground V.ambig = false := by cases ground <;> rfl
        simp only [this]
        exact ih (some .ambig) none hrs ⟨rfl, rfl⟩
      | some c =>
        rw [h1, h2] at hs
        simp only []
        by_cases t' : trivialTrue ground c' = true
        · -- the approximating run stops with the trivially true solution: it is exact
          have hc'u : c' = .unique := trivialTrue_unique t'
          have hcu : c = .unique := by
            cases hs with
            | inl e => rw [← e]; exact hc'u
            | inr e => rw [hc'u] at e; cases e.2
          subst hc'u; subst hcu
          simp [t']
          exact Approx.refl _ _
        · by_cases t : trivialTrue ground c = true
          · have hcu : c = .unique := trivialTrue_unique t
            simp only [t, t']
            have hne : c' ≠ .noSolution := by
              cases hs with
              | inl e => rw [e, hcu]; decide
              | inr e => rw [e.2]; decide
            exact approx_true_of_ne (clauseVal_some_ne ground rs' c' hne) (by simp [hcu])
          · simp only [t, t']
            exact ih (some c') (some c) hrs hs

theorem clauseVal_approx (b ground : Bool) (rs' rs : List V) (cur' cur : Option V)
    (h : ApproxL b rs' rs) (hc : ApproxO b cur' cur) :
    Approx b (clauseVal ground rs' cur') (clauseVal ground rs cur) := by
  cases b with
  | false => rw [ApproxL.exact h, ApproxO.exact hc]; exact Approx.refl _ _
  | true => exact clauseVal_approx_true ground rs' rs cur' cur h hc

theorem any_map_beq (sem : Nat → V) (alt : List Nat) (v : V) :
    (alt.map sem).any (fun v' => v' == v) = true ↔ ∃ c, c ∈ alt ∧ sem c = v := by
  simp only [List.any_map, List.any_eq_true, Function.comp, beq_iff_eq]

theorem any_map_beq_false {sem : Nat → V} {alt : List Nat} {v : V} (h : ∀ c, c ∈ alt → sem c ≠ v) :
    (alt.map sem).any (fun v' => v' == v) = false :=
  Bool.eq_false_iff.mpr fun e => by
    obtain ⟨c, hc, hs⟩ := (any_map_beq sem alt v).mp e
    exact h c hc hs

theorem altVal_noSolution {sem : Nat → V} {alt : List Nat} (h : ∃ c, c ∈ alt ∧ sem c = .noSolution) :
    altVal (alt.map sem) = .noSolution := by
  simp only [altVal, (any_map_beq sem alt .noSolution).mpr h, if_true]

theorem altVal_unique {sem : Nat → V} {alt : List Nat} (h : ∀ c, c ∈ alt → sem c = .unique) :
    altVal (alt.map sem) = .unique := by
  have h1 := any_map_beq_false (sem := sem) (v := .noSolution) (fun c hc e => by rw [h c hc] at e; cases e)
  have h2 := any_map_beq_false (sem := sem) (v := .ambig) (fun c hc e => by rw [h c hc] at e; cases e)
  simp only [altVal, h1, h2, Bool.false_eq_true, if_false]

theorem altVal_ambig {sem : Nat → V} {alt : List Nat}
    (h : ∀ c, c ∈ alt → sem c = .unique ∨ sem c = .ambig) (h' : ∃ c, c ∈ alt ∧ sem c = .ambig) :
    altVal (alt.map sem) = .ambig := by
  have h1 := any_map_beq_false (sem := sem) (v := .noSolution)
    (fun c hc e => (h c hc).elim (fun u => by rw [u] at e; cases e) (fun u => by rw [u] at e; cases e))
  simp only [altVal, h1, (any_map_beq sem alt .ambig).mpr h', Bool.false_eq_true, if_false, if_true]
def Res.sat {α : Type} (r : Res α) (okP : α → St → Prop) (panicP : Site → St → Prop) : Prop :=
  match r with
  | .ok a s => okP a s
  | .panic site s => panicP site s

@[simp] theorem Res.sat_ok {α : Type} (a : α) (s : St) (okP : α → St → Prop) (panicP : Site → St → Prop) :
    (Res.ok a s).sat okP panicP = okP a s := rfl
@[simp] theorem Res.sat_panic {α : Type} (site : Site) (s : St) (okP : α → St → Prop)
    (panicP : Site → St → Prop) :
    (Res.panic (α := α) site s).sat okP panicP = panicP site s := rfl

theorem Res.sat.mono {α : Type} {r : Res α} {P Q : α → St → Prop} {Pn Qn : Site → St → Prop} (h : r.sat P Pn)
    (hok : ∀ a s, P a s → Q a s) (hp : ∀ site s, Pn site s → Qn site s) : r.sat Q Qn := by
  cases r with
  | ok a s => exact hok a s h
  | panic site s => exact hp site s h

theorem Res.sat.imp {α : Type} {r : Res α} {P Q : α → St → Prop} {Pn : Site → St → Prop} (h : r.sat P Pn)
    (hpq : ∀ a s, P a s → Q a s) : r.sat Q Pn :=
  h.mono hpq (fun _ _ => id)

def CacheSound (sem : Nat → V) (s : St) : Prop :=
  ∀ c, s.cache = some c → ∀ k v, cacheGet c k = some v → v = sem k

theorem CacheSound.of_eq {sem : Nat → V} {s s' : St} (h : CacheSound sem s) (e : s'.cache = s.cache) :
    CacheSound sem s' := by
  intro c hc; rw [e] at hc; exact h c hc

/-- the rank of `c` (the length of the longest dependency chain below it) fits under the overflow depth -/
def Fits (rank : Nat → Nat) (cfg : Cfg) (D L c : Nat) : Prop :=
  rank c < D ∧ L + rank c < cfg.overflowDepth

/-- a panic on a ranked instance keeps the cache sound and is one of the resource panics — the hook's budget
    (only if one is set), the round fuel (only if it is 0), the legacy `unwrap` (only without the `fixF16` repair),
    overflow / depth fuel (only if the goal does not fit).  None of the asserts of the framework fires. -/
def PanicOK (sem : Nat → V) (cfg : Cfg) (fits : Prop) (site : Site) (s' : St) : Prop :=
  CacheSound sem s' ∧
  match site with
  | .budget => cfg.budget ≠ none
  | .fuelRounds => cfg.rounds = 0
  | .unwrapNoSolution => cfg.fixF16 = false
  | .overflow => ¬ fits
  | .fuelDepth => ¬ fits
  | _ => False

theorem PanicOK.mono {sem : Nat → V} {cfg : Cfg} {fits fits' : Prop} {site : Site} {s' : St}
    (h : PanicOK sem cfg fits site s') (hf : fits' → fits) : PanicOK sem cfg fits' site s' := by
  refine ⟨h.1, ?_⟩
  have h2 := h.2
  cases site <;> simp_all
  all_goals exact fun x => h2 (hf x)

/-- the shape of the context between two sub-goal calls on a ranked instance: the search graph
    holds exactly the goals on the stack, no cycle flag is set, the cache is sound -/
structure Inv (sem : Nat → V) (s : St) : Prop where
  len : s.graph.length = s.stack.length
  flags : ∀ e, e ∈ s.stack → e.cycle = false
  cache : CacheSound sem s

theorem Inv.of_eq {sem : Nat → V} {s s' : St} (h : Inv sem s) (e1 : s'.stack = s.stack)
    (e2 : s'.graph = s.graph) (e3 : s'.cache = s.cache) : Inv sem s' :=
  ⟨by rw [e1, e2]; exact h.len, by rw [e1]; exact h.flags, h.cache.of_eq e3⟩

/-- the `should_continue` callback will never say "stop" -/
def Quiet (s : St) : Prop := s.oracleDefault = true ∧ ∀ b, b ∈ s.oracle → b = true

def QuietStep (s s' : St) : Prop :=
  Quiet s → Quiet s' ∧ (s.interrupted = false → s'.interrupted = false)

theorem QuietStep.of_eq {s s' : St} (e1 : s'.oracle = s.oracle) (e2 : s'.oracleDefault = s.oracleDefault)
    (e3 : s'.interrupted = s.interrupted) : QuietStep s s' := by
  intro q
  refine ⟨⟨by rw [e2]; exact q.1, by rw [e1]; exact q.2⟩, fun h => by rw [e3]; exact h⟩

theorem QuietStep.trans {s s' s'' : St} (h : QuietStep s s') (h' : QuietStep s' s'') : QuietStep s s'' := by
  intro q
  obtain ⟨q1, i1⟩ := h q
  obtain ⟨q2, i2⟩ := h' q1
  exact ⟨q2, fun e => i2 (i1 e)⟩

structure Post (sem : Nat → V) (s s' : St) : Prop where
  stack : s'.stack = s.stack
  graph : s'.graph = s.graph
  cache : CacheSound sem s'
  cacheOn : s'.cache.isSome = s.cache.isSome
  intr : s.interrupted = true → s'.interrupted = true
  quiet : QuietStep s s'

theorem Post.refl {sem : Nat → V} {s : St} (h : CacheSound sem s) : Post sem s s :=
  ⟨rfl, rfl, h, rfl, id, QuietStep.of_eq rfl rfl rfl⟩

theorem Post.of_eq {sem : Nat → V} {s s' : St} (h : CacheSound sem s) (e1 : s'.stack = s.stack)
    (e2 : s'.graph = s.graph) (e3 : s'.cache = s.cache) (e4 : s.interrupted = true → s'.interrupted = true)
    (e5 : QuietStep s s') :
    Post sem s s' :=
  ⟨e1, e2, h.of_eq e3, by rw [e3], e4, e5⟩

theorem Post.trans {sem : Nat → V} {s s' s'' : St} (h : Post sem s s') (h' : Post sem s' s'') :
    Post sem s s'' :=
  ⟨h'.stack.trans h.stack, h'.graph.trans h.graph, h'.cache, h'.cacheOn.trans h.cacheOn,
   fun e => h'.intr (h.intr e), h.quiet.trans h'.quiet⟩

theorem Post.inv {sem : Nat → V} {s s' : St} (h : Post sem s s') (hi : Inv sem s) : Inv sem s' :=
  ⟨by rw [h.stack, h.graph]; exact hi.len, by rw [h.stack]; exact hi.flags, h.cache⟩

def RecSpec (sem : Nat → V) (rank : Nat → Nat) (cfg : Cfg) (D : Nat) (rec : SubSolver) : Prop :=
  ∀ c m s, Inv sem s → (∀ n, n ∈ s.graph → rank c < rank n.goal) →
    (rec c m s).sat
      (fun r s' => Post sem s s' ∧ r.2 = m ∧ Approx s'.interrupted r.1 (sem c))
      (PanicOK sem cfg (Fits rank cfg D s.stack.length c))

section Spec
variable {inst : Instance} {cfg : Cfg} {sem : Nat → V} {rank : Nat → Nat} {rec : SubSolver} {D : Nat}

theorem fulfillRound_spec (hrec : RecSpec sem rank cfg D rec) :
    ∀ (cs acc : List Nat) (m : Min) (s : St), Inv sem s →
      (∀ c, c ∈ cs → ∀ n, n ∈ s.graph → rank c < rank n.goal) →
      (fulfillRound rec cs acc m s).sat
        (fun r s' => Post sem s s' ∧ r.2 = m ∧
          match r.1 with
          | none => ∃ c, c ∈ cs ∧ sem c = .noSolution
          | some ret => ∃ new, ret = acc ++ new ∧
              (∀ c, c ∈ new → c ∈ cs ∧ Approx s'.interrupted .ambig (sem c)) ∧
              ∀ c, c ∈ cs → sem c = .unique ∨ c ∈ new)
        (PanicOK sem cfg (∀ c, c ∈ cs → Fits rank cfg D s.stack.length c))
  | [], acc, m, s, hi, _ => ⟨Post.refl hi.cache, rfl, [], (List.append_nil acc).symm, nofun, nofun⟩
  | c :: rest, acc, m, s, hi, hrk => by
    have h1 := hrec c m s hi (hrk c (List.mem_cons_self ..))
    simp only [fulfillRound]
    cases hr : rec c m s with
    | panic site s' =>
      rw [hr] at h1
      exact PanicOK.mono h1 (fun hf => hf c (List.mem_cons_self ..))
    | ok r s1 =>
      rw [hr] at h1
      obtain ⟨v, m'⟩ := r
      obtain ⟨hp, hm, ha⟩ := h1
      subst hm
      have ih := fun acc' => (fulfillRound_spec hrec rest acc' m' s1 (hp.inv hi)
        (fun c' hc' n hn => hrk c' (List.mem_cons_of_mem _ hc') n (hp.graph ▸ hn))).mono
        (Q := fun r s2 => Post sem s1 s2 ∧ r.2 = m' ∧
          match r.1 with
          | none => ∃ c', c' ∈ c :: rest ∧ sem c' = .noSolution
          | some ret => ∃ new, ret = acc' ++ new ∧
              (∀ c', c' ∈ new → c' ∈ c :: rest ∧ Approx s2.interrupted .ambig (sem c')) ∧
              ∀ c', c' ∈ rest → sem c' = .unique ∨ c' ∈ new)
        (by
          rintro ⟨o, m2⟩ s2 ⟨hp2, hm2, ho⟩
          refine ⟨hp2, hm2, ?_⟩
          cases o with
          | none =>
            obtain ⟨c', hc', hs⟩ := ho
            exact ⟨c', List.mem_cons_of_mem _ hc', hs⟩
          | some ret =>
            obtain ⟨new, e, hn, hall⟩ := ho
            exact ⟨new, e, fun c' h => ⟨List.mem_cons_of_mem _ (hn c' h).1, (hn c' h).2⟩, hall⟩)
        (Qn := PanicOK sem cfg (∀ c', c' ∈ c :: rest → Fits rank cfg D s.stack.length c'))
        (fun _ _ h => h.mono (fun hf c' hc' => by rw [hp.stack]; exact hf c' (List.mem_cons_of_mem _ hc')))
      cases v with
      | noSolution => exact ⟨hp, rfl, c, List.mem_cons_self .., ha.elim Eq.symm (fun e => nomatch e.2)⟩
      | unique =>
        have hu : sem c = .unique := ha.elim Eq.symm (fun e => nomatch e.2)
        refine (ih acc).imp ?_
        rintro ⟨o, m2⟩ s2 ⟨hp2, hm2, ho⟩
        refine ⟨hp.trans hp2, hm2, ?_⟩
        cases o with
        | none => exact ho
        | some ret =>
          obtain ⟨new, e, hn, hall⟩ := ho
          exact ⟨new, e, hn, fun c' h => (List.mem_cons.mp h).elim (fun e' => Or.inl (e' ▸ hu)) (hall c')⟩
      | ambig =>
        refine (ih (acc ++ [c])).imp ?_
        rintro ⟨o, m2⟩ s2 ⟨hp2, hm2, ho⟩
        refine ⟨hp.trans hp2, hm2, ?_⟩
        cases o with
        | none => exact ho
        | some ret =>
          obtain ⟨new, e, hn, hall⟩ := ho
          refine ⟨c :: new, by rw [e, List.append_assoc]; rfl, fun c' h => ?_, fun c' h => ?_⟩
          · cases List.mem_cons.mp h with
            | inl e' => rw [e']; exact ⟨List.mem_cons_self .., ha.mono hp2.intr⟩
            | inr e' => exact hn c' e'
          · exact (List.mem_cons.mp h).elim (fun e' => Or.inr (e' ▸ List.mem_cons_self ..))
              (fun e' => (hall c' e').imp id (List.mem_cons_of_mem _))

theorem suggestPass_spec (hrec : RecSpec sem rank cfg D rec) :
    ∀ (ds : List Nat) (m : Min) (s : St), Inv sem s →
      (∀ c, c ∈ ds → ∀ n, n ∈ s.graph → rank c < rank n.goal) →
      (suggestPass cfg rec ds m s).sat
        (fun r s' => Post sem s s' ∧ r.2 = m ∧ r.1 ≠ .unique ∧
          (r.1 = .noSolution → ∃ d, d ∈ ds ∧ sem d = .noSolution))
        (PanicOK sem cfg (∀ c, c ∈ ds → Fits rank cfg D s.stack.length c))
  | [], m, s, hi, _ => by
    simp only [suggestPass, Res.sat_ok]
    refine ⟨Post.refl hi.cache, ?_⟩
    simp
  | c :: rest, m, s, hi, hrk => by
    have h1 := hrec c m s hi (hrk c (List.mem_cons_self ..))
    simp only [suggestPass]
    cases hr : rec c m s with
    | panic site s' =>
      rw [hr] at h1
      exact PanicOK.mono h1 (fun hf => hf c (List.mem_cons_self ..))
    | ok r s1 =>
      rw [hr] at h1
      obtain ⟨v, m'⟩ := r
      obtain ⟨hp, hm, ha⟩ := h1
      subst hm
      have hi1 := hp.inv hi
      have hrk1 : ∀ c', c' ∈ rest → ∀ n, n ∈ s1.graph → rank c' < rank n.goal := by
        intro c' hc' n hn; rw [hp.graph] at hn; exact hrk c' (List.mem_cons_of_mem _ hc') n hn
      cases v with
      | noSolution =>
        simp only []
        by_cases hf : cfg.fixF16 = true
        · simp only [hf, if_true, Res.sat_ok]
          refine ⟨hp, trivial, by decide, fun _ => ⟨c, List.mem_cons_self .., ?_⟩⟩
          cases ha with
          | inl e => exact e.symm
          | inr e => cases e.2
        · simp only [hf]
          refine ⟨hp.cache, ?_⟩
          cases h16 : cfg.fixF16 with
          | false => rfl
          | true => exact absurd h16 hf
      | unique =>
        simp only [Res.sat_ok]
        exact ⟨hp, trivial, by decide, fun e => by cases e⟩
      | ambig =>
        refine (suggestPass_spec hrec rest m' s1 hi1 hrk1).mono ?_ (fun _ _ h => h.mono
          (fun hf c' hc' => by rw [hp.stack]; exact hf c' (List.mem_cons_of_mem _ hc')))
        rintro ⟨v2, m2⟩ s2 ⟨hp2, hm2, hne, hno⟩
        refine ⟨hp.trans hp2, hm2, hne, fun e => ?_⟩
        obtain ⟨d, hd, hs⟩ := hno e
        exact ⟨d, List.mem_cons_of_mem _ hd, hs⟩

theorem fulfillSolve_spec (hrec : RecSpec sem rank cfg D rec) (alt : List Nat) (m : Min) (s : St)
    (hi : Inv sem s) (hrk : ∀ c, c ∈ alt → ∀ n, n ∈ s.graph → rank c < rank n.goal) :
    (fulfillSolve cfg rec alt m s).sat
      (fun r s' => Post sem s s' ∧ r.2 = m ∧ Approx s'.interrupted r.1 (altVal (alt.map sem)))
      (PanicOK sem cfg (∀ c, c ∈ alt → Fits rank cfg D s.stack.length c)) := by
  have hrk' : ∀ c, c ∈ alt.reverse → ∀ n, n ∈ s.graph → rank c < rank n.goal :=
    fun c hc => hrk c (List.mem_reverse.mp hc)
  have h1 := fulfillRound_spec hrec alt.reverse [] m s hi hrk'
  unfold fulfillSolve
  cases hr : fulfillRound rec alt.reverse [] m s with
  | panic site s' =>
    rw [hr] at h1
    exact PanicOK.mono h1 (fun hf c hc => hf c (List.mem_reverse.mp hc))
  | ok r s1 =>
    rw [hr] at h1
    obtain ⟨o, m'⟩ := r
    obtain ⟨hp, hm, ho⟩ := h1
    subst hm
    cases o with
    | none =>
      simp only [Res.sat_ok]
      obtain ⟨c, hc, hs⟩ := ho
      refine ⟨hp, trivial, ?_⟩
      rw [altVal_noSolution ⟨c, List.mem_reverse.mp hc, hs⟩]
      exact Approx.refl _ _
    | some ret =>
      obtain ⟨new, e, h2, hall⟩ := ho
      rw [List.nil_append] at e
      subst e
      have h1 := fun c hc => (hall c hc).imp id (fun h => And.intro h (h2 c h).2)
      cases ret with
      | nil =>
        simp only [Res.sat_ok]
        refine ⟨hp, trivial, ?_⟩
        have : ∀ c, c ∈ alt → sem c = .unique := by
          intro c hc
          cases h1 c (List.mem_reverse.mpr hc) with
          | inl e => exact e
          | inr e => cases e.1
        rw [altVal_unique this]
        exact Approx.refl _ _
      | cons r0 rs =>
        simp only []
        have hi1 := hp.inv hi
        have hsub : ∀ c, c ∈ (r0 :: rs).reverse → c ∈ alt := by
          intro c hc
          exact List.mem_reverse.mp (h2 c (List.mem_reverse.mp hc)).1
        have hrk1 : ∀ c, c ∈ (r0 :: rs).reverse → ∀ n, n ∈ s1.graph → rank c < rank n.goal := by
          intro c hc n hn; rw [hp.graph] at hn; exact hrk c (hsub c hc) n hn
        refine (suggestPass_spec (cfg := cfg) hrec (r0 :: rs).reverse m' s1 hi1 hrk1).mono ?_ (fun _ _ h => h.mono
          (fun hf c hc => by rw [hp.stack]; exact hf c (hsub c hc)))
        rintro ⟨v2, m2⟩ s2 ⟨hp2, hm2, hne, hno⟩
        refine ⟨hp.trans hp2, hm2, ?_⟩
        cases v2 with
        | unique => exact absurd rfl hne
        | noSolution =>
          obtain ⟨d, hd, hs⟩ := hno rfl
          rw [altVal_noSolution ⟨d, hsub d hd, hs⟩]
          exact Approx.refl _ _
        | ambig =>
          cases hb : s2.interrupted with
          | true => exact Or.inr ⟨rfl, rfl⟩
          | false =>
            -- nothing was interrupted: every value seen is exact
            have hb1 : s1.interrupted = false := by
              cases h : s1.interrupted with
              | false => rfl
              | true => rw [hp2.intr h] at hb; cases hb
            left
            symm
            apply altVal_ambig
            · intro c hc
              cases h1 c (List.mem_reverse.mpr hc) with
              | inl e => exact Or.inl e
              | inr e =>
                right
                have := e.2
                rw [hb1] at this
                exact this.exact.symm
            · refine ⟨r0, hsub r0 (List.mem_reverse.mpr (List.mem_cons_self ..)), ?_⟩
              have := (h2 r0 (List.mem_cons_self ..)).2
              rw [hb1] at this
              exact this.exact.symm

theorem solveFromClauses_cons (cfg : Cfg) (rec : SubSolver) (ground : Bool) (alt : List Nat)
    (rest : List (List Nat)) (cur : Option V) (m : Min) (s : St) :
    solveFromClauses cfg rec ground (alt :: rest) cur m s =
      match fulfillSolve cfg rec alt m s with
      | .panic site s' => .panic site s'
      | .ok (r, m') s' =>
        match stepCur ground r cur with
        | some c =>
          if trivialTrue ground c then .ok (c, m') s'
          else solveFromClauses cfg rec ground rest (some c) m' s'
        | none => solveFromClauses cfg rec ground rest none m' s' := by
  simp only [solveFromClauses]
  cases fulfillSolve cfg rec alt m s with
  | panic site s' => rfl
  | ok r s' =>
    obtain ⟨v, m'⟩ := r
    cases v <;> cases cur <;> simp [stepCur]

theorem solveFromClauses_spec (hrec : RecSpec sem rank cfg D rec) (ground : Bool) :
    ∀ (alts : List (List Nat)) (cur : Option V) (m : Min) (s : St), Inv sem s →
      (∀ alt, alt ∈ alts → ∀ c, c ∈ alt → ∀ n, n ∈ s.graph → rank c < rank n.goal) →
      (solveFromClauses cfg rec ground alts cur m s).sat
        (fun r s' => Post sem s s' ∧ r.2 = m ∧
          ∃ rs', ApproxL s'.interrupted rs' (alts.map (fun alt => altVal (alt.map sem))) ∧
            r.1 = clauseVal ground rs' cur)
        (PanicOK sem cfg (∀ alt, alt ∈ alts → ∀ c, c ∈ alt → Fits rank cfg D s.stack.length c))
  | [], cur, m, s, hi, _ => by
    simp only [solveFromClauses, Res.sat_ok]
    exact ⟨Post.refl hi.cache, trivial, [], trivial, rfl⟩
  | alt :: rest, cur, m, s, hi, hrk => by
    have h1 := fulfillSolve_spec (cfg := cfg) hrec alt m s hi (hrk alt (List.mem_cons_self ..))
    rw [solveFromClauses_cons]
    cases hr : fulfillSolve cfg rec alt m s with
    | panic site s' =>
      rw [hr] at h1
      exact PanicOK.mono h1 (fun hf => hf alt (List.mem_cons_self ..))
    | ok r s1 =>
      rw [hr] at h1
      obtain ⟨v, m'⟩ := r
      obtain ⟨hp, hm, ha⟩ := h1
      subst hm
      have hi1 := hp.inv hi
      have hrk1 : ∀ alt', alt' ∈ rest → ∀ c, c ∈ alt' → ∀ n, n ∈ s1.graph → rank c < rank n.goal := by
        intro alt' ha' c hc n hn; rw [hp.graph] at hn
        exact hrk alt' (List.mem_cons_of_mem _ ha') c hc n hn
      simp only []
      have ih := solveFromClauses_spec hrec ground rest (stepCur ground v cur) m' s1 hi1 hrk1
      cases hsc : stepCur ground v cur with
      | none =>
        simp only []
        rw [hsc] at ih
        refine ih.mono ?_ (fun _ _ h => h.mono
          (fun hf a ha => by rw [hp.stack]; exact hf a (List.mem_cons_of_mem _ ha)))
        rintro ⟨v2, m2⟩ s2 ⟨hp2, hm2, rs', hal, hv⟩
        refine ⟨hp.trans hp2, hm2, v :: rs', ⟨ha.mono hp2.intr, hal⟩, ?_⟩
        rw [clauseVal_cons, hsc]
        exact hv
      | some c =>
        simp only []
        by_cases ht : trivialTrue ground c = true
        · simp only [ht, if_true, Res.sat_ok]
          refine ⟨hp, trivial, v :: rest.map (fun alt => altVal (alt.map sem)), ⟨ha, ApproxL.refl _ _⟩, ?_⟩
          rw [clauseVal_cons, hsc]
          simp [ht]
        · simp only [ht]
          rw [hsc] at ih
          refine ih.mono ?_ (fun _ _ h => h.mono
            (fun hf a ha => by rw [hp.stack]; exact hf a (List.mem_cons_of_mem _ ha)))
          rintro ⟨v2, m2⟩ s2 ⟨hp2, hm2, rs', hal, hv⟩
          refine ⟨hp.trans hp2, hm2, v :: rs', ⟨ha.mono hp2.intr, hal⟩, ?_⟩
          rw [clauseVal_cons, hsc]
          simp only [ht]
          exact hv

theorem lookupFrom_none (g : Nat) : ∀ (ns : List Node) (i : Nat),
    (∀ n, n ∈ ns → n.goal ≠ g) → lookupFrom g ns i = none
  | [], _, _ => rfl
  | n :: ns, i, h => by
    have h1 : n.goal ≠ g := h n (List.mem_cons_self ..)
    simp only [lookupFrom, h1, if_false]
    exact lookupFrom_none g ns (i + 1) (fun n' hn' => h n' (List.mem_cons_of_mem _ hn'))

theorem tick_state (cfg : Cfg) (s : St) : (tick cfg s).state = { s with work := s.work + 1 } := by
  unfold tick
  cases cfg.budget with
  | none => rfl
  | some b =>
    simp only []
    split <;> rfl

theorem tick_ok (cfg : Cfg) (s s0 : St) (h : tick cfg s = .ok () s0) : s0 = { s with work := s.work + 1 } := by
  have := tick_state cfg s
  rw [h] at this
  exact this

theorem tick_panic (cfg : Cfg) (s s0 : St) (site : Site) (h : tick cfg s = .panic site s0) :
    s0 = { s with work := s.work + 1 } := by
  have := tick_state cfg s
  rw [h] at this
  exact this

theorem tick_panic_budget (cfg : Cfg) (s s0 : St) (site : Site) (h : tick cfg s = .panic site s0) :
    site = .budget ∧ cfg.budget ≠ none := by
  unfold tick at h
  cases hb : cfg.budget with
  | none => rw [hb] at h; cases h
  | some b =>
    rw [hb] at h
    simp only at h
    split at h
    · cases h; exact ⟨rfl, by simp⟩
    · cases h

theorem tick_panicOK {sem : Nat → V} {cfg : Cfg} {fits : Prop} {s s0 : St} {site : Site} (ht : tick cfg s = .panic site s0)
    (hc : CacheSound sem s) : PanicOK sem cfg fits site s0 := by
  obtain ⟨hsite, hbud⟩ := tick_panic_budget cfg s s0 site ht
  subst hsite
  rw [tick_panic cfg s s0 .budget ht]
  exact ⟨hc.of_eq rfl, hbud⟩

theorem cacheGet_insert (c : List (Nat × V)) (g : Nat) (v : V) (k : Nat) :
    cacheGet (cacheInsert c g v) k = if g = k then some v else cacheGet c k := by
  unfold cacheInsert
  simp only [cacheGet]
  by_cases h : g = k
  · simp [h]
  · simp only [h, if_false]
    induction c with
    | nil => rfl
    | cons kv rest ih =>
      obtain ⟨k', v'⟩ := kv
      by_cases h' : k' = g
      · subst h'
        simp only [List.filter, bne_self_eq_false, cacheGet, h, if_false]
        exact ih
      · have : (k' != g) = true := by simp [h']
        simp only [List.filter, this, cacheGet]
        by_cases h'' : k' = k
        · simp [h'']
        · simp only [h'', if_false]; exact ih

/-! `solve_goal`, the loop of `solve_new_subgoal` and the bookkeeping after the loop (`finishGoal`) as equations,
    one for each branch; no assumption on the instance. -/
namespace Cyc

theorem mid_at {α : Type} (G : List α) (h : α) (new : List α) : (G ++ h :: new)[G.length]? = some h := by
  rw [List.getElem?_append_right (Nat.le_refl _), Nat.sub_self, List.getElem?_cons_zero]


theorem updateNode_mid (f : Node → Node) : ∀ (G : List Node) (h : Node) (new : List Node),
    updateNode f G.length (G ++ h :: new) = G ++ f h :: new
  | [], _, _ => rfl
  | a :: G, h, new => by
    simp only [List.length_cons, List.cons_append, updateNode]
    rw [updateNode_mid f G h new]

/-- the state after the bookkeeping at the end of an iteration in which the cycle flag was set -/
def afterRound (depth dfn : Nat) (cur : V) (s1 : St) : St :=
  { s1 with stack := setCycle false depth s1.stack,
            graph := updateNode (fun n => { n with solution := cur }) dfn s1.graph }

theorem solveNewSubgoal_step (inst : Instance) (cfg : Cfg) (rec : SubSolver) (g depth dfn r : Nat)
    (s s0 s1 : St) (cur : V) (m : Min) (e : StackEntry) (node : Node)
    (ht : tick cfg s = .ok () s0) (hi : solveIteration inst cfg rec g none s0 = .ok (cur, m) s1)
    (he : s1.stack[depth]? = some e) (hn : s1.graph[dfn]? = some node) :
    solveNewSubgoal inst cfg rec g depth dfn (r + 1) s =
      if !e.cycle then
        .ok m { s1 with graph := updateNode (fun n => { n with solution := cur }) dfn s1.graph }
      else if reachedFixedPoint node.solution cur then
        .ok m (if cfg.fixF10 && node.solution != cur then rollbackTo (dfn + 1) (afterRound depth dfn cur s1)
               else afterRound depth dfn cur s1)
      else solveNewSubgoal inst cfg rec g depth dfn r (rollbackTo (dfn + 1) (afterRound depth dfn cur s1)) := by
  simp only [solveNewSubgoal, ht, hi, he, hn, afterRound]

theorem solveNewSubgoal_tick_panic (inst : Instance) (cfg : Cfg) (rec : SubSolver) (g depth dfn r : Nat)
    (s s0 : St) (site : Site) (ht : tick cfg s = .panic site s0) :
    solveNewSubgoal inst cfg rec g depth dfn (r + 1) s = .panic site s0 := by
  simp only [solveNewSubgoal, ht]

theorem solveNewSubgoal_iter_panic (inst : Instance) (cfg : Cfg) (rec : SubSolver) (g depth dfn r : Nat)
    (s s0 s1 : St) (site : Site) (ht : tick cfg s = .ok () s0)
    (hi : solveIteration inst cfg rec g none s0 = .panic site s1) :
    solveNewSubgoal inst cfg rec g depth dfn (r + 1) s = .panic site s1 := by
  simp only [solveNewSubgoal, ht, hi]

/-- the bookkeeping of `solve_goal` after the loop returned -/
def finishGoal (cfg : Cfg) (m : Min) (depth dfn : Nat) (sub : Min) (s3 : St) : Res (V × Min) :=
  let s4 := { s3 with graph := updateNode (fun n => { n with links := sub, stackDepth := none }) dfn s3.graph }
  match pop depth s4 with
  | .panic site s' => .panic site s'
  | .ok () s5 =>
  let m' := Min.updateFrom m sub
  match s5.graph[dfn]? with
  | none => .panic .index s5
  | some node =>
    let result := node.solution
    if Min.ge sub dfn then
      match s5.cache with
      | some c =>
        if cfg.fixF3 && s5.interrupted then .ok (result, m') (rollbackTo dfn s5)
        else
          match moveToCache dfn c s5 with
          | .panic site s' => .panic site s'
          | .ok () s6 => .ok (result, m') s6
      | none => .ok (result, m') (rollbackTo dfn s5)
    else .ok (result, m') s5

/-- the state after `move_to_cache` -/
def cachedSt (s3 : St) (G : List Node) (cc6 : List (Nat × V)) : St :=
  { s3 with graph := G, stack := s3.stack.dropLast, cache := some cc6 }

/-- the state after the pop, with the graph `G` -/
def keptSt (s3 : St) (G : List Node) : St := { s3 with graph := G, stack := s3.stack.dropLast }

section
variable (cfg : Cfg) (m : Min) {depth : Nat} {G new3 : List Node} {h5 : Node} {sub : Min} {s3 : St}
  (hg : updateNode (fun n => { n with links := sub, stackDepth := none }) G.length s3.graph = G ++ h5 :: new3)
  (hpop : depth + 1 = s3.stack.length)
include hg hpop

/-- the node stays in the graph -/
theorem finishGoal_keep (hge : ¬ Min.ge sub G.length = true) :
    finishGoal cfg m depth G.length sub s3 =
      .ok (h5.solution, Min.updateFrom m sub) (keptSt s3 (G ++ h5 :: new3)) := by
  simp only [finishGoal, pop, hpop, if_true, hg, mid_at, hge, Bool.false_eq_true, if_false, keptSt]

/-- the nodes from `dfn` on are dropped: caching is disabled, or solving was interrupted (F3) -/
theorem finishGoal_discard (hge : Min.ge sub G.length = true)
    (hc : s3.cache = none ∨ (cfg.fixF3 && s3.interrupted) = true) :
    finishGoal cfg m depth G.length sub s3 = .ok (h5.solution, Min.updateFrom m sub) (keptSt s3 G) := by
  simp only [finishGoal, pop, hpop, if_true, hg, mid_at, hge, rollbackTo, List.take_left, keptSt]
  cases hc3 : s3.cache with
  | none => rfl
  | some cc => simp only [hc.resolve_left (by rw [hc3]; nofun), if_true]

/-- the nodes from `dfn` on are moved to the cache -/
theorem finishGoal_cache (hge : Min.ge sub G.length = true) {cc1 cc6 : List (Nat × V)} (hc3 : s3.cache = some cc1)
    (hand : (cfg.fixF3 && s3.interrupted) = false) (hdr : drainToCache G.length (h5 :: new3) cc1 = .ok cc6) :
    finishGoal cfg m depth G.length sub s3 = .ok (h5.solution, Min.updateFrom m sub) (cachedSt s3 G cc6) := by
  simp only [finishGoal, pop, hpop, if_true, hg, mid_at, hge, hc3, hand, Bool.false_eq_true, if_false,
    moveToCache, List.drop_left, List.take_left, hdr, cachedSt]

end

/-- the state on which the loop for a new goal starts -/
def pushed (inst : Instance) (g : Nat) (s : St) : St :=
  { s with stack := s.stack ++ [⟨inst.coind g, false⟩],
           graph := s.graph ++ [⟨g, initialValue (inst.coind g), some s.stack.length, some s.graph.length⟩] }

/-- the cache lookup at the head of `solve_goal` (`none` also when caching is disabled) -/
def cacheLookup (s : St) (g : Nat) : Option V :=
  match s.cache with
  | some c => cacheGet c g
  | none => none

theorem solveGoal_new (inst : Instance) (cfg : Cfg) (d g : Nat) (m : Min) (s s0 : St)
    (ht : tick cfg s = .ok () s0) (hc : cacheLookup s0 g = none)
    (hl : lookup s0.graph g = none) (hov : ¬ cfg.overflowDepth ≤ s0.stack.length) :
    solveGoal inst cfg (d + 1) g m s =
      match solveNewSubgoal inst cfg (solveGoal inst cfg d) g s0.stack.length s0.graph.length cfg.rounds
          (pushed inst g s0) with
      | .panic site s' => .panic site s'
      | .ok sub s3 => finishGoal cfg m s0.stack.length s0.graph.length sub s3 := by
  unfold cacheLookup at hc
  cases hcc : s0.cache with
  | none =>
    simp only [solveGoal, ht, hcc, hl, push, hov, if_false, pushed, finishGoal]
    rfl
  | some cc =>
    rw [hcc] at hc
    simp only at hc
    simp only [solveGoal, ht, hcc, hc, hl, push, hov, if_false, pushed, finishGoal]
    rfl

theorem solveGoal_cached (inst : Instance) (cfg : Cfg) (d g : Nat) (m : Min) (s s0 : St) (v : V)
    (ht : tick cfg s = .ok () s0) (hc : cacheLookup s0 g = some v) :
    solveGoal inst cfg (d + 1) g m s = .ok (v, m) s0 := by
  unfold cacheLookup at hc
  cases hcc : s0.cache with
  | none => rw [hcc] at hc; cases hc
  | some cc =>
    rw [hcc] at hc
    simp only at hc
    simp only [solveGoal, ht, hcc, hc]

theorem solveGoal_hit (inst : Instance) (cfg : Cfg) (d g : Nat) (m : Min) (s s0 : St)
    (ht : tick cfg s = .ok () s0) (hc : cacheLookup s0 g = none)
    (dfn : Nat) (hl : lookup s0.graph g = some dfn) (node : Node)
    (hn : s0.graph[dfn]? = some node) :
    solveGoal inst cfg (d + 1) g m s =
      match node.stackDepth with
      | some depth =>
        if s0.stack.length ≤ depth then .panic .index s0 else
        if mixedFrom (setCycle true depth s0.stack) depth then
          .ok (errorValue, m) { s0 with stack := setCycle true depth s0.stack }
        else .ok (node.solution, Min.updateFrom m node.links) { s0 with stack := setCycle true depth s0.stack }
      | none => .ok (node.solution, Min.updateFrom m node.links) s0 := by
  unfold cacheLookup at hc
  cases hcc : s0.cache with
  | none =>
    simp only [solveGoal, ht, hcc, hl, hn]
    rfl
  | some cc =>
    rw [hcc] at hc
    simp only at hc
    simp only [solveGoal, ht, hcc, hc, hl, hn]
    rfl

theorem solveGoal_tick_panic (inst : Instance) (cfg : Cfg) (d g : Nat) (m : Min) (s s0 : St) (site : Site)
    (ht : tick cfg s = .panic site s0) : solveGoal inst cfg (d + 1) g m s = .panic site s0 := by
  simp only [solveGoal, ht]

theorem solveGoal_overflow (inst : Instance) (cfg : Cfg) (d g : Nat) (m : Min) (s s0 : St)
    (ht : tick cfg s = .ok () s0) (hc : cacheLookup s0 g = none)
    (hl : lookup s0.graph g = none) (hov : cfg.overflowDepth ≤ s0.stack.length) :
    solveGoal inst cfg (d + 1) g m s = .panic .overflow s0 := by
  unfold cacheLookup at hc
  cases hcc : s0.cache with
  | none => simp only [solveGoal, ht, hcc, hl, push, hov, if_true]
  | some cc =>
    rw [hcc] at hc
    simp only at hc
    simp only [solveGoal, ht, hcc, hc, hl, push, hov, if_true]

theorem solveGoal_hit_index (inst : Instance) (cfg : Cfg) (d g : Nat) (m : Min) (s s0 : St)
    (ht : tick cfg s = .ok () s0) (hc : cacheLookup s0 g = none)
    (dfn : Nat) (hl : lookup s0.graph g = some dfn) (hn : s0.graph[dfn]? = none) :
    solveGoal inst cfg (d + 1) g m s = .panic .index s0 := by
  unfold cacheLookup at hc
  cases hcc : s0.cache with
  | none => simp only [solveGoal, ht, hcc, hl, hn]
  | some cc =>
    rw [hcc] at hc
    simp only at hc
    simp only [solveGoal, ht, hcc, hc, hl, hn]

end Cyc

section Main
variable {inst : Instance} {cfg : Cfg} {sem : Nat → V} {rank : Nat → Nat} {D : Nat}

def SubFits (inst : Instance) (rank : Nat → Nat) (cfg : Cfg) (D L g : Nat) : Prop :=
  ∀ alt, alt ∈ inst.deps g → ∀ c, c ∈ alt → Fits rank cfg D L c

theorem solveIteration_spec {rec : SubSolver} (hfix : cfg.fixF3 = true) (hsem : IsSem inst sem)
    (hrank : Ranked inst rank) (hrec : RecSpec sem rank cfg D rec) (g : Nat) (m : Min) (s : St)
    (hi : Inv sem s) (hrk : ∀ n, n ∈ s.graph → rank g ≤ rank n.goal) :
    (solveIteration inst cfg rec g m s).sat
      (fun r s' => Post sem s s' ∧ r.2 = m ∧ Approx s'.interrupted r.1 (sem g))
      (PanicOK sem cfg (SubFits inst rank cfg D s.stack.length g)) := by
  unfold solveIteration
  have hsc : (shouldContinue s).2.stack = s.stack ∧ (shouldContinue s).2.graph = s.graph ∧
      (shouldContinue s).2.cache = s.cache ∧ (shouldContinue s).2.interrupted = s.interrupted ∧
      (Quiet s → (shouldContinue s).1 = true ∧ Quiet (shouldContinue s).2) := by
    unfold shouldContinue
    cases ho : s.oracle with
    | nil => exact ⟨rfl, rfl, rfl, rfl, fun q => ⟨q.1, q⟩⟩
    | cons b rest =>
      refine ⟨rfl, rfl, rfl, rfl, fun q => ⟨q.2 b (by rw [ho]; exact List.mem_cons_self ..), q.1, ?_⟩⟩
      intro b' hb'
      exact q.2 b' (by rw [ho]; exact List.mem_cons_of_mem _ hb')
  cases hb : shouldContinue s with
  | mk b s1 =>
    rw [hb] at hsc
    obtain ⟨e1, e2, e3, e4, e5⟩ := hsc
    simp only at e1 e2 e3 e4 e5
    cases b with
    | false =>
      simp only [hfix, if_true, Res.sat_ok]
      refine ⟨Post.of_eq hi.cache e1 e2 e3 (fun _ => rfl) (fun q => by cases (e5 q).1), trivial,
        Or.inr ⟨rfl, rfl⟩⟩
    | true =>
      simp only []
      have hi1 : Inv sem s1 := hi.of_eq e1 e2 e3
      have hrk1 : ∀ alt, alt ∈ inst.deps g → ∀ c, c ∈ alt → ∀ n, n ∈ s1.graph → rank c < rank n.goal := by
        intro alt ha c hc n hn
        rw [e2] at hn
        exact Nat.lt_of_lt_of_le (hrank g alt ha c hc) (hrk n hn)
      have h1 := solveFromClauses_spec (cfg := cfg) hrec (inst.ground g) (inst.deps g) none m s1 hi1 hrk1
      cases hr : solveFromClauses cfg rec (inst.ground g) (inst.deps g) none m s1 with
      | panic site s' =>
        rw [hr] at h1
        exact PanicOK.mono h1 (fun hf alt ha c hc => by rw [e1]; exact hf alt ha c hc)
      | ok r s2 =>
        rw [hr] at h1
        obtain ⟨v, m'⟩ := r
        obtain ⟨hp, hm, rs', hal, hv⟩ := h1
        have hq1 : QuietStep s s1 := fun q => ⟨(e5 q).2, fun h => by rw [e4]; exact h⟩
        have hp' : Post sem s s2 :=
          ⟨hp.stack.trans e1, hp.graph.trans e2, hp.cache, by rw [hp.cacheOn, e3],
           fun e => hp.intr (by rw [e4]; exact e), hq1.trans hp.quiet⟩
        refine ⟨hp', hm, ?_⟩
        rw [hv, hsem g]
        exact clauseVal_approx _ _ _ _ _ _ hal trivial

/-- the loop of `solve_new_subgoal` on a ranked instance: one round, no cycle -/
theorem solveNewSubgoal_spec {rec : SubSolver} (hfix : cfg.fixF3 = true) (hsem : IsSem inst sem)
    (hrank : Ranked inst rank) (hrec : RecSpec sem rank cfg D rec) (g : Nat) (s : St)
    (S : List StackEntry) (e : StackEntry) (G : List Node) (nd : Node)
    (hs : s.stack = S ++ [e]) (hg : s.graph = G ++ [nd])
    (hi : Inv sem s) (hrk : ∀ n, n ∈ s.graph → rank g ≤ rank n.goal) :
    (solveNewSubgoal inst cfg rec g S.length G.length cfg.rounds s).sat
      (fun sub s' => sub = none ∧ s'.stack = s.stack ∧ CacheSound sem s' ∧
        s'.cache.isSome = s.cache.isSome ∧ (s.interrupted = true → s'.interrupted = true) ∧
        QuietStep s s' ∧
        ∃ v, s'.graph = G ++ [{ nd with solution := v }] ∧ Approx s'.interrupted v (sem g))
      (PanicOK sem cfg (SubFits inst rank cfg D s.stack.length g)) := by
  cases hr0 : cfg.rounds with
  | zero => exact ⟨hi.cache, hr0⟩
  | succ r =>
    cases ht : tick cfg s with
    | panic site s0 =>
      rw [Cyc.solveNewSubgoal_tick_panic inst cfg rec g _ _ r s s0 site ht]
      exact tick_panicOK ht hi.cache
    | ok u s0 =>
      have e0 := tick_ok cfg s s0 ht
      have hi0 : Inv sem s0 := by rw [e0]; exact hi.of_eq rfl rfl rfl
      have hq0 : QuietStep s s0 := by rw [e0]; exact QuietStep.of_eq rfl rfl rfl
      have hrk0 : ∀ n, n ∈ s0.graph → rank g ≤ rank n.goal := by rw [e0]; exact hrk
      have h1 := solveIteration_spec hfix hsem hrank hrec g none s0 hi0 hrk0
      cases hr : solveIteration inst cfg rec g none s0 with
      | panic site s' =>
        rw [hr] at h1
        rw [Cyc.solveNewSubgoal_iter_panic inst cfg rec g _ _ r s s0 s' site ht hr]
        exact PanicOK.mono h1 (fun hf => by rw [e0]; exact hf)
      | ok r1 s1 =>
        rw [hr] at h1
        obtain ⟨cur, m⟩ := r1
        obtain ⟨hp, hm, ha⟩ := h1
        subst hm
        have hst : s1.stack = S ++ [e] := by rw [hp.stack, e0]; exact hs
        have hgr : s1.graph = G ++ [nd] := by rw [hp.graph, e0]; exact hg
        have hec : e.cycle = false := hi.flags e (by rw [hs]; simp)
        rw [Cyc.solveNewSubgoal_step inst cfg rec g S.length G.length r s s0 s1 cur none e nd ht hr
          (by rw [hst]; exact Cyc.mid_at S e []) (by rw [hgr]; exact Cyc.mid_at G nd [])]
        simp only [hec, Bool.not_false, if_true, Res.sat_ok]
        refine ⟨trivial, ?_, hp.cache, ?_, ?_, ?_, cur, ?_, ha⟩
        · rw [hs]; exact hst
        · rw [hp.cacheOn, e0]
        · intro h; apply hp.intr; rw [e0]; exact h
        · exact hq0.trans (hp.quiet.trans (QuietStep.of_eq rfl rfl rfl))
        · simp only [hgr, Cyc.updateNode_mid]
theorem solveGoal_spec (hfix : cfg.fixF3 = true) (hsem : IsSem inst sem) (hrank : Ranked inst rank) :
    ∀ d, RecSpec sem rank cfg d (solveGoal inst cfg d)
  | 0 => by
    intro c m s hi _
    simp only [solveGoal, Res.sat_panic]
    exact ⟨hi.cache, fun hf => Nat.not_lt_zero _ hf.1⟩
  | d + 1 => by
    intro g m s hi hrk
    have ih := solveGoal_spec hfix hsem hrank d
    cases ht : tick cfg s with
    | panic site s0 =>
      rw [Cyc.solveGoal_tick_panic inst cfg d g m s s0 site ht]
      exact tick_panicOK ht hi.cache
    | ok u s0 =>
      have e0 := tick_ok cfg s s0 ht
      have hi0 : Inv sem s0 := by rw [e0]; exact hi.of_eq rfl rfl rfl
      have hp0 : Post sem s s0 := by
        rw [e0]; exact Post.of_eq hi.cache rfl rfl rfl id (QuietStep.of_eq rfl rfl rfl)
      cases hc : Cyc.cacheLookup s0 g with
      | some v =>
        rw [Cyc.solveGoal_cached inst cfg d g m s s0 v ht hc]
        refine ⟨hp0, rfl, Or.inl ?_⟩
        unfold Cyc.cacheLookup at hc
        cases hcc : s0.cache with
        | none => rw [hcc] at hc; cases hc
        | some c => rw [hcc] at hc; exact hi0.cache c hcc g v hc
      | none =>
        -- the goal is not in the search graph: all goals there have a larger rank
        have hl : lookup s0.graph g = none := lookupFrom_none g _ 0 (fun n hn e => by
          have := hrk n (by rw [e0] at hn; exact hn)
          rw [e] at this
          exact Nat.lt_irrefl _ this)
        have hlen : s0.stack.length = s.stack.length := by rw [e0]
        by_cases hov : cfg.overflowDepth ≤ s0.stack.length
        · rw [Cyc.solveGoal_overflow inst cfg d g m s s0 ht hc hl hov]
          refine ⟨hi0.cache, fun hf => ?_⟩
          have h2 := hf.2
          omega
        · rw [Cyc.solveGoal_new inst cfg d g m s s0 ht hc hl hov]
          have hi2 : Inv sem (Cyc.pushed inst g s0) := by
            refine ⟨?_, ?_, hi0.cache.of_eq rfl⟩
            · simp only [Cyc.pushed, List.length_append, List.length_singleton, hi0.len]
            · intro e he
              cases List.mem_append.mp he with
              | inl h => exact hi0.flags e h
              | inr h => rw [List.mem_singleton.mp h]
          have hrk2 : ∀ n, n ∈ (Cyc.pushed inst g s0).graph → rank g ≤ rank n.goal := by
            intro n hn
            cases List.mem_append.mp hn with
            | inl h => exact Nat.le_of_lt (hrk n (by rw [e0] at h; exact h))
            | inr h => rw [List.mem_singleton.mp h]; exact Nat.le_refl _
          have h1 := solveNewSubgoal_spec hfix hsem hrank ih g _ s0.stack _ s0.graph _ rfl rfl hi2 hrk2
          split
          · rename_i site s' hr
            rw [hr] at h1
            refine PanicOK.mono h1 (fun hf alt ha c hc => ?_)
            have hlt := hrank g alt ha c hc
            simp only [Cyc.pushed, List.length_append, List.length_singleton, hlen]
            exact ⟨by have := hf.1; omega, by have := hf.2; omega⟩
          · rename_i sub s3 hr
            rw [hr] at h1
            obtain ⟨hsub, hst3, hc3, hco3, hin3, hq3, v, hg3, ha3⟩ := h1
            subst hsub
            have hs0 : s0.stack = s.stack ∧ s0.graph = s.graph ∧ s0.cache = s.cache ∧
                s0.interrupted = s.interrupted := by rw [e0]; exact ⟨rfl, rfl, rfl, rfl⟩
            -- the context after the pop with the new node dropped
            have hk : Post sem s (Cyc.keptSt s3 s0.graph) :=
              ⟨by simp only [Cyc.keptSt, hst3, Cyc.pushed, List.dropLast_concat]; exact hs0.1, hs0.2.1,
               hc3.of_eq rfl, hco3.trans (congrArg Option.isSome hs0.2.2.1),
               fun h => hin3 (by rw [← hs0.2.2.2] at h; exact h),
               hp0.quiet.trans ((QuietStep.of_eq rfl rfl rfl).trans (hq3.trans (QuietStep.of_eq rfl rfl rfl)))⟩
            have hg := (congrArg (updateNode (fun n => { n with links := none, stackDepth := none })
              s0.graph.length) hg3).trans (Cyc.updateNode_mid _ _ _ [])
            have hpop : s0.stack.length + 1 = s3.stack.length := by
              rw [hst3]; simp only [Cyc.pushed, List.length_append, List.length_singleton]
            have hm : Min.updateFrom m none = m := by cases m <;> rfl
            by_cases hd : s3.cache = none ∨ (cfg.fixF3 && s3.interrupted) = true
            · rw [Cyc.finishGoal_discard cfg m hg hpop rfl hd]
              exact ⟨hk, hm, ha3⟩
            · cases hc : s3.cache with
              | none => exact absurd (Or.inl hc) hd
              | some c =>
                have hint : s3.interrupted = false := by
                  cases h : s3.interrupted with
                  | false => rfl
                  | true => exact absurd (Or.inr (by rw [hfix, h]; rfl)) hd
                have hv : v = sem g := by rw [hint] at ha3; exact ha3.exact
                rw [Cyc.finishGoal_cache cfg m hg hpop rfl hc (by rw [hint, Bool.and_false]) rfl]
                refine ⟨⟨hk.stack, hk.graph, ?_, ?_, hk.intr, hk.quiet⟩, hm, Or.inl hv⟩
                · intro c' h k v' hk'
                  cases h
                  rw [cacheGet_insert] at hk'
                  by_cases hgk : g = k
                  · simp only [hgk, if_true, Option.some.injEq] at hk'
                    rw [← hk', ← hgk]; exact hv
                  · simp only [hgk, if_false] at hk'
                    exact hc3 c hc k v' hk'
                · have h := hk.cacheOn
                  rw [show (Cyc.keptSt s3 s0.graph).cache = some c from hc] at h
                  exact h
/-- `solve_root_goal` of the repaired code (F3, F7) is `solve_goal` from an empty stack and graph -/
theorem solveRootGoal_ok (h3 : cfg.fixF3 = true) (h7 : cfg.fixF7 = true) {g : Nat} {s s' : St} {v : V} {m : Min}
    (hrun : solveGoal inst cfg (cfg.overflowDepth + 1) g none
      { s with stack := [], graph := [], interrupted := false } = .ok (v, m) s') :
    solveRootGoal inst cfg g s = .ok v s' := by
  unfold solveRootGoal
  simp only [h7, h3, Bool.not_true, Bool.false_and, Bool.false_eq_true, if_false, if_true]
  rw [hrun]

theorem solveRootGoal_panic (h3 : cfg.fixF3 = true) (h7 : cfg.fixF7 = true) {g : Nat} {s s' : St} {site : Site}
    (hrun : solveGoal inst cfg (cfg.overflowDepth + 1) g none
      { s with stack := [], graph := [], interrupted := false } = .panic site s') :
    solveRootGoal inst cfg g s = .panic site s' := by
  unfold solveRootGoal
  simp only [h7, h3, Bool.not_true, Bool.false_and, Bool.false_eq_true, if_false, if_true]
  rw [hrun]

/-- `solve_root_goal` of the repaired code on a ranked instance, from any context whose cache is
    sound (in particular the one a panic left behind) -/
theorem solveRootGoal_spec (h3 : cfg.fixF3 = true) (h7 : cfg.fixF7 = true) (hsem : IsSem inst sem)
    (hrank : Ranked inst rank) (g : Nat) (s : St) (hc : CacheSound sem s) :
    (solveRootGoal inst cfg g s).sat
      (fun v s' => s'.stack = [] ∧ s'.graph = [] ∧ CacheSound sem s' ∧
        s'.cache.isSome = s.cache.isSome ∧ Approx s'.interrupted v (sem g) ∧
        (Quiet s → s'.interrupted = false))
      (PanicOK sem cfg (rank g < cfg.overflowDepth)) := by
  have hi : Inv sem { s with stack := [], graph := [], interrupted := false } :=
    ⟨rfl, fun e he => (by cases he), hc.of_eq rfl⟩
  have h1 := solveGoal_spec h3 hsem hrank (cfg.overflowDepth + 1) g none _ hi (fun n hn => by cases hn)
  cases hr : solveGoal inst cfg (cfg.overflowDepth + 1) g none
      { s with stack := [], graph := [], interrupted := false } with
  | panic site s' =>
    rw [hr] at h1
    rw [solveRootGoal_panic h3 h7 hr]
    exact PanicOK.mono h1 (fun hf => ⟨Nat.lt_succ_of_lt hf, by simpa using hf⟩)
  | ok r s' =>
    rw [hr] at h1
    obtain ⟨v, m⟩ := r
    rw [solveRootGoal_ok h3 h7 hr]
    obtain ⟨hp, _, ha⟩ := h1
    refine ⟨hp.stack, hp.graph, hp.cache, hp.cacheOn, ha, fun q => ?_⟩
    exact (hp.quiet q).2 rfl

end Main

end Spec

section History
variable {inst : Instance} {cfg : Cfg} {sem : Nat → V} {rank : Nat → Nat}

def Call.Uninterrupted (c : Call) : Prop := c.dflt = true ∧ ∀ b, b ∈ c.oracle → b = true

theorem runCall_spec (h3 : cfg.fixF3 = true) (h7 : cfg.fixF7 = true) (hsem : IsSem inst sem)
    (hrank : Ranked inst rank) (c : Call) (s : St) (hc : CacheSound sem s) :
    (runCall inst cfg c s).sat
      (fun v s' => CacheSound sem s' ∧ s'.cache.isSome = s.cache.isSome ∧
        Approx s'.interrupted v (sem c.goal) ∧ (c.Uninterrupted → v = sem c.goal))
      (PanicOK sem { cfg with budget := c.budget } (rank c.goal < cfg.overflowDepth)) := by
  unfold runCall
  have h1 := solveRootGoal_spec (cfg := { cfg with budget := c.budget }) (inst := inst) (rank := rank)
    h3 h7 hsem hrank c.goal { s with oracle := c.oracle, oracleDefault := c.dflt, work := 0 } (hc.of_eq rfl)
  cases hr : solveRootGoal inst { cfg with budget := c.budget } c.goal
      { s with oracle := c.oracle, oracleDefault := c.dflt, work := 0 } with
  | panic site s' => rw [hr] at h1; simpa using h1
  | ok v s' =>
    rw [hr] at h1
    obtain ⟨_, _, hcs, hco, ha, hq⟩ := h1
    refine ⟨hcs, hco, ha, fun hu => ?_⟩
    have : s'.interrupted = false := hq hu
    rw [this] at ha
    exact ha.exact

theorem runHistory_sound (h3 : cfg.fixF3 = true) (h7 : cfg.fixF7 = true) (hsem : IsSem inst sem)
    (hrank : Ranked inst rank) : ∀ (h : List Call) (s : St), CacheSound sem s →
      CacheSound sem (runHistory inst cfg h s)
  | [], _, hc => hc
  | c :: cs, s, hc => by
    simp only [runHistory]
    apply runHistory_sound h3 h7 hsem hrank cs
    have h1 := runCall_spec h3 h7 hsem hrank c s hc
    cases hr : runCall inst cfg c s with
    | panic site s' => rw [hr] at h1; simp only [Res.sat_panic] at h1; simpa [Res.state] using h1.1
    | ok v s' => rw [hr] at h1; simp only [Res.sat_ok] at h1; simpa [Res.state] using h1.1

theorem fresh_sound (sem : Nat → V) (caching : Bool) : CacheSound sem (St.fresh caching) := by
  intro c hc k v hk
  cases caching with
  | false => cases hc
  | true =>
    simp only [St.fresh, if_true, Option.some.injEq] at hc
    subst hc
    cases hk

/-- any call on a solver with any history: the answer is the semantic value, or `ambig` -/
theorem history_answer (h3 : cfg.fixF3 = true) (h7 : cfg.fixF7 = true) (hsem : IsSem inst sem)
    (hrank : Ranked inst rank) (h : List Call) (caching : Bool) (c : Call) (v : V)
    (hv : (runCall inst cfg c (runHistory inst cfg h (St.fresh caching))).outcome = .value v) :
    (v = sem c.goal ∨ v = .ambig) ∧ (c.Uninterrupted → v = sem c.goal) := by
  have hs := runHistory_sound h3 h7 hsem hrank h (St.fresh caching) (fresh_sound sem caching)
  have h1 := runCall_spec h3 h7 hsem hrank c _ hs
  cases hr : runCall inst cfg c (runHistory inst cfg h (St.fresh caching)) with
  | panic site s' => rw [hr] at hv; cases hv
  | ok v' s' =>
    rw [hr] at h1 hv
    simp only [Res.outcome, Outcome.value.injEq] at hv
    subst hv
    refine ⟨?_, h1.2.2.2⟩
    cases h1.2.2.1 with
    | inl e => exact Or.inl e
    | inr e => exact Or.inr e.2

/-- TOTALITY on ranked instances: a call without work budget on a solver with any history
    returns a value — no assert of the framework fires, the loop of `solve_new_subgoal` runs one
    round per goal — provided the goal's rank fits under the overflow depth (and at least one
    round of loop fuel, and the `fixF16` repair: the legacy `unwrap` can still fire under a
    non-monotone callback) -/
theorem history_call_returns (h3 : cfg.fixF3 = true) (h7 : cfg.fixF7 = true) (h16 : cfg.fixF16 = true)
    (hr : 1 ≤ cfg.rounds) (hsem : IsSem inst sem) (hrank : Ranked inst rank) (h : List Call)
    (caching : Bool) (c : Call) (hb : c.budget = none) (hfit : rank c.goal < cfg.overflowDepth) :
    ∃ v, (runCall inst cfg c (runHistory inst cfg h (St.fresh caching))).outcome = .value v := by
  have hs := runHistory_sound h3 h7 hsem hrank h (St.fresh caching) (fresh_sound sem caching)
  have h1 := runCall_spec h3 h7 hsem hrank c _ hs
  cases hr' : runCall inst cfg c (runHistory inst cfg h (St.fresh caching)) with
  | ok v s' => exact ⟨v, rfl⟩
  | panic site s' =>
    rw [hr'] at h1
    have h2 := h1.2
    exfalso
    cases site <;> simp_all

end History

/-- values by `fuel` unfoldings of the equations -/
def semFuel (inst : Instance) : Nat → Nat → V
  | 0, _ => .noSolution
  | f + 1, g => clauseVal (inst.ground g) ((inst.deps g).map (fun alt => altVal (alt.map (semFuel inst f)))) none

theorem altVals_congr {f f' : Nat → V} (alts : List (List Nat))
    (h : ∀ alt, alt ∈ alts → ∀ c, c ∈ alt → f c = f' c) :
    alts.map (fun alt => altVal (alt.map f)) = alts.map (fun alt => altVal (alt.map f')) :=
  List.map_congr_left fun alt ha => congrArg altVal (List.map_congr_left (h alt ha))

theorem semFuel_stable (inst : Instance) (rank : Nat → Nat) (hrank : Ranked inst rank) :
    ∀ (n g f : Nat), rank g < n → rank g < f → semFuel inst f g = semFuel inst (rank g + 1) g
  | 0, _, _, h, _ => by cases h
  | n + 1, g, f, hn, hf => by
    cases f with
    | zero => cases hf
    | succ f =>
      simp only [semFuel]
      refine congrArg (clauseVal (inst.ground g) · none) (altVals_congr _ fun alt halt c hc => ?_)
      have hlt := hrank g alt halt c hc
      have hcn : rank c < n := Nat.lt_of_lt_of_le hlt (Nat.le_of_lt_succ hn)
      rw [semFuel_stable inst rank hrank n c f hcn (Nat.lt_of_lt_of_le hlt (Nat.le_of_lt_succ hf)),
        semFuel_stable inst rank hrank n c (rank g) hcn hlt]

def semOf (inst : Instance) (rank : Nat → Nat) (g : Nat) : V := semFuel inst (rank g + 1) g

theorem semOf_isSem (inst : Instance) (rank : Nat → Nat) (hrank : Ranked inst rank) :
    IsSem inst (semOf inst rank) := by
  intro g
  simp only [semOf, semFuel]
  refine congrArg (clauseVal (inst.ground g) · none) (altVals_congr _ fun alt halt c hc => ?_)
  have hlt := hrank g alt halt c hc
  exact semFuel_stable inst rank hrank (rank g) c (rank g) hlt hlt

def rankedB (t : List (Bool × Bool × List (List Nat))) (rank : Nat → Nat) : Bool :=
  (List.range t.length).all (fun g =>
    match t[g]? with
    | some (_, _, alts) => alts.all (fun alt => alt.all (fun c => decide (rank c < rank g)))
    | none => true)

theorem ranked_of_table (t : List (Bool × Bool × List (List Nat))) (rank : Nat → Nat)
    (h : rankedB t rank = true) : Ranked (Instance.ofTable t) rank := by
  intro g alt halt c hc
  simp only [Instance.ofTable] at halt
  cases hg : t[g]? with
  | none => rw [hg] at halt; cases halt
  | some e =>
    obtain ⟨co, gr, alts⟩ := e
    rw [hg] at halt
    simp only at halt
    have hlt : g < t.length := by
      rcases Nat.lt_or_ge g t.length with h' | h'
      · exact h'
      · rw [List.getElem?_eq_none h'] at hg; cases hg
    unfold rankedB at h
    rw [List.all_eq_true] at h
    have := h g (List.mem_range.mpr hlt)
    rw [hg] at this
    simp only [List.all_eq_true, decide_eq_true_eq] at this
    exact this alt halt c hc

end Chalk.FixedPoint
