/-
  The union-find forest of `Infer.lean`: `find` reaches a root with fuel `parent.length` on
  well-formed tables (`Table.WF`); what `new`, `newVariable`, `newUniverse` and the linking of two
  roots do to `find`, `probeVar` and `Table.WF`.
-/
import ChalkModel.Lemmas.UnifyDefs
import ChalkModel.Lemmas.ListLemmas

namespace Chalk

def Table.isRoot (t : Table) (v : Nat) : Prop := t.parent.getD v v = v

theorem Table.findFuel_step (t : Table) (k v : Nat) (h : ¬ t.isRoot v) :
    t.findFuel (k + 1) v = t.findFuel k (t.parent.getD v v) := by
  show (if t.parent.getD v v = v then v else t.findFuel k (t.parent.getD v v)) = _
  exact if_neg h

theorem Table.findFuel_of_root (t : Table) (k v : Nat) (h : t.isRoot v) : t.findFuel k v = v := by
  cases k with
  | zero => rfl
  | succ k =>
    show (if t.parent.getD v v = v then v else t.findFuel k (t.parent.getD v v)) = _
    exact if_pos h

theorem Table.findFuel_succ_of_root (t : Table) :
    ∀ (k v : Nat), t.isRoot (t.findFuel k v) → t.findFuel (k + 1) v = t.findFuel k v := by
  intro k
  induction k with
  | zero => intro v h; exact t.findFuel_of_root 1 v h
  | succ k ih =>
    intro v h
    by_cases hp : t.parent.getD v v = v
    · rw [t.findFuel_of_root _ v hp, t.findFuel_of_root _ v hp]
    · have e1 := t.findFuel_step k v hp
      have e2 := t.findFuel_step (k + 1) v hp
      rw [e2, e1]; rw [e1] at h; exact ih _ h

theorem Table.findFuel_congr (t t' : Table) (h : t.parent = t'.parent) :
    ∀ (k v : Nat), t.findFuel k v = t'.findFuel k v := by
  intro k
  induction k with
  | zero => intro v; rfl
  | succ k ih =>
    intro v
    show (if t.parent.getD v v = v then v else t.findFuel k (t.parent.getD v v)) =
      (if t'.parent.getD v v = v then v else t'.findFuel k (t'.parent.getD v v))
    rw [h, ih]

theorem Table.find_congr (t t' : Table) (h : t.parent = t'.parent) (v : Nat) :
    t.find v = t'.find v := by
  simp [Table.find, h, t.findFuel_congr t' h]

/-- number of variables of rank above `r`: ranks strictly increase along parent links, so this
    many steps from a variable of rank `r` reach a root -/
def Table.above (t : Table) (r : Nat) : Nat := t.rank.countP (fun x => decide (r < x))

theorem Table.above_le (t : Table) (r : Nat) : t.above r ≤ t.rank.length := List.countP_le_length

theorem Table.above_parent_lt (t : Table) (hwf : t.WF) (v : Nat) (hv : v < t.parent.length)
    (hnr : ¬ t.isRoot v) :
    t.above (t.rank.getD (t.parent.getD v v) 0) < t.above (t.rank.getD v 0) := by
  have hlt := hwf.rankInc v hv hnr
  have hp := hwf.parentLt v hv
  refine countP_lt_of (x := t.rank.getD (t.parent.getD v v) 0)
    (fun x _ hx => decide_eq_true (Nat.lt_trans hlt (of_decide_eq_true hx)))
    (getD_mem _ _ _ (by rw [hwf.lenRank]; exact hp)) (decide_eq_true hlt)
    (decide_eq_false (Nat.lt_irrefl _))

theorem Table.findFuel_reaches (t : Table) (hwf : t.WF) :
    ∀ (k v : Nat), v < t.parent.length → t.above (t.rank.getD v 0) ≤ k →
      t.findFuel k v < t.parent.length ∧ t.isRoot (t.findFuel k v) := by
  intro k
  induction k with
  | zero =>
    intro v hv hk
    by_cases hr : t.isRoot v
    · exact ⟨hv, hr⟩
    · have := t.above_parent_lt hwf v hv hr; omega
  | succ k ih =>
    intro v hv hk
    by_cases hr : t.isRoot v
    · rw [t.findFuel_of_root _ v hr]; exact ⟨hv, hr⟩
    · have hlt := t.above_parent_lt hwf v hv hr
      have e := t.findFuel_step k v hr
      rw [e]
      exact ih _ (hwf.parentLt v hv) (by omega)

theorem Table.find_lt (t : Table) (hwf : t.WF) (v : Nat) (hv : v < t.numVars) :
    t.find v < t.numVars :=
  (t.findFuel_reaches hwf _ v hv (by have := t.above_le (t.rank.getD v 0); rw [hwf.lenRank] at this; exact this)).1

theorem Table.find_isRoot (t : Table) (hwf : t.WF) (v : Nat) (hv : v < t.numVars) :
    t.isRoot (t.find v) :=
  (t.findFuel_reaches hwf _ v hv (by have := t.above_le (t.rank.getD v 0); rw [hwf.lenRank] at this; exact this)).2

theorem Table.find_of_root (t : Table) (v : Nat) (h : t.isRoot v) : t.find v = v :=
  t.findFuel_of_root _ v h

theorem Table.find_ge (t : Table) (v : Nat) (h : t.numVars ≤ v) : t.find v = v :=
  t.find_of_root v (getD_of_le _ _ _ h)

theorem Table.find_find (t : Table) (hwf : t.WF) (v : Nat) (hv : v < t.numVars) :
    t.find (t.find v) = t.find v :=
  t.find_of_root _ (t.find_isRoot hwf v hv)

theorem Table.find_parent (t : Table) (hwf : t.WF) (v : Nat) (hv : v < t.numVars) :
    t.find (t.parent.getD v v) = t.find v := by
  by_cases hr : t.isRoot v
  · have : t.parent.getD v v = v := hr
    rw [this]
  · have hlt := t.above_parent_lt hwf v hv hr
    have hle := t.above_le (t.rank.getD v 0)
    rw [hwf.lenRank] at hle
    unfold Table.numVars at hv
    unfold Table.find
    obtain ⟨m, hm⟩ : ∃ m, t.parent.length = m + 1 := ⟨t.parent.length - 1, by omega⟩
    rw [hm]
    have e := t.findFuel_step m v hr
    rw [e]
    exact t.findFuel_succ_of_root m _ (t.findFuel_reaches hwf m _ (hwf.parentLt v hv) (by omega)).2

theorem Table.find_induct (t : Table) (hwf : t.WF) (P : Nat → Nat → Prop)
    (hroot : ∀ v, v < t.numVars → t.isRoot v → P v v)
    (hstep : ∀ v r, v < t.numVars → ¬ t.isRoot v → P (t.parent.getD v v) r → P v r) :
    ∀ v, v < t.numVars → P v (t.find v) := by
  have key : ∀ (k v : Nat), v < t.numVars → t.isRoot (t.findFuel k v) → P v (t.findFuel k v) := by
    intro k
    induction k with
    | zero => intro v hv hr; exact hroot v hv hr
    | succ k ih =>
      intro v hv hr
      by_cases hrv : t.isRoot v
      · rw [t.findFuel_of_root _ v hrv]; exact hroot v hv hrv
      · have e := t.findFuel_step k v hrv
        rw [e] at hr ⊢
        exact hstep v _ hv hrv (ih _ (hwf.parentLt v hv) hr)
  intro v hv
  exact key _ v hv (t.find_isRoot hwf v hv)

def InferValue.toOpt : InferValue → Option GArg
  | .unbound _ => none
  | .bound g => some g

theorem Table.probeVar_eq (t : Table) (v : Nat) :
    t.probeVar v = (t.value.getD (t.find v) (.unbound 0)).toOpt := by
  unfold Table.probeVar Table.probeValue
  split <;> rename_i h <;> rw [h] <;> rfl

theorem Table.probeVar_find (t : Table) (hwf : t.WF) (v : Nat) (hv : v < t.numVars) :
    t.probeVar (t.find v) = t.probeVar v := by
  rw [Table.probeVar_eq, Table.probeVar_eq, t.find_find hwf v hv]

theorem Table.probeValue_of_probeVar_none (t : Table) (x : Nat) (h : t.probeVar x = none) :
    ∃ ui, t.probeValue x = .unbound ui := by
  rw [Table.probeVar_eq] at h
  cases hv : t.probeValue x with
  | unbound ui => exact ⟨ui, rfl⟩
  | bound g => rw [show t.value.getD (t.find x) (.unbound 0) = .bound g from hv] at h; cases h

theorem unifyValues_spec (x y z : InferValue) (h : unifyValues x y = .ok z) :
    (∀ g, x.toOpt = some g → z.toOpt = some g) ∧ (∀ g, y.toOpt = some g → z.toOpt = some g) ∧
    (∀ g, z.toOpt = some g → x.toOpt = some g ∨ y.toOpt = some g) ∧
    (x.toOpt = none ∨ y.toOpt = none) := by
  cases x <;> cases y <;> simp [unifyValues] at h <;> subst h <;> simp [InferValue.toOpt]

theorem Table.new_WF : Table.new.WF :=
  ⟨rfl, rfl, fun v hv => absurd hv (Nat.not_lt_zero v), fun v hv => absurd hv (Nat.not_lt_zero v)⟩

theorem Table.newVariable_numVars (t : Table) (ui : Nat) :
    (t.newVariable ui).1.numVars = t.numVars + 1 := by
  simp [Table.newVariable, Table.numVars]

theorem Table.newVariable_snd (t : Table) (ui : Nat) : (t.newVariable ui).2 = t.numVars := rfl

theorem Table.newVariable_maxUniverse (t : Table) (ui : Nat) :
    (t.newVariable ui).1.maxUniverse = t.maxUniverse := rfl

theorem Table.newVariable_parent_old (t : Table) (ui v : Nat) (hv : v < t.numVars) :
    (t.newVariable ui).1.parent.getD v v = t.parent.getD v v :=
  getD_append_lt _ _ _ _ hv

theorem Table.newVariable_WF (t : Table) (ui : Nat) (h : t.WF) : (t.newVariable ui).1.WF := by
  refine ⟨?_, ?_, ?_, ?_⟩
  · simp [Table.newVariable, h.lenRank]
  · simp [Table.newVariable, h.lenValue]
  · intro v hv
    show (t.parent ++ [t.parent.length]).getD v v < (t.parent ++ [t.parent.length]).length
    have hlen : (t.parent ++ [t.parent.length]).length = t.parent.length + 1 := by simp
    rw [hlen]
    have hv' : v < t.parent.length + 1 := by rw [← hlen]; exact hv
    by_cases hlt : v < t.parent.length
    · rw [getD_append_lt _ _ _ _ hlt]; have := h.parentLt v hlt; omega
    · have : v = t.parent.length := by omega
      subst this; rw [getD_append_len]; omega
  · intro v hv hne
    have hlen : (t.parent ++ [t.parent.length]).length = t.parent.length + 1 := by simp
    have hv' : v < t.parent.length + 1 := by rw [← hlen]; exact hv
    show (t.rank ++ [0]).getD v 0 < (t.rank ++ [0]).getD ((t.parent ++ [t.parent.length]).getD v v) 0
    have hne' : (t.parent ++ [t.parent.length]).getD v v ≠ v := hne
    by_cases hlt : v < t.parent.length
    · rw [getD_append_lt _ _ _ _ hlt] at hne' ⊢
      have hp := h.parentLt v hlt
      rw [getD_append_lt _ _ _ _ (by rw [h.lenRank]; exact hlt),
          getD_append_lt _ _ _ _ (by rw [h.lenRank]; exact hp)]
      exact h.rankInc v hlt hne'
    · have : v = t.parent.length := by omega
      subst this; rw [getD_append_len] at hne'; exact absurd rfl hne'

theorem Table.newVariable_find_old (t : Table) (ui : Nat) (h : t.WF) :
    ∀ v, v < t.numVars → (t.newVariable ui).1.find v = t.find v := by
  have hwf' := t.newVariable_WF ui h
  refine t.find_induct h (fun v r => (t.newVariable ui).1.find v = r) ?_ ?_
  · intro v hv hr
    apply Table.find_of_root
    show (t.newVariable ui).1.parent.getD v v = v
    rw [t.newVariable_parent_old ui v hv]; exact hr
  · intro v r hv _ ih
    have hv' : v < (t.newVariable ui).1.numVars := by rw [t.newVariable_numVars]; omega
    rw [← (t.newVariable ui).1.find_parent hwf' v hv', t.newVariable_parent_old ui v hv]
    exact ih

theorem Table.newVariable_find_new (t : Table) (ui : Nat) :
    (t.newVariable ui).1.find t.numVars = t.numVars := by
  apply Table.find_of_root
  show (t.parent ++ [t.parent.length]).getD t.parent.length t.parent.length = t.parent.length
  rw [getD_append_len]

theorem Table.newVariable_find (t : Table) (ui : Nat) (hwf : t.WF) (v : Nat) :
    (t.newVariable ui).1.find v = t.find v := by
  by_cases h1 : v < t.numVars
  · exact t.newVariable_find_old ui hwf v h1
  · by_cases h2 : v = t.numVars
    · subst h2; rw [t.newVariable_find_new, t.find_ge _ (Nat.le_refl _)]
    · rw [Table.find_ge _ v (by rw [t.newVariable_numVars]; omega), t.find_ge v (by omega)]

theorem Table.newVariable_probeVar_old (t : Table) (ui : Nat) (h : t.WF) (v : Nat) (hv : v < t.numVars) :
    (t.newVariable ui).1.probeVar v = t.probeVar v := by
  rw [Table.probeVar_eq, Table.probeVar_eq, t.newVariable_find_old ui h v hv]
  have := t.find_lt h v hv
  show ((t.value ++ [InferValue.unbound ui]).getD (t.find v) (.unbound 0)).toOpt = _
  rw [getD_append_lt _ _ _ _ (by rw [h.lenValue]; exact this)]

theorem Table.newVariable_probeVar_new (t : Table) (ui : Nat) (h : t.WF) :
    (t.newVariable ui).1.probeVar t.numVars = none := by
  rw [Table.probeVar_eq, t.newVariable_find_new ui]
  show ((t.value ++ [InferValue.unbound ui]).getD t.parent.length (.unbound 0)).toOpt = _
  rw [← h.lenValue, getD_append_len]; rfl

theorem Table.newVariable_probeVar_some (t : Table) (ui : Nat) (h : t.WF) {v : Nat} {g : GArg}
    (hv : v < (t.newVariable ui).1.numVars) (hp : (t.newVariable ui).1.probeVar v = some g) :
    v < t.numVars ∧ t.probeVar v = some g := by
  rw [t.newVariable_numVars] at hv
  by_cases hlt : v < t.numVars
  · exact ⟨hlt, by rw [← t.newVariable_probeVar_old ui h v hlt]; exact hp⟩
  · obtain rfl : v = t.numVars := by omega
    rw [t.newVariable_probeVar_new ui h] at hp; cases hp

theorem Table.newUniverse_WF (t : Table) (h : t.WF) : t.newUniverse.1.WF :=
  ⟨h.lenRank, h.lenValue, h.parentLt, h.rankInc⟩

theorem Table.newUniverse_probeVar (t : Table) (v : Nat) : t.newUniverse.1.probeVar v = t.probeVar v := by
  rw [Table.probeVar_eq, Table.probeVar_eq, Table.find_congr t.newUniverse.1 t rfl v]
  rfl

/-- What the three branches of `unifyVarVar` (link direction, rank bump) have in common: root `ra` is
    redirected to root `rb`, only `rb`'s rank may change, it does not shrink and ends above `ra`'s. -/
theorem Table.link_spec (t t' : Table) (ra rb : Nat) (hwf : t.WF)
    (hra : ra < t.numVars) (hrb : rb < t.numVars) (rra : t.isRoot ra) (rrb : t.isRoot rb)
    (hne : ra ≠ rb)
    (hp : t'.parent = t.parent.set ra rb) (hrl : t'.rank.length = t.rank.length)
    (hr : ∀ v, v ≠ rb → t'.rank.getD v 0 = t.rank.getD v 0)
    (hrb1 : t.rank.getD rb 0 ≤ t'.rank.getD rb 0) (hrb2 : t.rank.getD ra 0 < t'.rank.getD rb 0)
    (hvl : t'.value.length = t.value.length) :
    t'.WF ∧ ∀ v, v < t.numVars → t'.find v = if t.find v = ra then rb else t.find v := by
  have hlen : t'.parent.length = t.parent.length := by rw [hp]; simp
  have hpa : t'.parent.getD ra ra = rb := by rw [hp]; exact getD_set_eq _ _ _ _ hra
  have hpo : ∀ v, v ≠ ra → t'.parent.getD v v = t.parent.getD v v := by
    intro v hv; rw [hp]; exact getD_set_ne _ _ _ _ _ (Ne.symm hv)
  have hwf' : t'.WF := by
    refine ⟨by rw [hrl, hlen, hwf.lenRank], by rw [hvl, hlen, hwf.lenValue], ?_, ?_⟩
    · intro v hv
      rw [hlen] at hv ⊢
      by_cases hva : v = ra
      · subst hva; rw [hpa]; exact hrb
      · rw [hpo v hva]; exact hwf.parentLt v hv
    · intro v hv hnr
      rw [hlen] at hv
      by_cases hva : v = ra
      · subst hva; rw [hpa, hr v hne]; exact hrb2
      · rw [hpo v hva] at hnr ⊢
        have hvb : v ≠ rb := by intro e; subst e; exact hnr rrb
        rw [hr v hvb]
        have := hwf.rankInc v hv hnr
        by_cases hpb : t.parent.getD v v = rb
        · rw [hpb] at this ⊢; omega
        · rw [hr _ hpb]; exact this
  refine ⟨hwf', ?_⟩
  have hnum : t'.numVars = t.numVars := hlen
  have hrb' : t'.find rb = rb := by
    apply Table.find_of_root
    show t'.parent.getD rb rb = rb
    rw [hpo rb (Ne.symm hne)]; exact rrb
  refine t.find_induct hwf (fun v r => t'.find v = if r = ra then rb else r) ?_ ?_
  · intro v hv hroot
    by_cases hva : v = ra
    · subst hva
      rw [if_pos rfl, ← t'.find_parent hwf' v (by rw [hnum]; exact hv), hpa]; exact hrb'
    · rw [if_neg hva]
      apply Table.find_of_root
      show t'.parent.getD v v = v
      rw [hpo v hva]; exact hroot
  · intro v r hv hnr ih
    have hva : v ≠ ra := by intro e; subst e; exact hnr rra
    rw [← t'.find_parent hwf' v (by rw [hnum]; exact hv), hpo v hva]; exact ih

end Chalk
