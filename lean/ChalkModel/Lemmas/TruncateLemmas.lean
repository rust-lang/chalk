/-
  Lemmas about the model of `TySizeVisitor` (`Truncate.lean`): the stateful traversal computes the
  pure specification (`tyNodes`, `maxNodes` of the top-level types).
-/
import ChalkModel.Truncate

namespace Chalk.Truncate

@[simp] theorem St.enter_mk (s d m : Nat) : St.enter ⟨s, d, m⟩ = ⟨s + 1, d + 1, max (s + 1) m⟩ := rfl

@[simp] theorem St.leave_mk_one (s m : Nat) : St.leave ⟨s, 1, m⟩ = ⟨0, 0, m⟩ := rfl

@[simp] theorem visitLifetime_eq (s : St) (l : Lifetime) : visitLifetime s l = s := by
  cases l <;> rfl

@[simp] theorem visitConst_eq (s : St) (c : Const) : visitConst s c = s := by
  cases c with
  | mk ty v => cases v <;> rfl

/-- Inside a type (`depth > 0`) and with `size ≤ max_size`, `f` adds `k` to `size` and records the
    new size in `max_size`. -/
def Adds (f : St → St) (k : Nat) : Prop :=
  ∀ s d m, s ≤ m → f ⟨s, d + 1, m⟩ = ⟨s + k, d + 1, max m (s + k)⟩

theorem Adds.id : Adds (fun st => st) 0 :=
  fun _ _ _ h => congrArg _ (Nat.max_eq_left h).symm

theorem Adds.lifetime (l : Lifetime) : Adds (visitLifetime · l) 0 :=
  fun s d m h => (visitLifetime_eq _ l).trans (Adds.id s d m h)

theorem Adds.const (c : Const) : Adds (visitConst · c) 0 :=
  fun s d m h => (visitConst_eq _ c).trans (Adds.id s d m h)

theorem Adds.comp {f g : St → St} {a b : Nat} (hf : Adds f a) (hg : Adds g b) :
    Adds (fun st => g (f st)) (a + b) := by
  intro s d m h
  show g (f _) = _
  rw [hf s d m h, hg _ _ _ (Nat.le_max_right ..), Nat.add_assoc, Nat.max_assoc,
    Nat.max_eq_right (Nat.add_le_add_left (Nat.le_add_right a b) s)]

theorem Adds.comp_zero {f g : St → St} {b : Nat} (hf : Adds f 0) (hg : Adds g b) :
    Adds (fun st => g (f st)) b :=
  Nat.zero_add b ▸ hf.comp hg

theorem Adds.enter_leave {f : St → St} {k : Nat} (hf : Adds f k) (s d m : Nat) :
    (f (St.enter ⟨s, d, m⟩)).leave = ⟨if d = 0 then 0 else s + (1 + k), d, max m (s + (1 + k))⟩ := by
  rw [St.enter_mk, hf _ _ _ (Nat.le_max_left ..), Nat.max_comm (s + 1) m, Nat.max_assoc,
    Nat.max_eq_right (Nat.le_add_right ..), Nat.add_assoc]
  cases d <;> rfl

theorem Adds.ty {t : Ty} (h : ∀ s d m,
    visitTy ⟨s, d, m⟩ t = ⟨if d = 0 then 0 else s + tyNodes t, d, max m (s + tyNodes t)⟩) :
    Adds (visitTy · t) (tyNodes t) :=
  fun s d m _ => h s (d + 1) m

/- Every arm of the visitor is, up to unfolding, a composition of the steps above. -/
mutual
  /-- `TySizeVisitor::visit_ty` from any state: `size` grows by the nodes of `t` and is recorded in
      `max_size`; on return to `depth = 0` it is reset. -/
  theorem visitTy_inv : (t : Ty) → (s d m : Nat) →
      visitTy ⟨s, d, m⟩ t = ⟨if d = 0 then 0 else s + tyNodes t, d, max m (s + tyNodes t)⟩
    | .app _ args | .proj _ args | .opaque _ args | .function _ _ args =>
        Adds.enter_leave (f := (visitArgs · args)) (visitArgs_pos args)
    | .scalar _ | .str | .never | .foreign _ | .error | .placeholder _ _ | .bound _ _ | .infer _ _ =>
        Adds.id.enter_leave
    | .slice t | .raw _ t => (Adds.ty (visitTy_inv t)).enter_leave
    | .array t c => ((Adds.ty (visitTy_inv t)).comp (.const c)).enter_leave
    | .ref _ l t => ((Adds.lifetime l).comp_zero (.ty (visitTy_inv t))).enter_leave
    | .dyn _ bounds l =>
        (Adds.comp (f := (visitQWCs · bounds)) (visitQWCs_pos bounds) (.lifetime l)).enter_leave
  theorem visitGArg_pos : (a : GArg) → (s d m : Nat) → s ≤ m →
      visitGArg ⟨s, d + 1, m⟩ a = ⟨s + gargNodes a, d + 1, max m (s + gargNodes a)⟩
    | .ty t => Adds.ty (visitTy_inv t)
    | .lt l => Adds.lifetime l
    | .ct c => Adds.const c
  theorem visitArgs_pos : (a : Args) → (s d m : Nat) → s ≤ m →
      visitArgs ⟨s, d + 1, m⟩ a = ⟨s + argsNodes a, d + 1, max m (s + argsNodes a)⟩
    | .nil => Adds.id
    | .cons a as => Adds.comp (f := (visitGArg · a)) (g := (visitArgs · as)) (visitGArg_pos a)
        (visitArgs_pos as)
  theorem visitWC_pos : (w : WC) → (s d m : Nat) → s ≤ m →
      visitWC ⟨s, d + 1, m⟩ w = ⟨s + wcNodes w, d + 1, max m (s + wcNodes w)⟩
    | .implemented _ args => visitArgs_pos args
    | .aliasEqProj _ args ty | .aliasEqOpaque _ args ty =>
        Adds.comp (f := (visitArgs · args)) (visitArgs_pos args) (.ty (visitTy_inv ty))
    | .ltOutlives a b => (Adds.lifetime a).comp (.lifetime b)
    | .tyOutlives t l => (Adds.ty (visitTy_inv t)).comp (.lifetime l)
  theorem visitQWC_pos : (q : QWC) → (s d m : Nat) → s ≤ m →
      visitQWC ⟨s, d + 1, m⟩ q = ⟨s + qwcNodes q, d + 1, max m (s + qwcNodes q)⟩
    | .mk _ wc => visitWC_pos wc
  theorem visitQWCs_pos : (q : QWCs) → (s d m : Nat) → s ≤ m →
      visitQWCs ⟨s, d + 1, m⟩ q = ⟨s + qwcsNodes q, d + 1, max m (s + qwcsNodes q)⟩
    | .nil => Adds.id
    | .cons q qs => Adds.comp (f := (visitQWC · q)) (g := (visitQWCs · qs)) (visitQWC_pos q)
        (visitQWCs_pos qs)
end

theorem maxNodes_append (a b : List Ty) : maxNodes (a ++ b) = max (maxNodes a) (maxNodes b) := by
  induction a with
  | nil => exact (Nat.zero_max _).symm
  | cons t ts ih => rw [List.cons_append, maxNodes, maxNodes, ih, Nat.max_assoc]

theorem le_maxNodes {t : Ty} {ts : List Ty} (h : t ∈ ts) : tyNodes t ≤ maxNodes ts := by
  induction ts with
  | nil => cases h
  | cons u us ih =>
    rcases List.mem_cons.mp h with rfl | h'
    · exact Nat.le_max_left ..
    · exact Nat.le_trans (ih h') (Nat.le_max_right ..)

/-- At the outermost level (`depth = 0`, where `size = 0`), `f` measures the top-level types `ts`
    each on its own: `max_size` takes in the largest, and `size` is 0 again. -/
def Tops (f : St → St) (ts : List Ty) : Prop :=
  ∀ m, f ⟨0, 0, m⟩ = ⟨0, 0, max m (maxNodes ts)⟩

theorem Tops.id : Tops (fun st => st) [] :=
  fun m => congrArg _ (Nat.max_zero m).symm

theorem Tops.lifetime (l : Lifetime) : Tops (visitLifetime · l) [] :=
  fun m => (visitLifetime_eq _ l).trans (Tops.id m)

theorem Tops.const (c : Const) : Tops (visitConst · c) [] :=
  fun m => (visitConst_eq _ c).trans (Tops.id m)

theorem Tops.ty (t : Ty) : Tops (visitTy · t) [t] := by
  intro m
  show visitTy _ t = _
  rw [visitTy_inv, Nat.zero_add, maxNodes, maxNodes, Nat.max_zero]; rfl

theorem Tops.comp {f g : St → St} {a b : List Ty} (hf : Tops f a) (hg : Tops g b) :
    Tops (fun st => g (f st)) (a ++ b) := by
  intro m
  show g (f _) = _
  rw [hf m, hg, maxNodes_append, Nat.max_assoc]

theorem visitGArg_zero : (a : GArg) → Tops (visitGArg · a) (gargTopTys a)
  | .ty t => Tops.ty t
  | .lt l => Tops.lifetime l
  | .ct c => Tops.const c

theorem visitArgs_zero : (a : Args) → Tops (visitArgs · a) (argsTopTys a)
  | .nil => Tops.id
  | .cons a as => (visitGArg_zero a).comp (visitArgs_zero as)

theorem visitTys_zero : (ts : List Ty) → Tops (visitTys · ts) ts
  | [] => Tops.id
  | t :: ts => (Tops.ty t).comp (visitTys_zero ts)

theorem visitWC_zero : (w : WC) → Tops (visitWC · w) (wcTopTys w)
  | .implemented _ args => visitArgs_zero args
  | .aliasEqProj _ args ty | .aliasEqOpaque _ args ty => (visitArgs_zero args).comp (.ty ty)
  | .ltOutlives a b => (Tops.lifetime a).comp (.lifetime b)
  | .tyOutlives t l => (Tops.ty t).comp (.lifetime l)

theorem visitAlias_zero : (al : Alias) → Tops (visitAlias · al) (aliasTopTys al)
  | .proj _ args | .opaque _ args => visitArgs_zero args

theorem visitDomainGoal_zero : (g : DomainGoal) → Tops (visitDomainGoal · g) (goalTopTys g)
  | .holds wc => visitWC_zero wc
  | .wfTrait _ args | .fromEnvTrait _ args | .localImplAllowed _ args => visitArgs_zero args
  | .wfTy t | .fromEnvTy t | .isLocal t | .isUpstream t | .isFullyVisible t | .downstreamType t =>
      Tops.ty t
  | .normalize al ty => (visitAlias_zero al).comp (.ty ty)
  | .compatible | .reveal | .objectSafe _ => Tops.id

theorem visitValue_zero : (v : Value) → Tops (visitValue · v) v.topTys
  | .ty t => Tops.ty t
  | .garg a => visitGArg_zero a
  | .args a => visitArgs_zero a
  | .tys ts => visitTys_zero ts
  | .wc w => visitWC_zero w
  | .goal g => visitDomainGoal_zero g

theorem visitValue_init (v : Value) : visitValue St.init v = ⟨0, 0, maxTop v⟩ :=
  (visitValue_zero v 0).trans (congrArg _ (Nat.zero_max _))

theorem needsTruncation_eq_false_iff {max : Nat} {v : Value} :
    needsTruncation max v = false ↔ maxTop v ≤ max := by
  rw [needsTruncation, maxSizeOf, visitValue_init, decide_eq_false_iff_not, Nat.not_lt]

theorem maxTop_ty (t : Ty) : maxTop (.ty t) = tyNodes t := Nat.max_zero _

theorem argsNodes_eq_sum : (a : Args) → argsNodes a = (a.toList.map gargNodes).sum
  | .nil => by simp [argsNodes, Args.toList]
  | .cons a as => by simp [argsNodes, Args.toList, argsNodes_eq_sum as]

theorem gargNodes_le_argsNodes {g : GArg} : {a : Args} → g ∈ a.toList → gargNodes g ≤ argsNodes a
  | .nil, h => by simp [Args.toList] at h
  | .cons b bs, h => by
      simp only [Args.toList, List.mem_cons] at h
      simp only [argsNodes]
      rcases h with rfl | h
      · omega
      · have := gargNodes_le_argsNodes h; omega

theorem mem_argsTopTys {t : Ty} : {a : Args} → (t ∈ argsTopTys a ↔ GArg.ty t ∈ a.toList)
  | .nil => by simp [argsTopTys, Args.toList]
  | .cons b bs => by
      have ih := mem_argsTopTys (t := t) (a := bs)
      cases b <;> simp [argsTopTys, gargTopTys, Args.toList, ih]

theorem maxNodes_argsTopTys_le : (a : Args) → maxNodes (argsTopTys a) ≤ argsNodes a
  | .nil => by simp [argsTopTys, maxNodes, argsNodes]
  | .cons g as => by
      have ih := maxNodes_argsTopTys_le as
      cases g <;>
        simp only [argsTopTys, gargTopTys, maxNodes_append, maxNodes, argsNodes, gargNodes] <;> omega

end Chalk.Truncate
