import ChalkModel.Shift

/-! What the generic folders compute on each compound constructor, written with `Except.map` and
    `Except.bind`, and the inversion of those two; then: the default folder changes nothing. -/
namespace Chalk

@[simp] theorem Except.map_ok' {ε α β} (f : α → β) (a : α) : Except.map f (Except.ok a : Except ε α) = .ok (f a) := rfl
@[simp] theorem Except.map_error' {ε α β} (f : α → β) (e : ε) : Except.map f (Except.error e : Except ε α) = .error e := rfl

theorem Except.map_eq_ok {ε α β} {f : α → β} {x : Except ε α} {r : β} (h : x.map f = .ok r) :
    ∃ a, x = .ok a ∧ r = f a := by
  cases x with
  | error e => cases h
  | ok a => cases h; exact ⟨a, rfl, rfl⟩

theorem Except.bind_eq_ok {ε α β} {k : α → Except ε β} {x : Except ε α} {r : β} (h : x.bind k = .ok r) :
    ∃ a, x = .ok a ∧ k a = .ok r := by
  cases x with
  | error e => cases h
  | ok a => exact ⟨a, rfl, h⟩

theorem Except.exists_map_ok {ε α β} {x : Except ε α} (h : ∃ a, x = .ok a) (f : α → β) :
    ∃ b, x.map f = .ok b := by
  obtain ⟨a, rfl⟩ := h; exact ⟨_, rfl⟩

theorem Except.exists_bind_ok {ε α β} {x : Except ε α} {k : α → Except ε β} (h : ∃ a, x = .ok a)
    (hk : ∀ a, ∃ b, k a = .ok b) : ∃ b, x.bind k = .ok b := by
  obtain ⟨a, rfl⟩ := h; exact hk a

section
variable (f : Folder) (o : Nat)

theorem foldTy_app (n a) : foldTy f o (.app n a) = (foldArgs f o a).map (.app n) := by
  rw [foldTy]; cases foldArgs f o a <;> rfl
theorem foldTy_array (t c) : foldTy f o (.array t c) =
    (foldTy f o t).bind fun t' => (foldConst f o c).map (.array t') := by
  rw [foldTy]; cases foldTy f o t <;> cases foldConst f o c <;> rfl
theorem foldTy_slice (t) : foldTy f o (.slice t) = (foldTy f o t).map .slice := by
  rw [foldTy]; cases foldTy f o t <;> rfl
theorem foldTy_raw (m t) : foldTy f o (.raw m t) = (foldTy f o t).map (.raw m) := by
  rw [foldTy]; cases foldTy f o t <;> rfl
theorem foldTy_ref (m l t) : foldTy f o (.ref m l t) =
    (foldLifetime f o l).bind fun l' => (foldTy f o t).map (.ref m l') := by
  rw [foldTy]; cases foldLifetime f o l <;> cases foldTy f o t <;> rfl
theorem foldTy_dyn (ks b l) : foldTy f o (.dyn ks b l) =
    (foldQWCs f (o + 1) b).bind fun b' => (foldLifetime f o l).map (.dyn ks b') := by
  rw [foldTy]; cases foldQWCs f (o + 1) b <;> cases foldLifetime f o l <;> rfl
theorem foldTy_proj (id a) : foldTy f o (.proj id a) = (foldArgs f o a).map (.proj id) := by
  rw [foldTy]; cases foldArgs f o a <;> rfl
theorem foldTy_opaque (id a) : foldTy f o (.opaque id a) = (foldArgs f o a).map (.opaque id) := by
  rw [foldTy]; cases foldArgs f o a <;> rfl
theorem foldTy_function (nb sig a) :
    foldTy f o (.function nb sig a) = (foldArgs f (o + 1) a).map (.function nb sig) := by
  rw [foldTy]; cases foldArgs f (o + 1) a <;> rfl

theorem foldConst_concrete (ty k) :
    foldConst f o (.mk ty (.concrete k)) = (foldTy f o ty).map (.mk · (.concrete k)) := by
  rw [foldConst]; cases foldTy f o ty <;> rfl

theorem foldGArg_ty (t) : foldGArg f o (.ty t) = (foldTy f o t).map .ty := by
  rw [foldGArg]; cases foldTy f o t <;> rfl
theorem foldGArg_lt (l) : foldGArg f o (.lt l) = (foldLifetime f o l).map .lt := by
  rw [foldGArg]; cases foldLifetime f o l <;> rfl
theorem foldGArg_ct (c) : foldGArg f o (.ct c) = (foldConst f o c).map .ct := by
  rw [foldGArg]; cases foldConst f o c <;> rfl

theorem foldArgs_cons (a as) : foldArgs f o (.cons a as) =
    (foldGArg f o a).bind fun a' => (foldArgs f o as).map (.cons a') := by
  rw [foldArgs]; cases foldGArg f o a <;> cases foldArgs f o as <;> rfl

theorem foldWC_implemented (tr a) :
    foldWC f o (.implemented tr a) = (foldArgs f o a).map (.implemented tr) := by
  rw [foldWC]; cases foldArgs f o a <;> rfl
theorem foldWC_aliasEqProj (id a ty) : foldWC f o (.aliasEqProj id a ty) =
    (foldArgs f o a).bind fun a' => (foldTy f o ty).map (.aliasEqProj id a') := by
  rw [foldWC]; cases foldArgs f o a <;> cases foldTy f o ty <;> rfl
theorem foldWC_aliasEqOpaque (id a ty) : foldWC f o (.aliasEqOpaque id a ty) =
    (foldArgs f o a).bind fun a' => (foldTy f o ty).map (.aliasEqOpaque id a') := by
  rw [foldWC]; cases foldArgs f o a <;> cases foldTy f o ty <;> rfl
theorem foldWC_ltOutlives (a b) : foldWC f o (.ltOutlives a b) =
    (foldLifetime f o a).bind fun a' => (foldLifetime f o b).map (.ltOutlives a') := by
  rw [foldWC]; cases foldLifetime f o a <;> cases foldLifetime f o b <;> rfl
theorem foldWC_tyOutlives (t l) : foldWC f o (.tyOutlives t l) =
    (foldTy f o t).bind fun t' => (foldLifetime f o l).map (.tyOutlives t') := by
  rw [foldWC]; cases foldTy f o t <;> cases foldLifetime f o l <;> rfl

theorem foldQWC_mk (ks w) : foldQWC f o (.mk ks w) = (foldWC f (o + 1) w).map (.mk ks) := by
  rw [foldQWC]; cases foldWC f (o + 1) w <;> rfl

theorem foldQWCs_cons (q qs) : foldQWCs f o (.cons q qs) =
    (foldQWC f o q).bind fun q' => (foldQWCs f o qs).map (.cons q') := by
  rw [foldQWCs]; cases foldQWC f o q <;> cases foldQWCs f o qs <;> rfl

end

theorem foldLifetime_bound_none {f : Folder} (h : f.freeVarLt = none) (o db idx) :
    foldLifetime f o (.bound db idx) = .ok (.bound db idx) := by
  rw [foldLifetime, h]; split
  · rw [Nat.sub_add_cancel ‹_›]
  · rfl
theorem foldTy_bound_none {f : Folder} (h : f.freeVarTy = none) (o db idx) :
    foldTy f o (.bound db idx) = .ok (.bound db idx) := by
  rw [foldTy, h]; split
  · rw [Nat.sub_add_cancel ‹_›]
  · rfl
theorem foldConst_bound_none {f : Folder} (h : f.freeVarConst = none) (o ty db idx) :
    foldConst f o (.mk ty (.bound db idx)) =
      if o ≤ db then (foldTy f o ty).map (.mk · (.bound db idx)) else .ok (.mk ty (.bound db idx)) := by
  rw [foldConst, h]; split
  · rw [Nat.sub_add_cancel ‹_›]; cases foldTy f o ty <;> rfl
  · rfl
theorem foldConst_infer_none {f : Folder} (h : f.inferConst = none) (o ty v) :
    foldConst f o (.mk ty (.infer v)) = (foldTy f o ty).map (.mk · (.infer v)) := by
  rw [foldConst, h]; cases foldTy f o ty <;> rfl
theorem foldConst_placeholder_none {f : Folder} (h : f.phConst = none) (o ty ui idx) :
    foldConst f o (.mk ty (.placeholder ui idx)) = (foldTy f o ty).map (.mk · (.placeholder ui idx)) := by
  rw [foldConst, h]; cases foldTy f o ty <;> rfl

theorem foldLifetime_noop (outer : Nat) (l : Lifetime) : foldLifetime Folder.noop outer l = .ok l := by
  cases l <;> first | rfl | exact foldLifetime_bound_none rfl ..

mutual
  theorem foldTy_noop (outer : Nat) : (t : Ty) → foldTy Folder.noop outer t = .ok t
    | .app n args => by rw [foldTy_app, foldArgs_noop outer args]; rfl
    | .scalar s => rfl
    | .str => rfl
    | .never => rfl
    | .foreign id => rfl
    | .error => rfl
    | .array t c => by rw [foldTy_array, foldTy_noop outer t, foldConst_noop outer c]; rfl
    | .slice t => by rw [foldTy_slice, foldTy_noop outer t]; rfl
    | .raw m t => by rw [foldTy_raw, foldTy_noop outer t]; rfl
    | .ref m l t => by rw [foldTy_ref, foldTy_noop outer t, foldLifetime_noop]; rfl
    | .placeholder ui idx => rfl
    | .dyn kinds bounds l => by rw [foldTy_dyn, foldQWCs_noop (outer+1) bounds, foldLifetime_noop]; rfl
    | .proj id args => by rw [foldTy_proj, foldArgs_noop outer args]; rfl
    | .opaque id args => by rw [foldTy_opaque, foldArgs_noop outer args]; rfl
    | .function nb sig args => by rw [foldTy_function, foldArgs_noop (outer+1) args]; rfl
    | .bound db idx => foldTy_bound_none rfl ..
    | .infer v k => rfl
  theorem foldConst_noop (outer : Nat) : (c : Const) → foldConst Folder.noop outer c = .ok c
    | .mk ty (.bound db idx) => by
        rw [foldConst_bound_none rfl, foldTy_noop outer ty]; exact ite_self _
    | .mk ty (.infer v) => by rw [foldConst_infer_none rfl, foldTy_noop outer ty]; rfl
    | .mk ty (.placeholder ui idx) => by rw [foldConst_placeholder_none rfl, foldTy_noop outer ty]; rfl
    | .mk ty (.concrete k) => by rw [foldConst_concrete, foldTy_noop outer ty]; rfl
  theorem foldGArg_noop (outer : Nat) : (a : GArg) → foldGArg Folder.noop outer a = .ok a
    | .ty t => by rw [foldGArg_ty, foldTy_noop outer t]; rfl
    | .lt l => by rw [foldGArg_lt, foldLifetime_noop]; rfl
    | .ct c => by rw [foldGArg_ct, foldConst_noop outer c]; rfl
  theorem foldArgs_noop (outer : Nat) : (a : Args) → foldArgs Folder.noop outer a = .ok a
    | .nil => rfl
    | .cons a as => by rw [foldArgs_cons, foldGArg_noop outer a, foldArgs_noop outer as]; rfl
  theorem foldWC_noop (outer : Nat) : (w : WC) → foldWC Folder.noop outer w = .ok w
    | .implemented tr args => by rw [foldWC_implemented, foldArgs_noop outer args]; rfl
    | .aliasEqProj id args ty => by rw [foldWC_aliasEqProj, foldArgs_noop outer args, foldTy_noop outer ty]; rfl
    | .aliasEqOpaque id args ty => by rw [foldWC_aliasEqOpaque, foldArgs_noop outer args, foldTy_noop outer ty]; rfl
    | .ltOutlives a b => by rw [foldWC_ltOutlives, foldLifetime_noop, foldLifetime_noop]; rfl
    | .tyOutlives t l => by rw [foldWC_tyOutlives, foldTy_noop outer t, foldLifetime_noop]; rfl
  theorem foldQWC_noop (outer : Nat) : (q : QWC) → foldQWC Folder.noop outer q = .ok q
    | .mk kinds wc => by rw [foldQWC_mk, foldWC_noop (outer+1) wc]; rfl
  theorem foldQWCs_noop (outer : Nat) : (q : QWCs) → foldQWCs Folder.noop outer q = .ok q
    | .nil => rfl
    | .cons q qs => by rw [foldQWCs_cons, foldQWC_noop outer q, foldQWCs_noop outer qs]; rfl
end

/-- `g` takes every leaf that `f` produced back to the leaf it came from; for a constant this is
    asked for given that it holds of the constant's type. -/
structure Folder.Undoes (f g : Folder) : Prop where
  lt : ∀ o l l', foldLifetime f o l = .ok l' → foldLifetime g o l' = .ok l
  placeholder : ∀ o ui idx t', foldTy f o (.placeholder ui idx) = .ok t' → foldTy g o t' = .ok (.placeholder ui idx)
  bound : ∀ o db idx t', foldTy f o (.bound db idx) = .ok t' → foldTy g o t' = .ok (.bound db idx)
  infer : ∀ o v k t', foldTy f o (.infer v k) = .ok t' → foldTy g o t' = .ok (.infer v k)
  const : ∀ o ty v c', (∀ ty', foldTy f o ty = .ok ty' → foldTy g o ty' = .ok ty) →
    foldConst f o (.mk ty v) = .ok c' → foldConst g o c' = .ok (.mk ty v)

/-- a node with one folded child: `G` folds the child back, `G'` the node -/
theorem undo_map {ε α β : Type} {x : Except ε α} {c : α → β} {a : α} {G : α → Except ε α} {G' : β → Except ε β}
    (ih : ∀ a', x = .ok a' → G a' = .ok a) (hG' : ∀ a', G' (c a') = (G a').map c) {r : β}
    (h : x.map c = .ok r) : G' r = .ok (c a) := by
  obtain ⟨a', ha, rfl⟩ := Except.map_eq_ok h
  rw [hG', ih a' ha]; rfl

theorem undo_bind {ε α β γ : Type} {x : Except ε α} {y : Except ε β} {c : α → β → γ} {a : α} {b : β}
    {G1 : α → Except ε α} {G2 : β → Except ε β} {G' : γ → Except ε γ}
    (ih1 : ∀ a', x = .ok a' → G1 a' = .ok a) (ih2 : ∀ b', y = .ok b' → G2 b' = .ok b)
    (hG' : ∀ a' b', G' (c a' b') = (G1 a').bind fun a => (G2 b').map (c a)) {r : γ}
    (h : (x.bind fun a => y.map (c a)) = .ok r) : G' r = .ok (c a b) := by
  obtain ⟨a', ha, h⟩ := Except.bind_eq_ok h
  obtain ⟨b', hb, rfl⟩ := Except.map_eq_ok h
  rw [hG', ih1 a' ha, ih2 b' hb]; rfl

section
variable {f g : Folder}

-- Each theorem has two arguments of its type.  `termination_by structural` says which one the
-- recursion is on; left to itself Lean tries the combinations, gives up, and proves termination by
-- a measure at every recursive call, which is many times dearer.
mutual
  theorem foldTy_undo (u : f.Undoes g) (o : Nat) : (t t' : Ty) → foldTy f o t = .ok t' → foldTy g o t' = .ok t
    | .app n a, _, h =>
        undo_map (foldArgs_undo u o a) (foldTy_app g o n) (foldTy_app f o n a ▸ h)
    | .scalar s, _, h => by cases h; rfl
    | .str, _, h => by cases h; rfl
    | .never, _, h => by cases h; rfl
    | .foreign id, _, h => by cases h; rfl
    | .error, _, h => by cases h; rfl
    | .array t c, _, h =>
        undo_bind (foldTy_undo u o t) (foldConst_undo u o c) (foldTy_array g o) (foldTy_array f o t c ▸ h)
    | .slice t, _, h =>
        undo_map (foldTy_undo u o t) (foldTy_slice g o) (foldTy_slice f o t ▸ h)
    | .raw m t, _, h =>
        undo_map (foldTy_undo u o t) (foldTy_raw g o m) (foldTy_raw f o m t ▸ h)
    | .ref m l t, _, h =>
        undo_bind (u.lt o l) (foldTy_undo u o t) (foldTy_ref g o m) (foldTy_ref f o m l t ▸ h)
    | .placeholder ui idx, t', h => u.placeholder o ui idx t' h
    | .dyn ks b l, _, h =>
        undo_bind (foldQWCs_undo u (o + 1) b) (u.lt o l) (foldTy_dyn g o ks) (foldTy_dyn f o ks b l ▸ h)
    | .proj id a, _, h =>
        undo_map (foldArgs_undo u o a) (foldTy_proj g o id) (foldTy_proj f o id a ▸ h)
    | .opaque id a, _, h =>
        undo_map (foldArgs_undo u o a) (foldTy_opaque g o id) (foldTy_opaque f o id a ▸ h)
    | .function nb sig a, _, h =>
        undo_map (foldArgs_undo u (o + 1) a) (foldTy_function g o nb sig) (foldTy_function f o nb sig a ▸ h)
    | .bound db idx, t', h => u.bound o db idx t' h
    | .infer v k, t', h => u.infer o v k t' h
  termination_by structural x => x
  theorem foldConst_undo (u : f.Undoes g) (o : Nat) : (c c' : Const) → foldConst f o c = .ok c' → foldConst g o c' = .ok c
    | .mk ty v, c', h => u.const o ty v c' (foldTy_undo u o ty) h
  termination_by structural x => x
  theorem foldGArg_undo (u : f.Undoes g) (o : Nat) : (a a' : GArg) → foldGArg f o a = .ok a' → foldGArg g o a' = .ok a
    | .ty t, _, h =>
        undo_map (foldTy_undo u o t) (foldGArg_ty g o) (foldGArg_ty f o t ▸ h)
    | .lt l, _, h =>
        undo_map (u.lt o l) (foldGArg_lt g o) (foldGArg_lt f o l ▸ h)
    | .ct c, _, h =>
        undo_map (foldConst_undo u o c) (foldGArg_ct g o) (foldGArg_ct f o c ▸ h)
  termination_by structural x => x
  theorem foldArgs_undo (u : f.Undoes g) (o : Nat) : (a a' : Args) → foldArgs f o a = .ok a' → foldArgs g o a' = .ok a
    | .nil, _, h => by cases h; rfl
    | .cons a as, _, h =>
        undo_bind (foldGArg_undo u o a) (foldArgs_undo u o as) (foldArgs_cons g o) (foldArgs_cons f o a as ▸ h)
  termination_by structural x => x
  theorem foldWC_undo (u : f.Undoes g) (o : Nat) : (w w' : WC) → foldWC f o w = .ok w' → foldWC g o w' = .ok w
    | .implemented tr a, _, h =>
        undo_map (foldArgs_undo u o a) (foldWC_implemented g o tr) (foldWC_implemented f o tr a ▸ h)
    | .aliasEqProj id a ty, _, h =>
        undo_bind (foldArgs_undo u o a) (foldTy_undo u o ty) (foldWC_aliasEqProj g o id) (foldWC_aliasEqProj f o id a ty ▸ h)
    | .aliasEqOpaque id a ty, _, h =>
        undo_bind (foldArgs_undo u o a) (foldTy_undo u o ty) (foldWC_aliasEqOpaque g o id) (foldWC_aliasEqOpaque f o id a ty ▸ h)
    | .ltOutlives a b, _, h =>
        undo_bind (u.lt o a) (u.lt o b) (foldWC_ltOutlives g o) (foldWC_ltOutlives f o a b ▸ h)
    | .tyOutlives t l, _, h =>
        undo_bind (foldTy_undo u o t) (u.lt o l) (foldWC_tyOutlives g o) (foldWC_tyOutlives f o t l ▸ h)
  termination_by structural x => x
  theorem foldQWC_undo (u : f.Undoes g) (o : Nat) : (q q' : QWC) → foldQWC f o q = .ok q' → foldQWC g o q' = .ok q
    | .mk ks w, _, h =>
        undo_map (foldWC_undo u (o + 1) w) (foldQWC_mk g o ks) (foldQWC_mk f o ks w ▸ h)
  termination_by structural x => x
  theorem foldQWCs_undo (u : f.Undoes g) (o : Nat) : (q q' : QWCs) → foldQWCs f o q = .ok q' → foldQWCs g o q' = .ok q
    | .nil, _, h => by cases h; rfl
    | .cons q qs, _, h =>
        undo_bind (foldQWC_undo u o q) (foldQWCs_undo u o qs) (foldQWCs_cons g o) (foldQWCs_cons f o q qs ▸ h)
  termination_by structural x => x
end

end

end Chalk
