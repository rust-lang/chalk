/-
  FixedPointFrame.lean — how the states that `solve_goal` goes through on a cyclic instance are related, semantics
  apart: `Frame s s' lb` (before and after a completed call), `LoopFrame s0 g s` (before the push of a new goal `g`
  and at the head of a round of its loop), and the states in which a round can end.  `Step` and `LoopSt` of
  `FixedPointSem*.lean` and `FixedPointMix*.lean` extend them by the semantic part.
-/
import ChalkModel.Lemmas.FixedPointEqns

namespace Chalk.FixedPoint.Cyc

/-- the hypothesis: the repairs needed under interruption are assumed (`fx`), or solving is not interrupted at all -/
theorem fixes_of_eq {fx : Bool} {s s' : St} (h : fx = true ∨ (QuietSt s ∧ s.interrupted = false))
    (e1 : s'.oracle = s.oracle) (e2 : s'.oracleDefault = s.oracleDefault) (e3 : s'.interrupted = s.interrupted) :
    fx = true ∨ (QuietSt s' ∧ s'.interrupted = false) :=
  h.imp id (fun q => ⟨⟨by rw [e1]; exact q.1.1, by rw [e2]; exact q.1.2⟩, by rw [e3]; exact q.2⟩)

theorem fix_of_interrupted {fx b : Bool} {s : St} (h : fx = true ∨ (QuietSt s ∧ s.interrupted = false))
    (hb : fx = true → b = true) (e : s.interrupted = true) : b = true :=
  h.elim hb (fun q => absurd (q.2.symm.trans e) Bool.false_ne_true)

/-- from `s` to `s'` the flag `interrupted` is only raised, and not at all while the oracle is quiet -/
structure FlagsExt (s s' : St) : Prop where
  intr : s.interrupted = true → s'.interrupted = true
  quiet : QuietSt s → QuietSt s' ∧ (s.interrupted = false → s'.interrupted = false)

theorem FlagsExt.of_eq {s s' : St} (e1 : s'.oracle = s.oracle) (e2 : s'.oracleDefault = s.oracleDefault)
    (e3 : s'.interrupted = s.interrupted) : FlagsExt s s' :=
  ⟨fun e => by rw [e3]; exact e,
   fun q => ⟨⟨by rw [e1]; exact q.1, by rw [e2]; exact q.2⟩, fun e => by rw [e3]; exact e⟩⟩

theorem FlagsExt.trans {s s' s'' : St} (h1 : FlagsExt s s') (h2 : FlagsExt s' s'') : FlagsExt s s'' :=
  ⟨fun e => h2.intr (h1.intr e), fun q =>
    let ⟨q1, i1⟩ := h1.quiet q
    let ⟨q2, i2⟩ := h2.quiet q1
    ⟨q2, fun e => i2 (i1 e)⟩⟩

/-- everything but stack and graph is kept -/
structure Rest (s1 s2 : St) : Prop where
  cache : s2.cache = s1.cache
  oracle : s2.oracle = s1.oracle
  oracleDefault : s2.oracleDefault = s1.oracleDefault
  interrupted : s2.interrupted = s1.interrupted

theorem Rest.inCache {s1 s2 : St} (R : Rest s1 s2) {k : Nat} {v : V} : InCache s2 k v ↔ InCache s1 k v := by
  unfold InCache
  rw [R.cache]

/-- `s5`: `s1` with the stack popped back to the depth of `s0` (the graph is given separately) -/
structure Popped (s0 s1 s5 : St) : Prop where
  slen : s5.stack.length = s0.stack.length
  sget : ∀ i, i < s0.stack.length → s5.stack[i]? = s1.stack[i]?
  cache : s5.cache = s1.cache
  oracle : s5.oracle = s1.oracle
  oracleDefault : s5.oracleDefault = s1.oracleDefault
  interrupted : s5.interrupted = s1.interrupted

theorem Popped.flag {s0 s1 s5 : St} (P : Popped s0 s1 s5) {d : Nat} (hd : d < s0.stack.length)
    (h : flagAt s1.stack d) : flagAt s5.stack d := by
  obtain ⟨e, he, hc⟩ := h
  exact ⟨e, by rw [P.sget d hd]; exact he, hc⟩

theorem Popped.inCache {s0 s1 s5 : St} (P : Popped s0 s1 s5) {k : Nat} {v : V} :
    InCache s5 k v ↔ InCache s1 k v := by
  unfold InCache
  rw [P.cache]

theorem def_mono {s s' : St} (hc : ∀ k v, InCache s k v → InCache s' k v) (hg : ∃ r, s'.graph = s.graph ++ r) :
    ∀ k v, Def s k v → Def s' k v := by
  intro k v h
  cases h with
  | inl h => exact Or.inl (hc k v h)
  | inr h =>
    obtain ⟨i, n, hn, h2⟩ := h
    obtain ⟨r, hr⟩ := hg
    exact Or.inr ⟨i, n, by rw [hr]; exact getElem?_prefix hn, h2⟩

theorem def_of_eq {s s' : St} (hg : s'.graph = s.graph) (hc : s'.cache = s.cache) {k : Nat} {v : V}
    (h : Def s' k v) : Def s k v := by
  unfold Def InCache InGraph at h ⊢
  rw [hg, hc] at h
  exact h

/-- what a completed `solve_goal` did to the state, semantics apart (`lb`: lower bound of the links of new nodes):
    the graph is extended by nodes off the stack, on the stack cycle flags are set at most, the cache grows, the
    caching mode is kept -/
structure Frame (s s' : St) (lb : Min) : Prop extends FlagsExt s s' where
  graph : ∃ new, s'.graph = s.graph ++ new ∧ ∀ n : Node, n ∈ new → n.stackDepth = none ∧ MinLe lb n.links
  stack : StackExt s.stack s'.stack
  cacheExt : ∀ k v, InCache s k v → InCache s' k v
  cacheMode : s'.cache.isSome = s.cache.isSome

section
variable {s s' s'' : St} {lb lb' m1 m2 : Min}

theorem Frame.ext (h : Frame s s' lb) : ∀ k v, Def s k v → Def s' k v :=
  def_mono h.cacheExt (let ⟨new, hg, _⟩ := h.graph; ⟨new, hg⟩)

theorem Frame.graph_le (h : Frame s s' lb) : s.graph.length ≤ s'.graph.length := by
  obtain ⟨new, hgr, _⟩ := h.graph
  rw [hgr, List.length_append]
  exact Nat.le_add_right _ _

theorem Frame.stackOnly (hg : s'.graph = s.graph) (R : Rest s s') (hext : StackExt s.stack s'.stack) (lb : Min) :
    Frame s s' lb :=
  ⟨FlagsExt.of_eq R.oracle R.oracleDefault R.interrupted, ⟨[], by rw [hg, List.append_nil], fun n hn => by cases hn⟩,
   hext, fun k v h => R.inCache.mpr h, by rw [R.cache]⟩

theorem Frame.refl (s : St) (lb : Min) : Frame s s lb :=
  Frame.stackOnly rfl ⟨rfl, rfl, rfl, rfl⟩ (StackExt.refl _) lb

theorem Frame.work (s : St) (w : Nat) (lb : Min) : Frame s { s with work := w } lb :=
  Frame.stackOnly (s := s) (s' := { s with work := w }) rfl ⟨rfl, rfl, rfl, rfl⟩ (StackExt.refl _) lb

theorem Frame.of_work {w : Nat} (h : Frame { s with work := w } s' lb) : Frame s s' lb :=
  ⟨⟨h.intr, h.quiet⟩, h.graph, h.stack, h.cacheExt, h.cacheMode⟩

theorem Frame.oracleChange (s : St) (o : List Bool) (i : Bool) (lb : Min) (hint : s.interrupted = true → i = true)
    (hq : QuietSt s → o = [] ∧ (s.interrupted = false → i = false)) :
    Frame s { s with oracle := o, interrupted := i } lb :=
  ⟨⟨hint, fun q => ⟨⟨(hq q).1, q.2⟩, (hq q).2⟩⟩, ⟨[], by simp, fun n hn => by cases hn⟩, StackExt.refl _,
   fun _ _ h => h, rfl⟩

theorem Frame.weaken (h : Frame s s' lb) (hle : MinLe lb' lb) : Frame s s' lb' := by
  obtain ⟨new, hg, hn⟩ := h.graph
  exact ⟨h.toFlagsExt, ⟨new, hg, fun n hm => ⟨(hn n hm).1, hle.trans (hn n hm).2⟩⟩, h.stack, h.cacheExt, h.cacheMode⟩

theorem Frame.trans (h1 : Frame s s' m1) (h2 : Frame s' s'' m2) (hle : MinLe m2 m1) : Frame s s'' m2 := by
  obtain ⟨new1, hg1, hn1⟩ := h1.graph
  obtain ⟨new2, hg2, hn2⟩ := h2.graph
  refine ⟨h1.toFlagsExt.trans h2.toFlagsExt, ⟨new1 ++ new2, by rw [hg2, hg1, List.append_assoc], fun n hn => ?_⟩,
    h1.stack.trans h2.stack, fun k v h => h2.cacheExt k v (h1.cacheExt k v h), h2.cacheMode.trans h1.cacheMode⟩
  cases List.mem_append.mp hn with
  | inl h => exact ⟨(hn1 n h).1, hle.trans (hn1 n h).2⟩
  | inr h => exact hn2 n h

end

/-- `s` is a state at the head of a round of the loop for the new goal `g`, which was pushed on the state `s0`,
    semantics apart: the graph is that of `s0` and the node of `g`, the stack that of `s0` (cycle flags set at most)
    and the entry of `g`, the cache has grown -/
structure LoopFrame (s0 : St) (g : Nat) (s : St) : Prop extends FlagsExt s0 s where
  graph : ∃ v, s.graph = s0.graph ++ [headNode s0 g v]
  slen : s.stack.length = s0.stack.length + 1
  sext : StackLe s0.stack s.stack
  cacheExt : ∀ k v, InCache s0 k v → InCache s k v
  cacheMode : s.cache.isSome = s0.cache.isSome

section
variable {s0 st s1 s2 s5 : St} {g : Nat} {m lb : Min}

theorem LoopFrame.ext (L : LoopFrame s0 g st) : ∀ k v, Def s0 k v → Def st k v :=
  def_mono L.cacheExt (let ⟨_, hv⟩ := L.graph; ⟨_, hv⟩)

theorem LoopFrame.work (L : LoopFrame s0 g st) (w : Nat) : LoopFrame s0 g { st with work := w } :=
  ⟨⟨L.intr, L.quiet⟩, L.graph, L.slen, L.sext, L.cacheExt, L.cacheMode⟩

theorem LoopFrame.pushed (inst : Instance) (g : Nat) (s0 : St) : LoopFrame s0 g (pushed inst g s0) :=
  ⟨FlagsExt.of_eq rfl rfl rfl, ⟨_, rfl⟩, List.length_append, fun _ e he => ⟨e, getElem?_prefix he, rfl, id⟩,
   fun _ _ h => h, rfl⟩

/-! `s1`: the state after the iteration of a round that started in `st` -/

variable (L : LoopFrame s0 g st) (hs : Frame st s1 m)
include L hs

theorem LoopFrame.slen1 : s1.stack.length = s0.stack.length + 1 := by
  rw [hs.stack.1, L.slen]

theorem LoopFrame.sext1 : StackLe s0.stack s1.stack := L.sext.trans hs.stack.2

theorem LoopFrame.cacheExt1 : ∀ k v, InCache s0 k v → InCache s1 k v :=
  fun k v h => hs.cacheExt k v (L.cacheExt k v h)

theorem LoopFrame.popExt (P : Popped s0 s1 s5) : StackExt s0.stack s5.stack := by
  refine ⟨P.slen, fun i e he => ?_⟩
  obtain ⟨e', he', h2⟩ := L.sext1 hs i e he
  exact ⟨e', by rw [P.sget i (getElem?_lt_length he)]; exact he', h2⟩

theorem LoopFrame.frame_to (hext : StackExt s0.stack s5.stack) (e1 : s5.oracle = s1.oracle)
    (e2 : s5.oracleDefault = s1.oracleDefault) (e3 : s5.interrupted = s1.interrupted)
    (hc : ∀ k v, InCache s1 k v → InCache s5 k v) (hm : s5.cache.isSome = s1.cache.isSome) {r : List Node}
    (hg5 : s5.graph = s0.graph ++ r) (hr : ∀ n : Node, n ∈ r → n.stackDepth = none ∧ MinLe lb n.links) :
    Frame s0 s5 lb :=
  ⟨(L.toFlagsExt.trans hs.toFlagsExt).trans (FlagsExt.of_eq e1 e2 e3), ⟨r, hg5, hr⟩, hext,
   fun k v h => hc k v (L.cacheExt1 hs k v h), by rw [hm, hs.cacheMode, L.cacheMode]⟩

theorem LoopFrame.popped (P : Popped s0 s1 s5) {r : List Node} (hg5 : s5.graph = s0.graph ++ r)
    (hr : ∀ n : Node, n ∈ r → n.stackDepth = none ∧ MinLe lb n.links) : Frame s0 s5 lb :=
  L.frame_to hs (L.popExt hs P) P.oracle P.oracleDefault P.interrupted (fun _ _ h => P.inCache.mpr h)
    (by rw [P.cache]) hg5 hr

/-- the loop goes round again: the cycle flag of `g` is cleared, the nodes behind its node are rolled back -/
theorem LoopFrame.restart {cur : V} (R : Rest s1 s2) (hst2 : s2.stack = setCycle false s0.stack.length s1.stack)
    (hg2 : s2.graph = s0.graph ++ [headNode s0 g cur]) : LoopFrame s0 g s2 := by
  refine ⟨(L.toFlagsExt.trans hs.toFlagsExt).trans (FlagsExt.of_eq R.oracle R.oracleDefault R.interrupted),
    ⟨cur, hg2⟩, by rw [hst2, setCycle_length, L.slen1 hs], fun i e he => ?_,
    fun k v h => R.inCache.mpr (L.cacheExt1 hs k v h), by rw [R.cache, hs.cacheMode, L.cacheMode]⟩
  obtain ⟨e', he', h2⟩ := L.sext1 hs i e he
  exact ⟨e', by rw [hst2, setCycle_getElem?_ne _ _ _ _ (Nat.ne_of_lt (getElem?_lt_length he))]; exact he', h2⟩

end

/-- how a round of the loop for `g` (pushed on `s0`) ends in a return: `s1` is the state after the iteration, with
    the nodes `new` behind the node of `g`, whose provisional answer was `old` and is now `cur`; `s3` is returned.
    It keeps `new`, if the cycle flag of `g` is not set or the answer is stable; or the answer is `ambig` and the
    nodes computed from `old` are rolled back (F10). -/
structure RoundEnd (s0 : St) (g : Nat) (s1 : St) (old cur : V) (new new3 : List Node) (s3 : St) : Prop where
  kind : (new3 = new ∧ (¬ flagAt s1.stack s0.stack.length ∨ old = cur)) ∨ (new3 = [] ∧ cur = .ambig)
  graph : s3.graph = s0.graph ++ headNode s0 g cur :: new3
  slen : s3.stack.length = s0.stack.length + 1
  sget : ∀ i, i < s0.stack.length → s3.stack[i]? = s1.stack[i]?
  rest : Rest s1 s3

/-- one round of the loop whose tick and iteration return: the loop returns (`RoundEnd`), or — the cycle flag of
    `g` is set and the answer changed to a definite one — goes round again from the rolled-back state `s2` -/
theorem solveNewSubgoal_round (inst : Instance) (cfg : Cfg) (rec : SubSolver) (r : Nat) {s0 st st0 s1 : St} {g : Nat}
    {old cur : V} {m : Min} {new : List Node}
    (ht : tick cfg st = .ok () st0) (hi : solveIteration inst cfg rec g none st0 = .ok (cur, m) s1)
    (hg1 : s1.graph = s0.graph ++ headNode s0 g old :: new) (hlen : s1.stack.length = s0.stack.length + 1)
    (h10 : cur = .ambig → cfg.fixF10 = true) :
    (∃ new3 s3, solveNewSubgoal inst cfg rec g s0.stack.length s0.graph.length (r + 1) st = .ok m s3 ∧
      RoundEnd s0 g s1 old cur new new3 s3) ∨
    (old ≠ cur ∧ cur ≠ .ambig ∧
      ∃ s2, solveNewSubgoal inst cfg rec g s0.stack.length s0.graph.length (r + 1) st =
          solveNewSubgoal inst cfg rec g s0.stack.length s0.graph.length r s2 ∧
        Rest s1 s2 ∧ s2.stack = setCycle false s0.stack.length s1.stack ∧
        s2.graph = s0.graph ++ [headNode s0 g cur]) := by
  have hlt : s0.stack.length < s1.stack.length := by rw [hlen]; exact Nat.lt_succ_self _
  have he : s1.stack[s0.stack.length]? = some s1.stack[s0.stack.length] := List.getElem?_eq_getElem hlt
  generalize s1.stack[s0.stack.length] = e at he
  have hhead : s1.graph[s0.graph.length]? = some (headNode s0 g old) := by rw [hg1]; exact mid_at _ _ _
  rw [solveNewSubgoal_step inst cfg rec g _ _ r st st0 s1 cur m e _ ht hi he hhead]
  have hgr : updateNode (fun n => { n with solution := cur }) s0.graph.length s1.graph =
      s0.graph ++ headNode s0 g cur :: new := by
    rw [hg1, updateNode_mid]; rfl
  have hroll : (rollbackTo (s0.graph.length + 1) (afterRound s0.stack.length s0.graph.length cur s1)).graph =
      s0.graph ++ [headNode s0 g cur] := by
    show (updateNode _ s0.graph.length s1.graph).take (s0.graph.length + 1) = _
    rw [hgr, take_mid]
  have hlen' : (setCycle false s0.stack.length s1.stack).length = s0.stack.length + 1 := by
    rw [setCycle_length, hlen]
  have hget : ∀ i, i < s0.stack.length → (setCycle false s0.stack.length s1.stack)[i]? = s1.stack[i]? :=
    fun i hi => setCycle_getElem?_ne _ _ _ _ (Nat.ne_of_lt hi)
  by_cases hc : e.cycle = true
  · simp only [hc, Bool.not_true, Bool.false_eq_true, if_false]
    have hsol : (headNode s0 g old).solution = old := rfl
    rw [hsol]
    by_cases hoc : old = cur
    · subst hoc
      have h1 : reachedFixedPoint old old = true := by simp [reachedFixedPoint]
      have h2 : (old != old) = false := by simp
      simp only [h1, h2, Bool.and_false, Bool.false_eq_true, if_true, if_false]
      exact Or.inl ⟨new, _, rfl, Or.inl ⟨rfl, Or.inr rfl⟩, hgr, hlen', hget, ⟨rfl, rfl, rfl, rfl⟩⟩
    · by_cases hamb : cur = .ambig
      · -- interrupted: the loop stops, what was computed from the old answer is rolled back (F10)
        subst hamb
        have h1 : reachedFixedPoint old .ambig = true := by simp [reachedFixedPoint]
        have h2 : (old != .ambig) = true := by simpa using hoc
        simp only [h1, h2, h10 rfl, Bool.and_self, if_true]
        exact Or.inl ⟨[], _, rfl, Or.inr ⟨rfl, rfl⟩, hroll, hlen', hget, ⟨rfl, rfl, rfl, rfl⟩⟩
      · have h1 : reachedFixedPoint old cur = false := by simp [reachedFixedPoint, hoc, hamb]
        simp only [h1, Bool.false_eq_true, if_false]
        exact Or.inr ⟨hoc, hamb, _, rfl, ⟨rfl, rfl, rfl, rfl⟩, rfl, hroll⟩
  · have hc' : e.cycle = false := by cases h' : e.cycle <;> simp_all
    simp only [hc', Bool.not_false, if_true]
    refine Or.inl ⟨new, _, rfl, Or.inl ⟨rfl, Or.inl ?_⟩, hgr, hlen, fun _ _ => rfl, ⟨rfl, rfl, rfl, rfl⟩⟩
    rintro ⟨e', he', hce'⟩
    rw [he] at he'
    cases he'
    rw [hc'] at hce'
    cases hce'

/-- the bookkeeping of `solve_goal` after the loop returned (`RoundEnd`) goes one of three ways, and no assert
    fires: the node of `g` stays in the graph, its links pointing below it; or `g` is the head of its component and
    the nodes from it on are dropped (caching disabled, or interrupted: F3), or moved to the cache.  (`Popped` fixes
    the cache, so in the last case it is stated of the result with the cache of `s1` put back.) -/
theorem finishGoal_cases {cfg : Cfg} (h3 : cfg.fixF3 = true) {s0 s1 s3 : St} {g : Nat} {old cur : V} {sub : Min}
    {new new3 : List Node} (hend : RoundEnd s0 g s1 old cur new new3 s3)
    (hnew : ∀ n : Node, n ∈ new → n.stackDepth = none ∧ MinLe sub n.links)
    (hamb : cur = .ambig → s1.interrupted = true) (m : Min) :
    (∃ l, sub = some l ∧ l < s0.graph.length ∧
      finishGoal cfg m s0.stack.length s0.graph.length sub s3 =
        .ok (cur, Min.updateFrom m sub) (keptSt s3 (s0.graph ++ (⟨g, cur, none, sub⟩ : Node) :: new3)) ∧
      Popped s0 s1 (keptSt s3 (s0.graph ++ (⟨g, cur, none, sub⟩ : Node) :: new3))) ∨
    (MinLe (some s0.graph.length) sub ∧
      finishGoal cfg m s0.stack.length s0.graph.length sub s3 =
        .ok (cur, Min.updateFrom m sub) (keptSt s3 s0.graph) ∧
      Popped s0 s1 (keptSt s3 s0.graph)) ∨
    (MinLe (some s0.graph.length) sub ∧ new3 = new ∧ cur ≠ .ambig ∧ s1.interrupted = false ∧
      ∃ cc1 cc6, s1.cache = some cc1 ∧ drainToCache s0.graph.length (drained g cur sub new) cc1 = .ok cc6 ∧
        finishGoal cfg m s0.stack.length s0.graph.length sub s3 =
          .ok (cur, Min.updateFrom m sub) (cachedSt s3 s0.graph cc6) ∧
        Popped s0 s1 { cachedSt s3 s0.graph cc6 with cache := s1.cache }) := by
  obtain ⟨hcase, hg3, hlen3, hget3, R3⟩ := hend
  have hg4 : updateNode (fun n => { n with links := sub, stackDepth := none }) s0.graph.length s3.graph =
      s0.graph ++ (⟨g, cur, none, sub⟩ : Node) :: new3 := by
    rw [hg3, updateNode_mid]; rfl
  have hpop : s0.stack.length + 1 = s3.stack.length := hlen3.symm
  have hsget : ∀ i, i < s0.stack.length → s3.stack.dropLast[i]? = s1.stack[i]? := by
    intro i hi
    rw [List.getElem?_dropLast, ← hget3 i hi]
    have : i < s3.stack.length - 1 := by omega
    simp only [this, if_true]
  have hslen : s3.stack.dropLast.length = s0.stack.length := by
    rw [List.length_dropLast]; omega
  by_cases hge : Min.ge sub s0.graph.length = true
  · right
    by_cases hdis : s3.cache = none ∨ (cfg.fixF3 && s3.interrupted) = true
    · exact Or.inl ⟨(minGe_iff _ _).mp hge, finishGoal_discard cfg m hg4 hpop hge hdis,
        hslen, hsget, R3.cache, R3.oracle, R3.oracleDefault, R3.interrupted⟩
    · right
      cases hc3 : s3.cache with
      | none => exact absurd (Or.inl hc3) hdis
      | some cc1 =>
      have hand : (cfg.fixF3 && s3.interrupted) = false := by
        cases h : (cfg.fixF3 && s3.interrupted) with
        | false => rfl
        | true => exact absurd (Or.inr h) hdis
      have hni : s1.interrupted = false := by
        rw [← R3.interrupted]
        rw [h3, Bool.true_and] at hand
        exact hand
      have hne : cur ≠ .ambig := fun e => by rw [hamb e] at hni; cases hni
      have hnew3 : new3 = new := hcase.elim (fun h1 => h1.1) (fun h1 => absurd h1.2 hne)
      subst hnew3
      -- the drained nodes are off the stack and link at or above `dfn`
      obtain ⟨cc6, hdr⟩ := drain_ok s0.graph.length (drained g cur sub new3) cc1 (by
        intro n hn
        cases List.mem_cons.mp hn with
        | inl e => rw [e]; exact ⟨rfl, hge⟩
        | inr e => exact ⟨(hnew n e).1, (minGe_iff _ _).mpr (((minGe_iff _ _).mp hge).trans (hnew n e).2)⟩)
      exact ⟨(minGe_iff _ _).mp hge, rfl, hne, hni, cc1, cc6, by rw [← R3.cache]; exact hc3, hdr,
        finishGoal_cache cfg m hg4 hpop hge hc3 hand hdr, hslen, hsget, rfl, R3.oracle, R3.oracleDefault,
        R3.interrupted⟩
  · obtain ⟨l, hl, hlt⟩ := not_minGe hge
    exact Or.inl ⟨l, hl, hlt, finishGoal_keep cfg m hg4 hpop hge,
      hslen, hsget, R3.cache, R3.oracle, R3.oracleDefault, R3.interrupted⟩

/-- the tick panics; or the goal is answered from the cache; or it has a node off the stack; or it has a node on the
    stack (a cycle is closed: `mixedFrom` decides); or it is new, the stack does not overflow (there is room for a
    goal that is not yet in the graph), and the loop runs on the pushed state -/
theorem solveGoal_cases (inst : Instance) (cfg : Cfg) (d g : Nat) (m : Min) {s : St} {dom : List Nat}
    {Ok : Nat → V → Prop} (hok : CacheAll Ok s) (hn : (s.graph.map (·.goal)).Nodup)
    (hd : ∀ (i : Nat) (n : Node), s.graph[i]? = some n → n.goal ∈ dom)
    (hc : (stackGoals s.graph).length = s.stack.length)
    (hstk : ∀ (i : Nat) (n : Node) (d : Nat), s.graph[i]? = some n → n.stackDepth = some d →
      d < s.stack.length ∧ n.links = some i)
    (hg : g ∈ dom) (hov : dom.length ≤ cfg.overflowDepth) :
    (∃ s', solveGoal inst cfg (d + 1) g m s = .panic .budget s' ∧ BudgetPanic Ok cfg .budget s') ∨
    (∃ w, InCache s g w ∧ solveGoal inst cfg (d + 1) g m s = .ok (w, m) { s with work := s.work + 1 }) ∨
    (∃ (dfn : Nat) (node : Node), s.graph[dfn]? = some node ∧ node.goal = g ∧ node.stackDepth = none ∧
      solveGoal inst cfg (d + 1) g m s =
        .ok (node.solution, Min.updateFrom m node.links) { s with work := s.work + 1 }) ∨
    (∃ (dfn : Nat) (node : Node) (depth : Nat), s.graph[dfn]? = some node ∧ node.goal = g ∧
      node.stackDepth = some depth ∧
      solveGoal inst cfg (d + 1) g m s =
        if mixedFrom (setCycle true depth s.stack) depth then
          .ok (errorValue, m) { s with work := s.work + 1, stack := setCycle true depth s.stack }
        else .ok (node.solution, Min.updateFrom m node.links)
          { s with work := s.work + 1, stack := setCycle true depth s.stack }) ∨
    (Undef s g ∧ s.stack.length < dom.length ∧
      solveGoal inst cfg (d + 1) g m s =
        match solveNewSubgoal inst cfg (solveGoal inst cfg d) g s.stack.length s.graph.length cfg.rounds
            (pushed inst g { s with work := s.work + 1 }) with
        | .panic site s' => .panic site s'
        | .ok sub s3 => finishGoal cfg m s.stack.length s.graph.length sub s3) := by
  have ht := tick_sat cfg hok
  cases htk : tick cfg s with
  | panic site s0 =>
    rw [htk] at ht
    obtain ⟨rfl, hp⟩ := ht
    exact Or.inl ⟨s0, solveGoal_tick_panic _ _ _ _ _ _ _ _ htk, rfl, hp⟩
  | ok u s0 =>
    rw [htk] at ht
    have e0 : s0 = { s with work := s.work + 1 } := ht
    subst e0
    right
    cases hcl : cacheLookup ({ s with work := s.work + 1 } : St) g with
    | some w =>
      exact Or.inl ⟨w, (inCache_iff_lookup _ g w).mpr hcl, solveGoal_cached inst cfg d g m s _ w htk hcl⟩
    | none =>
      right
      cases hl : lookup ({ s with work := s.work + 1 } : St).graph g with
      | some dfn =>
        obtain ⟨node, hnode, hgo⟩ := lookup_some hl
        have e := solveGoal_hit inst cfg d g m s _ htk hcl dfn hl node hnode
        cases hsd : node.stackDepth with
        | none =>
          rw [hsd] at e
          exact Or.inl ⟨dfn, node, hnode, hgo, hsd, e⟩
        | some depth =>
          have hnle : ¬ ({ s with work := s.work + 1 } : St).stack.length ≤ depth :=
            Nat.not_le.mpr (hstk dfn node depth hnode hsd).1
          rw [hsd] at e
          simp only [hnle, if_false] at e
          exact Or.inr (Or.inl ⟨dfn, node, depth, hnode, hgo, hsd, e⟩)
      | none =>
        have hu : Undef s g := by
          intro w hw
          cases hw with
          | inl hw =>
            rw [inCache_iff_lookup] at hw
            exact absurd (hw.symm.trans hcl) nofun
          | inr hw =>
            obtain ⟨i, n, hn', hgo, _⟩ := hw
            exact lookup_none hl n (List.mem_of_getElem? hn') hgo
        have hlt : s.stack.length < dom.length := stack_length_lt hn hd hc hg (lookup_none hl)
        have hnov : ¬ cfg.overflowDepth ≤ ({ s with work := s.work + 1 } : St).stack.length := by
          show ¬ cfg.overflowDepth ≤ s.stack.length
          omega
        exact Or.inr (Or.inr ⟨hu, hlt, solveGoal_new inst cfg d g m s _ htk hcl hl hnov⟩)

end Chalk.FixedPoint.Cyc
