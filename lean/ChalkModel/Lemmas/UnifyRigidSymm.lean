/-
  Symmetry of the rigid fragment: swapping the two types and inverting the variance yields the
  same outlives obligations up to order (`subConstraints_swap`), hence `relate` on rigid types
  returns permuted goal lists for the two orders (`relate_swap_goals`).
-/
import ChalkModel.Lemmas.UnifyRigid

namespace Chalk

theorem Variance.xform_invert (v w : Variance) : (v.xform w).invert = v.invert.xform w := by
  cases v <;> cases w <;> rfl

theorem Variance.invert_invert (v : Variance) : v.invert.invert = v := by
  cases v <;> rfl

theorem ltConstraints_swap (v : Variance) (a b : Lifetime) :
    (ltConstraints v.invert b a).Perm (ltConstraints v a b) := by
  by_cases h : a = b ∨ a = .error ∨ b = .error
  · have h' : b = a ∨ b = .error ∨ a = .error := by
      rcases h with h | h | h
      · exact .inl h.symm
      · exact .inr (.inr h)
      · exact .inr (.inl h)
    simp [ltConstraints, h, h']
  · have h' : ¬ (b = a ∨ b = .error ∨ a = .error) := by
      intro h'
      apply h
      rcases h' with h' | h' | h'
      · exact .inl h'.symm
      · exact .inr (.inr h')
      · exact .inr (.inl h')
    cases v <;> simp [ltConstraints, h, h', Variance.invert]
    exact List.Perm.swap _ _ _

/- By induction along `subConstraints db v a b`: where it matches the two heads, the swapped call
   matches them too; where it falls through, so does the swapped call, and both lists are empty. -/
theorem subConstraints_swap_all (db : UDb) :
    (∀ v a b, Ty.eraseLt a = Ty.eraseLt b → (subConstraints db v.invert b a).Perm (subConstraints db v a b)) ∧
    (∀ v a b, Args.eraseLt a = Args.eraseLt b →
      (subConstraintsFn db v.invert b a).Perm (subConstraintsFn db v a b)) ∧
    (∀ v a b, GArg.eraseLt a = GArg.eraseLt b →
      (subConstraintsGArg db v.invert b a).Perm (subConstraintsGArg db v a b)) ∧
    (∀ v vs i a b, Args.eraseLt a = Args.eraseLt b →
      (subConstraintsArgs db v.invert vs i b a).Perm (subConstraintsArgs db v vs i a b)) := by
  apply subConstraints.mutual_induct db
  · intro v n as n' bs ih h
    simp only [Ty.eraseLt, Ty.app.injEq] at h
    obtain ⟨rfl, h⟩ := h
    simp only [subConstraints]; exact ih h
  · intro v a b ih h
    simp only [Ty.eraseLt, Ty.slice.injEq] at h
    simp only [subConstraints]; exact ih h
  · intro v m a m' b ih h
    simp only [Ty.eraseLt, Ty.raw.injEq] at h
    obtain ⟨rfl, h⟩ := h
    simp only [subConstraints, ← Variance.xform_invert]; exact ih h
  · intro v m la a m' lb b ih h
    simp only [Ty.eraseLt, Ty.ref.injEq, true_and] at h
    obtain ⟨rfl, h⟩ := h
    simp only [subConstraints, ← Variance.xform_invert]
    exact (ltConstraints_swap _ la lb).append (ih h)
  · intro v a ta va b tb vb ih1 ih2 h
    simp only [Ty.eraseLt, Const.eraseLt, Ty.array.injEq, Const.mk.injEq] at h
    simp only [subConstraints]; exact (ih1 h.1).append (ih2 h.2.1)
  · intro nb sig as nb' sig' bs ihc iho h
    simp only [Ty.eraseLt, Ty.function.injEq] at h
    simp only [subConstraints, Variance.invert]
    exact ((iho h.2.2).append (ihc h.2.2)).trans List.perm_append_comm
  · intro nb sig as nb' sig' bs v hv ih h
    simp only [Ty.eraseLt, Ty.function.injEq] at h
    cases v
    · exact ih h.2.2
    · exact absurd rfl hv
    · exact ih h.2.2
  · intro a v b h1 h2 h3 h4 h5 h6 _
    rw [subConstraints.eq_8 db v a b h1 h2 h3 h4 h5 h6,
      subConstraints.eq_8 db _ b a (fun _ _ _ _ e e' => h1 _ _ _ _ e' e) (fun _ _ e e' => h2 _ _ e' e)
        (fun _ _ _ _ e e' => h3 _ _ _ _ e' e) (fun _ _ _ _ _ _ e e' => h4 _ _ _ _ _ _ e' e)
        (fun _ _ _ _ _ _ e e' => h5 _ _ _ _ _ _ e' e) (fun _ _ _ _ _ _ e e' => h6 _ _ _ _ _ _ e' e)]
  · intro v a b ih h
    simp only [GArg.eraseLt, GArg.ty.injEq] at h
    simp only [subConstraintsGArg]; exact ih h
  · intro v a b _
    simp only [subConstraintsGArg]; exact ltConstraints_swap v a b
  · intro v ta va tb vb ih h
    simp only [GArg.eraseLt, Const.eraseLt, GArg.ct.injEq, Const.mk.injEq] at h
    simp only [subConstraintsGArg]; exact ih h.1
  · intro a v b h1 h2 h3 _
    rw [subConstraintsGArg.eq_4 db v a b h1 h2 h3,
      subConstraintsGArg.eq_4 db _ b a (fun _ _ e e' => h1 _ _ e' e) (fun _ _ e e' => h2 _ _ e' e)
        (fun _ _ _ _ e e' => h3 _ _ _ _ e' e)]
  · intro v a b ih h
    simp only [Args.eraseLt, Args.cons.injEq, and_true] at h
    simp only [subConstraintsFn]; exact ih h
  · intro v a as b bs hn ih1 ih2 h
    simp only [Args.eraseLt, Args.cons.injEq] at h
    rw [subConstraintsFn.eq_2 db v a as b bs hn, subConstraintsFn.eq_2 db _ b bs a as (fun e e' => hn e' e),
      ← Variance.xform_invert]
    exact (ih1 h.1).append (ih2 h.2)
  · intro a v b h1 h2 _
    rw [subConstraintsFn.eq_3 db v a b h1 h2,
      subConstraintsFn.eq_3 db _ b a (fun _ _ e e' => h1 _ _ e' e) (fun _ _ _ _ e e' => h2 _ _ _ _ e' e)]
  · intro v vs i a as b bs ih1 ih2 h
    simp only [Args.eraseLt, Args.cons.injEq] at h
    simp only [subConstraintsArgs, ← Variance.xform_invert]
    exact (ih1 h.1).append (ih2 h.2)
  · intro a v vs i b h1 _
    rw [subConstraintsArgs.eq_2 db v vs i a b h1,
      subConstraintsArgs.eq_2 db _ vs i b a (fun _ _ _ _ e e' => h1 _ _ _ _ e' e)]

theorem subConstraints_swap (db : UDb) : (v : Variance) → (a b : Ty) → a.eraseLt = b.eraseLt →
    (subConstraints db v.invert b a).Perm (subConstraints db v a b) :=
  (subConstraints_swap_all db).1

theorem subConstraintsGArg_swap (db : UDb) : (v : Variance) → (a b : GArg) → a.eraseLt = b.eraseLt →
    (subConstraintsGArg db v.invert b a).Perm (subConstraintsGArg db v a b) :=
  (subConstraints_swap_all db).2.2.1

theorem subConstraintsArgs_swap (db : UDb) : (v : Variance) → (vs : Option (List Variance)) → (i : Nat) →
    (a b : Args) → a.eraseLt = b.eraseLt →
    (subConstraintsArgs db v.invert vs i b a).Perm (subConstraintsArgs db v vs i a b) :=
  (subConstraints_swap_all db).2.2.2

theorem subConstraintsFn_swap (db : UDb) : (v : Variance) → (a b : Args) → a.eraseLt = b.eraseLt →
    (subConstraintsFn db v.invert b a).Perm (subConstraintsFn db v a b) :=
  (subConstraints_swap_all db).2.1

theorem relate_swap_goals (db : UDb) (ar : TyName → Nat) (hdb : db.arityOk ar) (jf fuel : Nat) (t : Table)
    (v : Variance) (a b : Ty)
    (ha : a.rigid = true) (hb : b.rigid = true) (haa : a.arityOk ar = true) (hab : b.arityOk ar = true)
    (hda : a.depth ≤ fuel) (hdb' : b.depth ≤ fuel) (he : a.eraseLt = b.eraseLt) :
    ∃ g1 g2, relate db jf fuel t v a b = (t, .ok g1) ∧ relate db jf fuel t v.invert b a = (t, .ok g2) ∧
      g2.Perm g1 :=
  ⟨_, _, relate_rigid db ar hdb jf fuel t v a b ha hb haa hab hda he,
    relate_rigid db ar hdb jf fuel t v.invert b a hb ha hab haa hdb' he.symm,
    (subConstraints_swap db v a b he).map _⟩

#print axioms Chalk.subConstraints_swap
#print axioms Chalk.relate_swap_goals

end Chalk
