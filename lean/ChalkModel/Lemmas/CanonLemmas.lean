import ChalkModel.Lemmas.SFoldLemmas
import ChalkModel.Lemmas.TableLemmas
import ChalkModel.Lemmas.ShiftPure

/-! Lemmas about the canonicalizer: `posOf`, its handlers on inference variables, the
    well-numbered-ness checker and the round trip `canonicalize ∘ instantiate`, `into_binders`, and
    invariance under a renaming of the table's variables (`Renaming`, `ren_handlers`). -/
namespace Chalk

theorem posOf_eq_findIdx? (r : Nat) : (l : List (VarKind × Nat)) → posOf r l = l.findIdx? (·.2 == r)
  | [] => rfl
  | (k, x) :: l => by
    rw [posOf, List.findIdx?_cons, posOf_eq_findIdx? r l]
    simp only [beq_iff_eq]
    split
    · rfl
    · cases List.findIdx? (·.2 == r) l <;> rfl

theorem posOf_append_of_some (r : Nat) (l m : List (VarKind × Nat)) (i : Nat) (h : posOf r l = some i) :
    posOf r (l ++ m) = some i := by
  rw [posOf_eq_findIdx?] at h ⊢; rw [List.findIdx?_append, h]; rfl

theorem posOf_append_of_none (r : Nat) (l m : List (VarKind × Nat)) (h : posOf r l = none) :
    posOf r (l ++ m) = (posOf r m).map (· + l.length) := by
  rw [posOf_eq_findIdx?] at h; rw [posOf_eq_findIdx?, posOf_eq_findIdx?, List.findIdx?_append, h]; rfl

theorem posOf_lt_length (r : Nat) (l : List (VarKind × Nat)) (i : Nat) (h : posOf r l = some i) : i < l.length :=
  (List.findIdx?_eq_some_iff_findIdx_eq.mp (posOf_eq_findIdx? r l ▸ h)).1

theorem posOf_get (r : Nat) : (l : List (VarKind × Nat)) → (i : Nat) → posOf r l = some i →
    ∃ k, l[i]? = some (k, r) := fun l i h => by
  obtain ⟨hi, hr, _⟩ := List.findIdx?_eq_some_iff_getElem.mp (posOf_eq_findIdx? r l ▸ h)
  exact ⟨l[i].1, by rw [List.getElem?_eq_getElem hi, ← eq_of_beq hr]⟩

theorem posOf_eq_none_iff (r : Nat) (l : List (VarKind × Nat)) : posOf r l = none ↔ r ∉ l.map (·.2) := by
  rw [posOf_eq_findIdx?, List.findIdx?_eq_none_iff, List.mem_map]
  constructor
  · rintro h ⟨p, hp, rfl⟩; exact Bool.false_ne_true ((h p hp).symm.trans (beq_self_eq_true _))
  · intro h p hp; exact Bool.eq_false_iff.mpr fun hb => h ⟨p, hp, eq_of_beq hb⟩

theorem posOf_prefix (r : Nat) (l l' : List (VarKind × Nat)) (i : Nat) (h : posOf r l = some i) (hp : l <+: l') :
    posOf r l' = some i := by
  rw [posOf_eq_findIdx?] at h ⊢; exact hp.findIdx?_eq_some h

def addIfNew (fv : List (VarKind × Nat)) (p : VarKind × Nat) : List (VarKind × Nat) :=
  match posOf p.2 fv with
  | some _ => fv
  | none => fv ++ [p]

theorem addIfNew_of_some {fv : List (VarKind × Nat)} {k : VarKind} {r i : Nat} (h : posOf r fv = some i) :
    addIfNew fv (k, r) = fv := by
  simp only [addIfNew, h]

theorem addIfNew_of_none {fv : List (VarKind × Nat)} {k : VarKind} {r : Nat} (h : posOf r fv = none) :
    addIfNew fv (k, r) = fv ++ [(k, r)] := by
  simp only [addIfNew, h]

theorem prefix_addIfNew (fv : List (VarKind × Nat)) (p : VarKind × Nat) : fv <+: addIfNew fv p := by
  obtain ⟨k, r⟩ := p
  cases hp : posOf r fv with
  | some i => rw [addIfNew_of_some hp]; exact List.prefix_refl _
  | none => rw [addIfNew_of_none hp]; exact List.prefix_append _ _

theorem posOf_addIfNew (fv : List (VarKind × Nat)) (k : VarKind) (r : Nat) :
    posOf r (addIfNew fv (k, r)) = some ((posOf r fv).getD fv.length) := by
  cases hp : posOf r fv with
  | some i => rw [addIfNew_of_some hp]; exact hp
  | none =>
    rw [addIfNew_of_none hp, posOf_append_of_none r fv _ hp, posOf, if_pos rfl]
    simp only [Option.map, Nat.zero_add, Option.getD]

theorem canonAdd_eq (t : Table) (st : CState) (k : VarKind) (r : Nat) :
    canonAdd t st k r = (t.universeOfUnbound r).map fun u =>
      ((posOf r st.freeVars).getD st.freeVars.length,
        { freeVars := addIfNew st.freeVars (k, r), maxUniverse := max st.maxUniverse u }) := by
  unfold canonAdd addIfNew
  cases t.universeOfUnbound r with
  | error e => rfl
  | ok u => cases posOf r st.freeVars <;> rfl

theorem canonAdd_eq_ok {t : Table} {st st' : CState} {k : VarKind} {r i : Nat}
    (h : canonAdd t st k r = .ok (i, st')) :
    ∃ u, t.universeOfUnbound r = .ok u ∧ i = (posOf r st.freeVars).getD st.freeVars.length ∧
      st' = { freeVars := addIfNew st.freeVars (k, r), maxUniverse := max st.maxUniverse u } := by
  rw [canonAdd_eq] at h
  obtain ⟨u, hu, he⟩ := Except.map_eq_ok h
  cases he; exact ⟨u, hu, rfl, rfl⟩

theorem canonFolder_eq (t : Table) (fuel : Nat) : ∃ inner, canonFolder t fuel = canonStep t inner := by
  cases fuel with
  | zero => exact ⟨none, rfl⟩
  | succ n => exact ⟨some (canonFolder t n), rfl⟩

theorem canonFolder_noTyFold (t : Table) (fuel : Nat) : (canonFolder t fuel).NoTyFold := by
  obtain ⟨inner, h⟩ := canonFolder_eq t fuel
  rw [h]; exact ⟨rfl, rfl, rfl⟩

section
variable {t : Table} {inner : Option (SFolder CState)} {v o : Nat} {st : CState}

theorem canonStep_inferTy_ok {k : TyVarKind} {r : Ty × CState}
    (h : (canonStep t inner).inferTy v k o st = .ok r) :
    (t.probeVar v = none ∧ ∃ i st', canonAdd t st (.ty k) (t.find v) = .ok (i, st') ∧ r = (.bound o i, st')) ∨
    (∃ ty f ty' st', t.probeVar v = some (.ty ty) ∧ inner = some f ∧ sfoldTy f 0 ty st = .ok (ty', st') ∧
      r = (ty'.shift o 0, st')) := by
  simp only [canonStep] at h
  cases hp : t.probeVar v with
  | none =>
    simp only [hp] at h
    cases hadd : canonAdd t st (.ty k) (t.find v) with
    | error e => simp only [hadd] at h; cases h
    | ok p => obtain ⟨i, st'⟩ := p; simp only [hadd] at h; cases h; exact .inl ⟨rfl, i, st', rfl, rfl⟩
  | some g =>
    simp only [hp] at h
    cases inner with
    | none => cases h
    | some f =>
      cases g <;> try cases h
      obtain ⟨ty', st', hf, hk⟩ := bindS_eq_ok.mp h
      rw [Ty.shiftedInFrom, foldTy_shifter] at hk; cases hk
      exact .inr ⟨_, f, ty', st', rfl, rfl, hf, rfl⟩

theorem canonStep_inferLt_ok {r : Lifetime × CState} (h : (canonStep t inner).inferLt v o st = .ok r) :
    (t.probeVar v = none ∧ ∃ i st', canonAdd t st .lt (t.find v) = .ok (i, st') ∧ r = (.bound o i, st')) ∨
    (∃ l f l' st', t.probeVar v = some (.lt l) ∧ inner = some f ∧ sfoldLifetime f 0 l st = .ok (l', st') ∧
      r = (l'.shift o 0, st')) := by
  simp only [canonStep] at h
  cases hp : t.probeVar v with
  | none =>
    simp only [hp] at h
    cases hadd : canonAdd t st .lt (t.find v) with
    | error e => simp only [hadd] at h; cases h
    | ok p => obtain ⟨i, st'⟩ := p; simp only [hadd] at h; cases h; exact .inl ⟨rfl, i, st', rfl, rfl⟩
  | some g =>
    simp only [hp] at h
    cases inner with
    | none => cases h
    | some f =>
      cases g <;> try cases h
      obtain ⟨l', st', hf, hk⟩ := bindS_eq_ok.mp h
      rw [Lifetime.shiftedInFrom, foldLifetime_shifter] at hk; cases hk
      exact .inr ⟨_, f, l', st', rfl, rfl, hf, rfl⟩

theorem canonStep_inferConst_ok {ty : Ty} {r : Const × CState}
    (h : (canonStep t inner).inferConst ty v o st = .ok r) :
    (t.probeVar v = none ∧ ∃ i st', canonAdd t st (.const ty.scalarCode) (t.find v) = .ok (i, st') ∧
      r = (.mk ty (.bound o i), st')) ∨
    (∃ c f c' st', t.probeVar v = some (.ct c) ∧ inner = some f ∧ sfoldConst f 0 c st = .ok (c', st') ∧
      r = (c'.shift o 0, st')) := by
  simp only [canonStep] at h
  cases hp : t.probeVar v with
  | none =>
    simp only [hp] at h
    cases hadd : canonAdd t st (.const ty.scalarCode) (t.find v) with
    | error e => simp only [hadd] at h; cases h
    | ok p => obtain ⟨i, st'⟩ := p; simp only [hadd] at h; cases h; exact .inl ⟨rfl, i, st', rfl, rfl⟩
  | some g =>
    simp only [hp] at h
    cases inner with
    | none => cases h
    | some f =>
      cases g <;> try cases h
      obtain ⟨c', st', hf, hk⟩ := bindS_eq_ok.mp h
      rw [Const.shiftedInFrom, foldConst_shifter] at hk; cases hk
      exact .inr ⟨_, f, c', st', rfl, rfl, hf, rfl⟩

theorem canonStep_inferTy_unbound {k : TyVarKind} {i : Nat} {st' : CState} (hp : t.probeVar v = none)
    (ha : canonAdd t st (.ty k) (t.find v) = .ok (i, st')) :
    (canonStep t inner).inferTy v k o st = .ok (.bound o i, st') := by
  simp only [canonStep, hp, ha]

theorem canonStep_inferLt_unbound {i : Nat} {st' : CState} (hp : t.probeVar v = none)
    (ha : canonAdd t st .lt (t.find v) = .ok (i, st')) :
    (canonStep t inner).inferLt v o st = .ok (.bound o i, st') := by
  simp only [canonStep, hp, ha]

theorem canonStep_inferConst_unbound {ty : Ty} {i : Nat} {st' : CState} (hp : t.probeVar v = none)
    (ha : canonAdd t st (.const ty.scalarCode) (t.find v) = .ok (i, st')) :
    (canonStep t inner).inferConst ty v o st = .ok (.mk ty (.bound o i), st') := by
  simp only [canonStep, hp, ha]

theorem canonStep_inferTy_bound {k : TyVarKind} {f : SFolder CState} {ty ty' : Ty} {st' : CState}
    (hp : t.probeVar v = some (.ty ty)) (hf : sfoldTy f 0 ty st = .ok (ty', st')) :
    (canonStep t (some f)).inferTy v k o st = .ok (ty'.shift o 0, st') := by
  simp only [canonStep, hp, hf, bindS_ok, Ty.shiftedInFrom, foldTy_shifter]

theorem canonStep_inferLt_bound {f : SFolder CState} {l l' : Lifetime} {st' : CState}
    (hp : t.probeVar v = some (.lt l)) (hf : sfoldLifetime f 0 l st = .ok (l', st')) :
    (canonStep t (some f)).inferLt v o st = .ok (l'.shift o 0, st') := by
  simp only [canonStep, hp, hf, bindS_ok, Lifetime.shiftedInFrom, foldLifetime_shifter]

theorem canonStep_inferConst_bound {ty : Ty} {f : SFolder CState} {c c' : Const} {st' : CState}
    (hp : t.probeVar v = some (.ct c)) (hf : sfoldConst f 0 c st = .ok (c', st')) :
    (canonStep t (some f)).inferConst ty v o st = .ok (c'.shift o 0, st') := by
  simp only [canonStep, hp, hf, bindS_ok, Const.shiftedInFrom, foldConst_shifter]

end

def Ty.isScalar : Ty → Bool
  | .scalar _ => true
  | _ => false

def pNotWN : Err := .panic "not well numbered"

/-- The checker behind `WellNumbered`: a stateful fold whose state is the number of canonical
    variables seen so far.  A variable `^0.idx` (relative to the canonical binder) is accepted when
    it is one of those seen (`idx < n`) or the next new one (`idx = n`), and the binder at `idx`
    has its sort (for a constant also its scalar type).  Inference variables are rejected;
    placeholders are accepted (a const placeholder must have a scalar type, the standing
    assumption about constants). The value is returned unchanged. -/
def wnFolder (binders : List (VarKind × Nat)) : SFolder Nat where
  freeVarTy := fun db idx o n =>
    if db = 0 then
      match binders[idx]? with
      | some (.ty _, _) => if idx ≤ n then .ok (.bound o idx, max n (idx + 1)) else .error pNotWN
      | _ => .error pNotWN
    else .error pNotWN
  freeVarLt := fun db idx o n =>
    if db = 0 then
      match binders[idx]? with
      | some (.lt, _) => if idx ≤ n then .ok (.bound o idx, max n (idx + 1)) else .error pNotWN
      | _ => .error pNotWN
    else .error pNotWN
  freeVarConst := fun ty db idx o n =>
    if db = 0 then
      match binders[idx]? with
      | some (.const c, _) =>
        if idx ≤ n ∧ ty = .scalar c then .ok (.mk ty (.bound o idx), max n (idx + 1)) else .error pNotWN
      | _ => .error pNotWN
    else .error pNotWN
  inferTy := fun _ _ _ _ => .error pNotWN
  inferLt := fun _ _ _ => .error pNotWN
  inferConst := fun _ _ _ _ => .error pNotWN
  phTy := fun ui idx _ n => .ok (.placeholder ui idx, n)
  phLt := fun ui idx _ n => .ok (.placeholder ui idx, n)
  phConst := fun ty ui idx _ n => if ty.isScalar then .ok (.mk ty (.placeholder ui idx), n) else .error pNotWN

/-- `c` is numbered by first occurrence: its variables `^0.0, ^0.1, …` appear for the first time in
    this order, each agrees with the sort of its binder, every binder is used, there are no
    inference variables and no other free variables. -/
def WellNumbered (c : Canon Args) : Prop :=
  sfoldArgs (wnFolder c.binders) 0 c.value 0 = .ok (c.value, c.binders.length)

theorem freshVars_append : (l : List (VarKind × Nat)) → (n : Nat) → (k : VarKind) → (u : Nat) →
    freshVars n (l ++ [(k, u)]) = freshVars n l ++ [(k, n + l.length)]
  | [], n, k, u => by simp [freshVars]
  | (k0, u0) :: l, n, k, u => by
    simp only [List.cons_append, freshVars, freshVars_append l (n + 1) k u, List.length_cons]
    simp; omega

theorem freshVars_take_succ (bs : List (VarKind × Nat)) (n0 n : Nat) (k : VarKind) (u : Nat)
    (h : bs[n]? = some (k, u)) :
    freshVars n0 (bs.take (n + 1)) = freshVars n0 (bs.take n) ++ [(k, n0 + n)] := by
  have hlt : n < bs.length := (List.getElem?_eq_some_iff.mp h).1
  rw [List.take_add_one, h]
  simp only [Option.toList]
  rw [freshVars_append]
  simp [List.length_take, Nat.min_eq_left (Nat.le_of_lt hlt)]

theorem posOf_freshVars : (l : List (VarKind × Nat)) → (n i : Nat) →
    posOf (n + i) (freshVars n l) = if i < l.length then some i else none
  | [], n, i => by simp [freshVars, posOf]
  | (k, u) :: l, n, 0 => by simp [freshVars, posOf]
  | (k, u) :: l, n, i + 1 => by
    have e : n + (i + 1) = n + 1 + i := by omega
    simp only [freshVars, posOf, e]
    have hne : ¬ n = n + 1 + i := by omega
    simp only [hne, if_false, posOf_freshVars l (n + 1) i, List.length_cons]
    by_cases hi : i < l.length <;> simp [hi]

/-- relation between the checker's count and the canonicalizer's state while both walk `c.value` -/
def RoundRel (bs : List (VarKind × Nat)) (n0 : Nat) (n : Nat) (st : CState) : Prop :=
  n ≤ bs.length ∧ st.freeVars = freshVars n0 (bs.take n)

theorem canonAdd_fresh (t' : Table) (bs : List (VarKind × Nat)) (n0 n idx : Nat) (st : CState)
    (k : VarKind) (u : Nat) (hb : bs[idx]? = some (k, u)) (hle : idx ≤ n)
    (hu : t'.universeOfUnbound (n0 + idx) = .ok u) (hr : RoundRel bs n0 n st) :
    ∃ st', canonAdd t' st k (n0 + idx) = .ok (idx, st') ∧ RoundRel bs n0 (max n (idx + 1)) st' := by
  obtain ⟨hn, hfv⟩ := hr
  have hlen : st.freeVars.length = n := by rw [hfv, freshVars_length, List.length_take, Nat.min_eq_left hn]
  have hpos : posOf (n0 + idx) st.freeVars = if idx < n then some idx else none := by
    rw [hfv, posOf_freshVars, List.length_take, Nat.min_eq_left hn]
  by_cases hlt : idx < n
  · rw [if_pos hlt] at hpos
    refine ⟨_, by rw [canonAdd_eq, hu, hpos]; rfl, ?_⟩
    rw [Nat.max_eq_left hlt]
    exact ⟨hn, (addIfNew_of_some hpos).trans hfv⟩
  · rw [if_neg hlt] at hpos
    obtain rfl : idx = n := Nat.le_antisymm hle (Nat.le_of_not_lt hlt)
    refine ⟨_, by rw [canonAdd_eq, hu, hpos, hlen]; rfl, ?_⟩
    rw [Nat.max_eq_right (Nat.le_succ idx)]
    exact ⟨(List.getElem?_eq_some_iff.mp hb).1,
      (addIfNew_of_none hpos).trans (by rw [hfv, freshVars_take_succ bs n0 idx k u hb])⟩

theorem SFolder.comp_applyFolder_ty {σ : Type} (f : SFolder σ) {params : List GArg} {idx : Nat} {ty : Ty}
    (h : params[idx]? = some (.ty ty)) (o : Nat) (s : σ) :
    (f.comp (applyFolder params)).freeVarTy 0 idx o s = sfoldTy f o (ty.shift o 0) s := by
  rw [SFolder.comp_freeVarTy]; simp only [applyFolder, if_true, h, foldTy_shifter]

theorem SFolder.comp_applyFolder_lt {σ : Type} (f : SFolder σ) {params : List GArg} {idx : Nat} {l : Lifetime}
    (h : params[idx]? = some (.lt l)) (o : Nat) (s : σ) :
    (f.comp (applyFolder params)).freeVarLt 0 idx o s = sfoldLifetime f o (l.shift o 0) s := by
  rw [SFolder.comp_freeVarLt]; simp only [applyFolder, if_true, h, foldLifetime_shifter]

theorem SFolder.comp_applyFolder_ct {σ : Type} (f : SFolder σ) {params : List GArg} {idx : Nat} {c : Const}
    (h : params[idx]? = some (.ct c)) (ty : Ty) (o : Nat) (s : σ) :
    (f.comp (applyFolder params)).freeVarConst ty 0 idx o s = sfoldConst f o (c.shift o 0) s := by
  rw [SFolder.comp_freeVarConst]; simp only [applyFolder, if_true, h, foldConst_shifter]

theorem round_handlers (t : Table) (ht : t.Aligned) (bs : List (VarKind × Nat)) (fuel : Nat) :
    SimHandlers True (RoundRel bs t.numVars) (wnFolder bs)
      ((canonFolder (t.freshSubst bs).1 fuel).comp (applyFolder (t.freshSubst bs).2)) := by
  have hσ : (t.freshSubst bs).2 = freshArgs t.numVars bs := (freshSubst_spec bs t).2.2
  obtain ⟨inner, hi⟩ := canonFolder_eq (t.freshSubst bs).1 fuel
  rw [hi, hσ]
  refine
    { freeVarTy := ?_, freeVarLt := ?_, freeVarConst := ?_, inferTy := ?_, inferLt := ?_, inferConst := ?_,
      phTy := ?_, phLt := ?_, phConst := ?_, flagFreeVar := rfl, flagInfer := rfl, flagPh := rfl }
  · intro db idx o n st hr a s1 h1
    simp only [wnFolder] at h1
    split at h1 <;> try cases h1
    subst db
    split at h1 <;> try cases h1
    rename_i k u hb
    split at h1 <;> cases h1
    rename_i hle
    obtain ⟨hfind, hprobe, huniv⟩ := freshSubst_var t ht bs idx (.ty k) u hb
    obtain ⟨st', hadd, hr'⟩ := canonAdd_fresh (t.freshSubst bs).1 bs t.numVars n idx st (.ty k) u hb hle huniv hr
    refine ⟨.bound o idx, st', ?_, fun _ => rfl, hr'⟩
    rw [SFolder.comp_applyFolder_ty _ (freshArgs_get bs t.numVars idx (.ty k) u hb)]
    exact canonStep_inferTy_unbound hprobe (hfind.symm ▸ hadd)
  · intro db idx o n st hr a s1 h1
    simp only [wnFolder] at h1
    split at h1 <;> try cases h1
    subst db
    split at h1 <;> try cases h1
    rename_i u hb
    split at h1 <;> cases h1
    rename_i hle
    obtain ⟨hfind, hprobe, huniv⟩ := freshSubst_var t ht bs idx .lt u hb
    obtain ⟨st', hadd, hr'⟩ := canonAdd_fresh (t.freshSubst bs).1 bs t.numVars n idx st .lt u hb hle huniv hr
    refine ⟨.bound o idx, st', ?_, fun _ => rfl, hr'⟩
    rw [SFolder.comp_applyFolder_lt _ (freshArgs_get bs t.numVars idx .lt u hb)]
    exact canonStep_inferLt_unbound hprobe (hfind.symm ▸ hadd)
  · intro ty1 ty2 db idx o n st hty hr a s1 h1
    cases hty (.inl trivial)
    simp only [wnFolder] at h1
    split at h1 <;> try cases h1
    subst db
    split at h1 <;> try cases h1
    rename_i c u hb
    split at h1 <;> cases h1
    rename_i hle
    obtain ⟨hle, rfl⟩ := hle
    obtain ⟨hfind, hprobe, huniv⟩ := freshSubst_var t ht bs idx (.const c) u hb
    obtain ⟨st', hadd, hr'⟩ := canonAdd_fresh (t.freshSubst bs).1 bs t.numVars n idx st (.const c) u hb hle huniv hr
    refine ⟨.mk (.scalar c) (.bound o idx), st', ?_, fun _ => rfl, hr'⟩
    rw [SFolder.comp_applyFolder_ct _ (freshArgs_get bs t.numVars idx (.const c) u hb)]
    exact canonStep_inferConst_unbound hprobe (hfind.symm ▸ hadd)
  · intro v k o n st _ a s1 h1; cases h1
  · intro v o n st _ a s1 h1; cases h1
  · intro ty1 ty2 v o n st _ _ a s1 h1; cases h1
  · intro ui idx o n st hr a s1 h1
    cases h1
    exact ⟨_, { st with maxUniverse := max st.maxUniverse ui }, rfl, fun _ => rfl, hr⟩
  · intro ui idx o n st hr a s1 h1
    cases h1
    exact ⟨_, { st with maxUniverse := max st.maxUniverse ui }, rfl, fun _ => rfl, hr⟩
  · intro ty1 ty2 ui idx o n st hty hr a s1 h1
    cases hty (.inl trivial)
    simp only [wnFolder] at h1
    split at h1 <;> cases h1
    rename_i hs
    cases ty1 <;> cases hs
    exact ⟨_, { st with maxUniverse := max st.maxUniverse ui }, rfl, fun _ => rfl, hr⟩

theorem intoBinders_cons_ok {t : Table} {k : VarKind} {r : Nat} {l bs : List (VarKind × Nat)}
    (h : intoBinders t ((k, r) :: l) = .ok bs) :
    ∃ u bs', t.universeOfUnbound r = .ok u ∧ intoBinders t l = .ok bs' ∧ bs = (k, u) :: bs' := by
  rw [intoBinders] at h
  split at h; · cases h
  split at h <;> cases h
  exact ⟨_, _, ‹_›, ‹_›, rfl⟩

theorem intoBinders_length (t : Table) : (l bs : List (VarKind × Nat)) → intoBinders t l = .ok bs →
    bs.length = l.length
  | [], bs, h => by cases h; rfl
  | (k, r) :: l, bs, h => by
    obtain ⟨u, bs', _, hr, rfl⟩ := intoBinders_cons_ok h
    exact congrArg (· + 1) (intoBinders_length t l bs' hr)

theorem intoBinders_spec (t : Table) : (l bs : List (VarKind × Nat)) → intoBinders t l = .ok bs →
    ∀ (i : Nat) (k : VarKind) (r : Nat), l[i]? = some (k, r) → ∃ u, t.universeOfUnbound r = .ok u ∧ bs[i]? = some (k, u)
  | [], bs, h, i, k, r, hi => by cases hi
  | (k0, r0) :: l, bs, h, i, k, r, hi => by
    obtain ⟨u0, bs', hu, hr, rfl⟩ := intoBinders_cons_ok h
    cases i with
    | zero => cases hi; exact ⟨u0, hu, rfl⟩
    | succ j => exact intoBinders_spec t l bs' hr j k r hi

theorem intoBinders_fresh (t' : Table) : (bs : List (VarKind × Nat)) → (n0 : Nat) →
    (∀ i k u, bs[i]? = some (k, u) → t'.universeOfUnbound (n0 + i) = .ok u) →
    intoBinders t' (freshVars n0 bs) = .ok bs
  | [], _, _ => rfl
  | (k, u) :: bs, n0, h => by
    have h0 := h 0 k u (by simp)
    have ih := intoBinders_fresh t' bs (n0 + 1) (fun i k' u' hi => by
      have := h (i + 1) k' u' (by simpa using hi)
      have e : n0 + 1 + i = n0 + (i + 1) := by omega
      rw [e]; exact this)
    simp at h0
    simp [freshVars, intoBinders, h0, ih]

theorem canonicalizeFuel_eq_ok {t : Table} {fuel : Nat} {v : Args} {c : Canonicalized Args}
    (h : t.canonicalizeFuel fuel v = .ok c) :
    ∃ val st bs, sfoldArgs (canonFolder t fuel) 0 v {} = .ok (val, st) ∧ intoBinders t st.freeVars = .ok bs ∧
      c = { quantified := { binders := bs, value := val }, freeVars := st.freeVars,
            maxUniverse := st.maxUniverse } := by
  unfold Table.canonicalizeFuel at h
  cases hrun : sfoldArgs (canonFolder t fuel) 0 v {} with
  | error e => rw [hrun] at h; cases h
  | ok p =>
    obtain ⟨val, st⟩ := p
    rw [hrun] at h
    simp only [canonFinish] at h
    cases hb : intoBinders t st.freeVars with
    | error e => simp only [hb] at h; cases h
    | ok bs => simp only [hb] at h; cases h; exact ⟨val, st, bs, rfl, hb, rfl⟩

theorem canonicalizeFuel_of_run {t : Table} {fuel : Nat} {v val : Args} {st : CState}
    {bs : List (VarKind × Nat)}
    (hrun : sfoldArgs (canonFolder t fuel) 0 v {} = .ok (val, st)) (hb : intoBinders t st.freeVars = .ok bs) :
    t.canonicalizeFuel fuel v = .ok ⟨⟨bs, val⟩, st.freeVars, st.maxUniverse⟩ := by
  simp only [Table.canonicalizeFuel, hrun, canonFinish, hb]

/-- Rename every inference variable `?x` to `?(ρ x)`, keeping its kind annotation.  The types of
    variable and placeholder constants are not entered (the canonicalizer does not look at them
    either; they are closed scalar types). -/
def renameFolder (ρ : Nat → Nat) : Folder where
  inferTy := some fun v k _ => .ok (.infer (ρ v) k)
  inferLt := some fun v _ => .ok (.infer (ρ v))
  inferConst := some fun ty v _ => .ok (.mk ty (.infer (ρ v)))
  phConst := some fun ty ui idx _ => .ok (.mk ty (.placeholder ui idx))

/-- `ρ` carries the table `t1` to the table `t2`. -/
structure Renaming (t1 t2 : Table) (ρ : Nat → Nat) : Prop where
  unbound : ∀ x, t1.probeVar x = none →
    t2.probeVar (ρ x) = none ∧ t2.universeOfUnbound (t2.find (ρ x)) = t1.universeOfUnbound (t1.find x)
  roots : ∀ x y, t1.probeVar x = none → t1.probeVar y = none →
    (t2.find (ρ x) = t2.find (ρ y) ↔ t1.find x = t1.find y)
  bound : ∀ x g, t1.probeVar x = some g →
    ∃ g', t2.probeVar (ρ x) = some g' ∧ foldGArg (renameFolder ρ) 0 g = .ok g'

def RenRel (t1 t2 : Table) (ρ : Nat → Nat) (s1 s2 : CState) : Prop :=
  s1.maxUniverse = s2.maxUniverse ∧ s1.freeVars.length = s2.freeVars.length ∧
  intoBinders t1 s1.freeVars = intoBinders t2 s2.freeVars ∧
  ∀ x, t1.probeVar x = none → posOf (t1.find x) s1.freeVars = posOf (t2.find (ρ x)) s2.freeVars

theorem intoBinders_append (t : Table) : (l : List (VarKind × Nat)) → (k : VarKind) → (r : Nat) →
    intoBinders t (l ++ [(k, r)]) =
      match intoBinders t l with
      | .error e => .error e
      | .ok bs => match t.universeOfUnbound r with
        | .error e => .error e
        | .ok u => .ok (bs ++ [(k, u)])
  | [], k, r => by
    simp only [List.nil_append, intoBinders]
    cases t.universeOfUnbound r <;> simp
  | (k0, r0) :: l, k, r => by
    simp only [List.cons_append, intoBinders, intoBinders_append t l k r]
    cases t.universeOfUnbound r0 <;> simp
    cases intoBinders t l <;> simp
    cases t.universeOfUnbound r <;> simp

theorem canonAdd_ren (t1 t2 : Table) (ρ : Nat → Nat) (H : Renaming t1 t2 ρ) (x : Nat) (k : VarKind)
    (hx : t1.probeVar x = none) (s1 s2 s1' : CState) (i : Nat) (hr : RenRel t1 t2 ρ s1 s2)
    (h : canonAdd t1 s1 k (t1.find x) = .ok (i, s1')) :
    ∃ s2', canonAdd t2 s2 k (t2.find (ρ x)) = .ok (i, s2') ∧ RenRel t1 t2 ρ s1' s2' := by
  obtain ⟨hmu, hlen, hbind, hpos⟩ := hr
  obtain ⟨u, hu1, rfl, rfl⟩ := canonAdd_eq_ok h
  have hu2 : t2.universeOfUnbound (t2.find (ρ x)) = .ok u := by rw [(H.unbound x hx).2, hu1]
  have hp := hpos x hx
  refine ⟨_, by rw [canonAdd_eq, hu2, hp, hlen]; rfl, ?_⟩
  unfold RenRel
  cases hp1 : posOf (t1.find x) s1.freeVars with
  | some j =>
    rw [addIfNew_of_some hp1, addIfNew_of_some (hp.symm.trans hp1)]
    exact ⟨by simp only [hmu], hlen, hbind, hpos⟩
  | none =>
    rw [addIfNew_of_none hp1, addIfNew_of_none (hp.symm.trans hp1)]
    refine ⟨by simp only [hmu], by rw [List.length_append, List.length_append, hlen]; rfl, ?_, ?_⟩
    · rw [intoBinders_append, intoBinders_append, hu1, hu2, hbind]
    · intro y hy
      have hy' := hpos y hy
      cases hq : posOf (t1.find y) s1.freeVars with
      | some j =>
        rw [hq] at hy'
        rw [posOf_append_of_some _ _ _ j hq, posOf_append_of_some _ _ _ j hy'.symm]
      | none =>
        rw [hq] at hy'
        rw [posOf_append_of_none _ _ _ hq, posOf_append_of_none _ _ _ hy'.symm, hlen]
        simp only [posOf, H.roots x y hx hy]

/-- the inner canonicalizers of the two runs: both out of budget, or related by the simulation -/
def InnerRel (t1 t2 : Table) (ρ : Nat → Nat) : Option (SFolder CState) → Option (SFolder CState) → Prop
  | none, none => True
  | some f1, some f2 => SimHandlers True (RenRel t1 t2 ρ) f1 (f2.comp (renameFolder ρ)) ∧ f2.NoTyFold
  | _, _ => False

theorem SFolder.comp_renameFolder_inferTy (f : SFolder CState) (ρ : Nat → Nat) (v : Nat) (k : TyVarKind) (o : Nat)
    (s : CState) : (f.comp (renameFolder ρ)).inferTy v k o s = f.inferTy (ρ v) k o s := rfl
theorem SFolder.comp_renameFolder_inferLt (f : SFolder CState) (ρ : Nat → Nat) (v o : Nat) (s : CState) :
    (f.comp (renameFolder ρ)).inferLt v o s = f.inferLt (ρ v) o s := rfl
theorem SFolder.comp_renameFolder_inferConst (f : SFolder CState) (hf : f.foldsInferConstTy = false)
    (ρ : Nat → Nat) (ty : Ty) (v o : Nat) (s : CState) :
    (f.comp (renameFolder ρ)).inferConst ty v o s = f.inferConst ty (ρ v) o s := by
  rw [SFolder.comp_inferConst]; simp only [renameFolder, sfoldConst, hf, Bool.false_eq_true, if_false]

theorem ren_step (t1 t2 : Table) (ρ : Nat → Nat) (H : Renaming t1 t2 ρ)
    (inner1 inner2 : Option (SFolder CState)) (hin : InnerRel t1 t2 ρ inner1 inner2) :
    SimHandlers True (RenRel t1 t2 ρ) (canonStep t1 inner1) ((canonStep t2 inner2).comp (renameFolder ρ)) := by
  refine
    { freeVarTy := ?_, freeVarLt := ?_, freeVarConst := ?_, inferTy := ?_, inferLt := ?_, inferConst := ?_,
      phTy := ?_, phLt := ?_, phConst := ?_, flagFreeVar := rfl, flagInfer := rfl, flagPh := rfl }
  · intro db idx o s1 s2 _ a s1' h1; cases h1
  · intro db idx o s1 s2 _ a s1' h1; cases h1
  · intro ty1 ty2 db idx o s1 s2 _ _ a s1' h1; cases h1
  · intro v k o s1 s2 hr a s1' h1
    rw [SFolder.comp_renameFolder_inferTy]
    rcases canonStep_inferTy_ok h1 with ⟨hp, i, st', hadd, he⟩ | ⟨ty, f1, ty', st', hp, rfl, hf, he⟩ <;> cases he
    · obtain ⟨s2', hadd2, hr'⟩ := canonAdd_ren t1 t2 ρ H v (.ty k) hp s1 s2 _ i hr hadd
      exact ⟨_, s2', canonStep_inferTy_unbound (H.unbound v hp).1 hadd2, fun _ => rfl, hr'⟩
    · obtain ⟨g', hp2, hg⟩ := H.bound v _ hp
      cases inner2 with
      | none => exact hin.elim
      | some f2 =>
        obtain ⟨IH, hnt2⟩ := hin
        obtain ⟨ty2, hty2, rfl⟩ := Except.map_eq_ok (foldGArg_ty .. ▸ hg)
        obtain ⟨b, s2', hrun, hb, hr'⟩ := sfoldTy_sim IH 0 ty s1 s2 hr ty' _ hf
        cases hb trivial
        obtain ⟨x, hx, hrun2⟩ := sfoldTy_comp hnt2 0 ty s2 _ hrun
        cases hty2.symm.trans hx
        exact ⟨_, s2', canonStep_inferTy_bound hp2 hrun2, fun _ => rfl, hr'⟩
  · intro v o s1 s2 hr a s1' h1
    rw [SFolder.comp_renameFolder_inferLt]
    rcases canonStep_inferLt_ok h1 with ⟨hp, i, st', hadd, he⟩ | ⟨l, f1, l', st', hp, rfl, hf, he⟩ <;> cases he
    · obtain ⟨s2', hadd2, hr'⟩ := canonAdd_ren t1 t2 ρ H v .lt hp s1 s2 _ i hr hadd
      exact ⟨_, s2', canonStep_inferLt_unbound (H.unbound v hp).1 hadd2, fun _ => rfl, hr'⟩
    · obtain ⟨g', hp2, hg⟩ := H.bound v _ hp
      cases inner2 with
      | none => exact hin.elim
      | some f2 =>
        obtain ⟨IH, hnt2⟩ := hin
        obtain ⟨l2, hl2, rfl⟩ := Except.map_eq_ok (foldGArg_lt .. ▸ hg)
        obtain ⟨b, s2', hrun, hb, hr'⟩ := sfoldLifetime_sim IH 0 l s1 s2 hr l' _ hf
        cases hb trivial
        obtain ⟨x, hx, hrun2⟩ := sfoldLifetime_comp 0 l s2 _ hrun
        cases hl2.symm.trans hx
        exact ⟨_, s2', canonStep_inferLt_bound hp2 hrun2, fun _ => rfl, hr'⟩
  · intro ty1 ty2 v o s1 s2 hty hr a s1' h1
    cases hty (.inl trivial)
    rw [SFolder.comp_renameFolder_inferConst _ rfl]
    rcases canonStep_inferConst_ok h1 with ⟨hp, i, st', hadd, he⟩ | ⟨c, f1, c', st', hp, rfl, hf, he⟩ <;> cases he
    · obtain ⟨s2', hadd2, hr'⟩ := canonAdd_ren t1 t2 ρ H v _ hp s1 s2 _ i hr hadd
      exact ⟨_, s2', canonStep_inferConst_unbound (H.unbound v hp).1 hadd2, fun _ => rfl, hr'⟩
    · obtain ⟨g', hp2, hg⟩ := H.bound v _ hp
      cases inner2 with
      | none => exact hin.elim
      | some f2 =>
        obtain ⟨IH, hnt2⟩ := hin
        obtain ⟨c2, hc2, rfl⟩ := Except.map_eq_ok (foldGArg_ct .. ▸ hg)
        obtain ⟨b, s2', hrun, hb, hr'⟩ := sfoldConst_sim IH 0 c s1 s2 hr c' _ hf
        cases hb trivial
        obtain ⟨x, hx, hrun2⟩ := sfoldConst_comp hnt2 0 c s2 _ hrun
        cases hc2.symm.trans hx
        exact ⟨_, s2', canonStep_inferConst_bound hp2 hrun2, fun _ => rfl, hr'⟩
  · intro ui idx o s1 s2 hr a s1' h1
    cases h1
    exact ⟨_, { s2 with maxUniverse := max s2.maxUniverse ui }, rfl, fun _ => rfl,
      congrArg (max · ui) hr.1, hr.2⟩
  · intro ui idx o s1 s2 hr a s1' h1
    cases h1
    exact ⟨_, { s2 with maxUniverse := max s2.maxUniverse ui }, rfl, fun _ => rfl,
      congrArg (max · ui) hr.1, hr.2⟩
  · intro ty1 ty2 ui idx o s1 s2 hty hr a s1' h1
    cases hty (.inl trivial)
    cases h1
    exact ⟨_, { s2 with maxUniverse := max s2.maxUniverse ui }, rfl, fun _ => rfl,
      congrArg (max · ui) hr.1, hr.2⟩

theorem ren_handlers (t1 t2 : Table) (ρ : Nat → Nat) (H : Renaming t1 t2 ρ) : (fuel : Nat) →
    SimHandlers True (RenRel t1 t2 ρ) (canonFolder t1 fuel) ((canonFolder t2 fuel).comp (renameFolder ρ))
  | 0 => ren_step t1 t2 ρ H none none trivial
  | n + 1 => ren_step t1 t2 ρ H (some (canonFolder t1 n)) (some (canonFolder t2 n))
      ⟨ren_handlers t1 t2 ρ H n, canonFolder_noTyFold t2 n⟩

end Chalk
