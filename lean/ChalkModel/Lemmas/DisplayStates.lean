/-
  C22: the parser states of items are faithful: `PSt.init.deeper ks none` (struct/enum/impl),
  `PSt.init.deeper (.ty :: own) (some 0)` (trait, `Self` first) and the "mapped" states inside
  associated types and associated type values.
-/
import ChalkModel.Lemmas.DisplayBasic

namespace Chalk.Display.Parse
open Chalk.Display

theorem faithful_item (ks : List VK) : Faithful (PSt.init.deeper ks none) := Faithful.init.deeper ks

theorem fresh_item : FreshFrom (St.init.deeper none) 0 := Faithful.init.fresh_deeper

theorem faithful_trait (own : List VK) : Faithful (PSt.init.deeper (.ty :: own) (some 0)) where
  deep := rfl
  keys := fun k w hm => by simp [PSt.init, PSt.deeper, St.init, St.deeper] at hm
  self := fun r hr => by
    simp [PSt.init, PSt.deeper, St.init, St.deeper] at hr
    subst hr; simp [PSt.init, PSt.deeper, St.init, St.deeper]
  var := fun d i k hk hne => by
    cases d with
    | succ d => simp [PSt.init, PSt.deeper, kindAt] at hk
    | zero =>
      by_cases hi : i = 0
      · subst hi
        simp [PSt.init, PSt.deeper, St.init, St.deeper, St.inv, St.varTok, lookupPair, PSt.varOf, PSt.decode, invLookup]
      · have : ¬ (0 = i) := fun e => hi e.symm
        simp [PSt.init, PSt.deeper, St.init, St.deeper, St.inv, St.varTok, lookupPair, PSt.varOf, PSt.decode,
          invLookup, this]
  lt := fun d i hk => by
    cases d with
    | succ d => simp [PSt.init, PSt.deeper, kindAt] at hk
    | zero =>
      by_cases hi : i = 0
      · subst hi
        simp [PSt.init, PSt.deeper, kindAt] at hk
      · have : ¬ (0 = i) := fun e => hi e.symm
        simp [PSt.init, PSt.deeper, St.init, St.deeper, St.inv, St.ltTok, lookupPair, PSt.decode,
          invLookup, this]
        exact ⟨1, i, ⟨rfl, rfl⟩, Nat.le_refl 1, rfl, rfl⟩

theorem fresh_trait : FreshFrom (St.init.deeper (some 0)) 1 := by
  intro j hj
  have : ¬ (0 = j) := by omega
  simp [St.init, St.deeper, lookupPair, this]

/-- the remapping table of a mapped state -/
def mapTable (D n : Nat) : List ((Nat × Nat) × (Nat × Nat)) :=
  (List.range n).map (fun i => ((D + 1, i), (D, i)))

theorem mem_mapTable {D n : Nat} {k w : Nat × Nat} :
    (k, w) ∈ mapTable D n ↔ ∃ i, i < n ∧ k = (D + 1, i) ∧ w = (D, i) := by
  simp only [mapTable, List.mem_map, List.mem_range, Prod.mk.injEq]
  constructor
  · rintro ⟨i, hi, h1, h2⟩; exact ⟨i, hi, h1.symm, h2.symm⟩
  · rintro ⟨i, hi, h1, h2⟩; exact ⟨i, hi, h1.symm, h2.symm⟩

theorem lookup_mapTable_lt {D n i : Nat} (hi : i < n) : lookupPair (D + 1, i) (mapTable D n) = some (D, i) := by
  apply lookupPair_of_mem
  · exact mem_mapTable.2 ⟨i, hi, rfl, rfl⟩
  · intro w' h
    obtain ⟨j, _, h1, h2⟩ := mem_mapTable.1 h
    simp at h1; subst h1; exact h2

theorem lookup_mapTable_ge {D n i : Nat} (hi : n ≤ i) : lookupPair (D + 1, i) (mapTable D n) = none := by
  apply lookupPair_none
  intro k w h e
  obtain ⟨j, hj, h1, h2⟩ := mem_mapTable.1 h
  subst e; simp at h1; omega

theorem invLookup_mapTable_lt {D n i : Nat} (hi : i < n) : invLookup (D, i) (mapTable D n) = some (D + 1, i) := by
  apply invLookup_of_mem
  · exact mem_mapTable.2 ⟨i, hi, rfl, rfl⟩
  · intro k' h
    obtain ⟨j, _, h1, h2⟩ := mem_mapTable.1 h
    simp at h2; subst h2; exact h1

theorem invLookup_mapTable_top {D n i : Nat} : invLookup (D + 1, i) (mapTable D n) = none := by
  apply invLookup_none
  intro k w h e
  obtain ⟨j, hj, h1, h2⟩ := mem_mapTable.1 h
  subst e; simp at h2

theorem mapped_st (p : PSt) (n : Nat) (ks : List VK) (hn : n ≤ ks.length) (hre : p.st.remap = []) :
    (p.mapped n ks).st = ⟨p.st.deep + 1, mapTable p.st.deep n, p.st.self?⟩ := by
  simp only [PSt.mapped, St.addMapping, St.deeper, St.binderIndices, hre, List.append_nil, mapTable]
  rw [← List.map_take, List.take_range, Nat.min_eq_left hn, List.zip_map']

theorem kindAt_blank (l : List (List VK)) (d i : Nat) : kindAt (l.map (fun _ => [])) d i = none := by
  simp only [kindAt, List.getElem?_map]
  cases l[d]? <;> simp

theorem kindAt_mapped {p : PSt} {n : Nat} {ks : List VK} {d i : Nat} {k : VK}
    (h : kindAt (p.mapped n ks).env d i = some k) : d = 0 ∧ ks[i]? = some k := by
  cases d with
  | zero => exact ⟨rfl, by simpa [PSt.mapped, kindAt] using h⟩
  | succ d =>
      rw [show (p.mapped n ks).env = ks :: p.env.map (fun _ => []) from rfl, kindAt_succ, kindAt_blank] at h
      simp at h

theorem Faithful.mapped {p : PSt} (hp : Faithful p) (hre : p.st.remap = []) {ks0 tl} (henv : p.env = ks0 :: tl)
    (own : List VK) : Faithful (p.mapped ks0.length (ks0 ++ own)) := by
  have hst := mapped_st p ks0.length (ks0 ++ own) (by simp) hre
  have hdec_lt : ∀ i, i < ks0.length → (p.mapped ks0.length (ks0 ++ own)).decode (p.st.deep, i) = some (0, i) := by
    intro i hi
    simp [PSt.decode, hst, invLookup_mapTable_lt hi]
  have hdec_ge : ∀ i, (p.mapped ks0.length (ks0 ++ own)).decode (p.st.deep + 1, i) = some (0, i) := by
    intro i
    simp [PSt.decode, hst, invLookup_mapTable_top]
  have hself : ∀ i, p.st.self? ≠ some (p.st.deep + 1, i) := by
    intro i e
    have := hp.self _ e
    simp at this
    omega
  refine ⟨?_, ?_, ?_, ?_, ?_⟩
  · rw [hst]; simp [PSt.mapped, hp.deep]
  · intro k w hm
    rw [hst] at hm ⊢
    obtain ⟨j, _, h1, h2⟩ := mem_mapTable.1 hm
    subst h1 h2; simp
  · intro r hr
    rw [hst] at hr ⊢
    have := hp.self r hr
    simp only; omega
  · intro d i k hk hne
    obtain ⟨rfl, hki⟩ := kindAt_mapped hk
    by_cases hi : i < ks0.length
    · have htok : (p.mapped ks0.length (ks0 ++ own)).st.varTok ((p.mapped ks0.length (ks0 ++ own)).st.inv 0 i)
          = if p.st.self? = some (p.st.deep, i) then Tok.self else Tok.var p.st.deep i := by
        simp [hst, St.inv, St.varTok, lookup_mapTable_lt hi]
      rw [htok]
      split
      · rename_i hs
        simp only [PSt.varOf, hst, hs]
        exact hdec_lt i hi
      · exact hdec_lt i hi
    · have hi' : ks0.length ≤ i := by omega
      have htok : (p.mapped ks0.length (ks0 ++ own)).st.varTok ((p.mapped ks0.length (ks0 ++ own)).st.inv 0 i)
          = Tok.var (p.st.deep + 1) i := by
        simp [hst, St.inv, St.varTok, lookup_mapTable_ge hi', hself]
      rw [htok]
      exact hdec_ge i
  · intro d i hk
    obtain ⟨rfl, hki⟩ := kindAt_mapped hk
    by_cases hi : i < ks0.length
    · have hk0 : kindAt p.env 0 i = some .lt := by
        rw [henv, kindAt_zero]
        rwa [List.getElem?_append_left hi] at hki
      obtain ⟨a, b, h1, _⟩ := hp.lt 0 i hk0
      have hns : p.st.self? ≠ some (p.st.deep, i) := by
        intro e
        simp [St.ltTok, St.inv, hre, lookupPair, e] at h1
      refine ⟨p.st.deep, i, ?_, hdec_lt i hi⟩
      simp [hst, St.inv, St.ltTok, lookup_mapTable_lt hi, hns]
    · have hi' : ks0.length ≤ i := by omega
      refine ⟨p.st.deep + 1, i, ?_, hdec_ge i⟩
      simp [hst, St.inv, St.ltTok, lookup_mapTable_ge hi', hself]

theorem fresh_mapped {p : PSt} (hp : Faithful p) (hre : p.st.remap = []) (n : Nat) (ks : List VK) (hn : n ≤ ks.length) :
    FreshFrom (p.mapped n ks).st n := by
  intro j hj
  rw [mapped_st p n ks hn hre]
  refine ⟨lookup_mapTable_ge hj, ?_⟩
  intro e
  have := hp.self _ e
  simp at this
  omega

end Chalk.Display.Parse
