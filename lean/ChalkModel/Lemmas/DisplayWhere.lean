/-
  C22, layer "where-clauses": `parseWC`, `parseQWC`, `parseQWCs`, `parseWhere` invert the writer.
-/
import ChalkModel.Lemmas.DisplaySize

namespace Chalk.Display.Parse
open Chalk.Display

def wfWC (env : List (List VK)) : WC → Bool
  | .implemented self _ args => wfTy env self && wfArgs env args
  | .aliasEq self _ _ targs aargs v => wfTy env self && wfArgs env targs && wfArgs env aargs && wfTy env v
  | .ltOutlives a b => wfLt env a && wfLt env b
  | .tyOutlives t l => wfTy env t && wfLt env l

/-- `env` is the environment outside the clause's own binders -/
def wfQWC (env : List (List VK)) (q : QWC) : Bool := wfWC (q.ks :: env) q.wc

def WfWC (p : PSt) (w : WC) : Prop := wfWC p.env w = true
instance (p : PSt) (w : WC) : Decidable (WfWC p w) := by unfold WfWC; infer_instance

def WfQWC (p : PSt) (q : QWC) : Prop := wfQWC p.env q = true
instance (p : PSt) (q : QWC) : Decidable (WfQWC p q) := by unfold WfQWC; infer_instance

theorem ltTok_ne_kw_forall (s : St) (v : Nat × Nat) : s.ltTok v ≠ .kw "forall" := by
  unfold St.ltTok
  simp only
  split <;> simp

theorem printWC_not_forall (s : St) (w : WC) (rest : List Tok) : ∀ r, printWC s w ++ rest ≠ .kw "forall" :: r := by
  cases w with
  | ltOutlives a b =>
      intro r h
      cases a with
      | bound d i => exact ltTok_ne_kw_forall _ _ (List.cons.inj h).1
      | _ => exact absurd (Tok.kw.inj (List.cons.inj h).1) (by decide)
  | _ => simp only [printWC, List.append_assoc]; exact printTy_not_forall _ _ _

theorem parseWC_ltOutlives {fuel : Nat} {p : PSt} {toks r1 rest : List Tok} {a b : Lt}
    (h0 : isLtStart toks = true) (ha : parseLt p toks = some (a, .kw ":" :: r1))
    (hb : parseLt p r1 = some (b, rest)) :
    parseWC fuel p toks = some (.ltOutlives a b, rest) := by
  simp only [parseWC, h0, ha, hb, if_true]

theorem parseWC_tyOutlives {fuel : Nat} {p : PSt} {toks r1 rest : List Tok} {t : Ty} {l : Lt}
    (h0 : isLtStart toks = false) (ht : parseTy fuel p toks = some (t, .kw ":" :: r1))
    (h1 : isLtStart r1 = true) (hl : parseLt p r1 = some (l, rest)) :
    parseWC fuel p toks = some (.tyOutlives t l, rest) := by
  simp only [parseWC, h0, ht, h1, hl, if_true, Bool.false_eq_true, if_false]

theorem parseWC_implemented {fuel : Nat} {p : PSt} {toks r1 rest : List Tok} {t : Ty} {tr : String} {args : Args}
    (h0 : isLtStart toks = false) (ht : parseTy fuel p toks = some (t, .kw ":" :: .name tr :: r1))
    (h2 : parseTraitTail fuel p r1 = some (.plain args, rest)) :
    parseWC fuel p toks = some (.implemented t tr args, rest) := by
  simp only [parseWC, h0, ht, h2, show isLtStart (Tok.name tr :: r1) = false from rfl, Bool.false_eq_true, if_false]

theorem parseWC_aliasEq {fuel : Nat} {p : PSt} {toks r1 rest : List Tok} {t v : Ty} {tr assoc : String} {targs aargs : Args}
    (h0 : isLtStart toks = false) (ht : parseTy fuel p toks = some (t, .kw ":" :: .name tr :: r1))
    (h2 : parseTraitTail fuel p r1 = some (.assoc targs assoc aargs v, rest)) :
    parseWC fuel p toks = some (.aliasEq t tr assoc targs aargs v, rest) := by
  simp only [parseWC, h0, ht, h2, show isLtStart (Tok.name tr :: r1) = false from rfl, Bool.false_eq_true, if_false]

theorem parseWC_print {p : PSt} (hp : Faithful p) {w : WC} (hwf : wfWC p.env w = true) {fuel : Nat}
    (hsz : 8 * (printWC p.st w).length ≤ fuel) {rest : List Tok} (hrest : ∀ r, rest ≠ .kw "<" :: r) :
    parseWC fuel p (printWC p.st w ++ rest) = some (w, rest) := by
  cases w with
  | ltOutlives a b =>
      simp only [wfWC, Bool.and_eq_true] at hwf
      simp only [printWC, List.append_assoc, List.cons_append]
      exact parseWC_ltOutlives (isLtStart_printLt hp hwf.1 _) (parseLt_print hp hwf.1 _) (parseLt_print hp hwf.2 _)
  | tyOutlives t l =>
      simp only [wfWC, Bool.and_eq_true] at hwf
      simp only [printWC, List.length_append, List.length_cons] at hsz
      simp only [printWC, List.append_assoc, List.cons_append]
      exact parseWC_tyOutlives (printTy_not_ltStart _ _ _)
        (parseTy_print_len hp hwf.1 (Nat.le_trans (by simp +arith only) hsz) (by simp))
        (isLtStart_printLt hp hwf.2 _) (parseLt_print hp hwf.2 _)
  | implemented self tr args =>
      simp only [wfWC, Bool.and_eq_true] at hwf
      simp only [printWC, List.length_append, List.length_cons] at hsz
      obtain ⟨f, rfl⟩ := Nat.exists_eq_add_of_le' (Nat.le_trans (by simp +arith only : 1 ≤ _) hsz)
      simp only [printWC, List.append_assoc, List.cons_append]
      exact parseWC_implemented (printTy_not_ltStart _ _ _)
        (parseTy_print_len hp hwf.1 (Nat.le_trans (by simp +arith only) hsz) (by simp))
        (parseTraitTail_of_angleArgs (parseAngleArgs_print hp hwf.2 (Nat.le_trans (by simp +arith only) hsz) hrest))
  | aliasEq self tr assoc targs aargs v =>
      simp only [wfWC, Bool.and_eq_true] at hwf
      have := szTy_le v p.st
      have := szArgs_le targs p.st
      have := szArgs_le aargs p.st
      have := printArgs_le_angle p.st aargs
      have := printArgs_le_thenComma p.st targs
      simp only [printWC, printTraitWithAssoc, List.length_append, List.length_cons, List.length_nil] at hsz
      obtain ⟨f, rfl⟩ := Nat.exists_eq_add_of_le' (Nat.le_trans (by simp +arith only : 1 ≤ _) hsz)
      simp only [printWC, printTraitWithAssoc, List.append_assoc, List.cons_append, List.nil_append]
      exact parseWC_aliasEq (printTy_not_ltStart _ _ _)
        (parseTy_print_len hp hwf.1.1.1 (Nat.le_trans (by simp +arith only) hsz) (by simp))
        (traitTailOK_assoc assoc (argsOK targs) (argsOK aargs) (tyOK v) hp rest hwf.1.1.2 hwf.1.2 hwf.2 (by omega))

theorem parseQWC_print {p : PSt} (hp : Faithful p) {q : QWC} (hwf : wfQWC p.env q = true) {fuel : Nat}
    (hsz : 8 * (printQWC p.st q).length ≤ fuel) {rest : List Tok} (hrest : ∀ r, rest ≠ .kw "<" :: r) :
    parseQWC fuel p (printQWC p.st q ++ rest) = some (q, rest) := by
  simp only [printQWC, List.length_append] at hsz
  have h1 := parseForall_print hp q.ks fuel (printWC (p.st.deeper none) q.wc ++ rest)
    (Nat.le_trans (forallToks_length_ge _ _) (Nat.le_trans (by simp +arith only) hsz)) (printWC_not_forall _ _ _)
  have h2 := parseWC_print (hp.deeper q.ks) (w := q.wc) hwf (fuel := fuel)
    (Nat.le_trans (Nat.mul_le_mul_left 8 (Nat.le_add_left _ _)) hsz) hrest
  rw [show (p.deeper q.ks none).st = p.st.deeper none from rfl] at h2
  simp only [printQWC, List.append_assoc, parseQWC, h1, h2]

theorem parseQWCs_one {f : Nat} {p : PSt} {toks rest : List Tok} {q : QWC}
    (hq : parseQWC f p toks = some (q, rest)) (h : ∀ r, rest ≠ .kw "," :: r) :
    parseQWCs (f + 1) p toks = some ([q], rest) := by
  rw [parseQWCs, hq]
  simp only

theorem parseQWCs_more {f : Nat} {p : PSt} {toks rest rest' : List Tok} {q : QWC} {qs : List QWC}
    (hq : parseQWC f p toks = some (q, .kw "," :: rest)) (hqs : parseQWCs f p rest = some (qs, rest')) :
    parseQWCs (f + 1) p toks = some (q :: qs, rest') := by
  rw [parseQWCs, hq]
  simp only [hqs]

theorem parseQWCs_print {p : PSt} (hp : Faithful p) : ∀ (ws : List QWC) (fuel : Nat) (rest : List Tok),
    ws ≠ [] → ws.all (wfQWC p.env) = true → 8 * (sepBy comma (ws.map (printQWC p.st))).length + 1 ≤ fuel →
    (∀ r, rest ≠ .kw "<" :: r) → (∀ r, rest ≠ .kw "," :: r) →
    parseQWCs fuel p (sepBy comma (ws.map (printQWC p.st)) ++ rest) = some (ws, rest)
  | [], _, _, h, _, _, _, _ => absurd rfl h
  | [q], fuel, rest, _, hwf, hsz, h1, h2 => by
      obtain ⟨f, rfl⟩ := Nat.exists_eq_add_of_le' (Nat.le_trans (Nat.le_add_left 1 _) hsz)
      simp only [List.all_cons, List.all_nil, Bool.and_true] at hwf
      exact parseQWCs_one (parseQWC_print hp hwf (Nat.le_of_add_le_add_right hsz) h1) h2
  | q :: q' :: qs, fuel, rest, _, hwf, hsz, h1, h2 => by
      obtain ⟨f, rfl⟩ := Nat.exists_eq_add_of_le' (Nat.le_trans (Nat.le_add_left 1 _) hsz)
      rw [List.all_cons, Bool.and_eq_true] at hwf
      rw [List.map_cons, List.map_cons, sepBy_cons_cons, ← List.map_cons] at hsz ⊢
      have hsz := Nat.le_of_add_le_add_right hsz
      simp only [List.length_append, comma, List.length_cons, List.length_nil] at hsz
      simp only [List.append_assoc, comma, List.cons_append, List.nil_append]
      exact parseQWCs_more (parseQWC_print hp hwf.1 (Nat.le_trans (by simp +arith only) hsz) (by simp))
        (parseQWCs_print hp (q' :: qs) f rest (by simp) hwf.2 (Nat.le_trans (by simp +arith only [comma]) hsz) h1 h2)

theorem parseWhere_print {p : PSt} (hp : Faithful p) {ws : List QWC} (hwf : ws.all (wfQWC p.env) = true)
    {fuel : Nat} (hsz : 8 * (printWhere p.st ws).length + 1 ≤ fuel) {rest : List Tok}
    (h0 : ∀ r, rest ≠ .kw "where" :: r) (h1 : ∀ r, rest ≠ .kw "<" :: r) (h2 : ∀ r, rest ≠ .kw "," :: r) :
    parseWhere fuel p (printWhere p.st ws ++ rest) = some (ws, rest) := by
  cases ws with
  | nil =>
      simp only [printWhere, List.isEmpty_nil, if_true, List.nil_append]
      unfold parseWhere
      split
      · exact absurd rfl (h0 _)
      · rfl
  | cons q qs =>
      simp only [printWhere, List.isEmpty_cons, Bool.false_eq_true, if_false, List.length_cons] at hsz
      exact parseQWCs_print hp (q :: qs) fuel rest (by simp) hwf (Nat.le_trans (by simp +arith only) hsz) h1 h2

end Chalk.Display.Parse
