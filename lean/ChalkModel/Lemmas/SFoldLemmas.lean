import ChalkModel.SFold
import ChalkModel.Lemmas.FoldLemmas

/-!
  Generic lemmas about stateful folds:
  * `sfold*_sim`  — forward simulation between two stateful folders run on the same term;
  * `SFolder.comp` / `sfold*_comp` — a stateless fold followed by a stateful fold is one stateful
    fold with composed leaf handlers (fusion).
-/
namespace Chalk

theorem bindS_eq_ok {α β σ : Type} {x : Res (α × σ)} {k : α → σ → Res (β × σ)} {r : β × σ} :
    bindS x k = .ok r ↔ ∃ a s, x = .ok (a, s) ∧ k a s = .ok r := by
  unfold bindS
  cases x with
  | error e => simp
  | ok p =>
    obtain ⟨a, s⟩ := p
    simp only [Except.ok.injEq, Prod.mk.injEq]
    constructor
    · intro h; exact ⟨a, s, ⟨rfl, rfl⟩, h⟩
    · rintro ⟨a', s', ⟨rfl, rfl⟩, h⟩; exact h

@[simp] theorem bindS_ok {α β σ : Type} (a : α) (s : σ) (k : α → σ → Res (β × σ)) :
    bindS (.ok (a, s)) k = k a s := rfl

@[simp] theorem bindS_error {α β σ : Type} (e : Err) (k : α → σ → Res (β × σ)) :
    bindS (.error e : Res (α × σ)) k = .error e := rfl

section Sim
variable {σ1 σ2 : Type}

/-- whenever the first run succeeds, the second succeeds with a related state and — if `E` — the
    same value.  `E` is only ever `True` (values agree too) or `False` (only the states are related,
    as for the occurrence log, whose folder returns other values). -/
def SimRes (E : Prop) (R : σ1 → σ2 → Prop) {α : Type} (r1 : Res (α × σ1)) (r2 : Res (α × σ2)) : Prop :=
  ∀ a s1, r1 = .ok (a, s1) → ∃ b s2, r2 = .ok (b, s2) ∧ (E → b = a) ∧ R s1 s2

theorem SimRes.pure {E : Prop} {R : σ1 → σ2 → Prop} {α : Type} {a b : α} {s1 : σ1} {s2 : σ2}
    (hab : E → b = a) (h : R s1 s2) : SimRes E R (.ok (a, s1)) (.ok (b, s2)) := by
  intro a' s1' h1
  cases h1
  exact ⟨b, s2, rfl, hab, h⟩

theorem SimRes.bind {E : Prop} {R : σ1 → σ2 → Prop} {α β : Type}
    {x1 : Res (α × σ1)} {x2 : Res (α × σ2)} {k1 : α → σ1 → Res (β × σ1)} {k2 : α → σ2 → Res (β × σ2)}
    (hx : SimRes E R x1 x2)
    (hk : ∀ a b s1 s2, (E → b = a) → R s1 s2 → SimRes E R (k1 a s1) (k2 b s2)) :
    SimRes E R (bindS x1 k1) (bindS x2 k2) := by
  intro r s1' h1
  obtain ⟨a, s1, hx1, hk1⟩ := bindS_eq_ok.mp h1
  obtain ⟨b, s2, hx2, hab, hr⟩ := hx a s1 hx1
  obtain ⟨c, s2', hk2, hc, hr'⟩ := hk a b s1 s2 hab hr r s1' hk1
  exact ⟨c, s2', by rw [hx2]; exact hk2, hc, hr'⟩

theorem SimRes.bind_pure {E : Prop} {R : σ1 → σ2 → Prop} {α β : Type}
    {x1 : Res (α × σ1)} {x2 : Res (α × σ2)} {c1 c2 : α → β} (hx : SimRes E R x1 x2) (hc : E → c2 = c1) :
    SimRes E R (bindS x1 fun a s => .ok (c1 a, s)) (bindS x2 fun a s => .ok (c2 a, s)) :=
  SimRes.bind hx fun _ _ _ _ hab h => SimRes.pure (fun e => by rw [hab e, hc e]) h

structure SimHandlers (E : Prop) (R : σ1 → σ2 → Prop) (f1 : SFolder σ1) (f2 : SFolder σ2) : Prop where
  freeVarTy : ∀ db idx o s1 s2, R s1 s2 → SimRes E R (f1.freeVarTy db idx o s1) (f2.freeVarTy db idx o s2)
  freeVarLt : ∀ db idx o s1 s2, R s1 s2 → SimRes E R (f1.freeVarLt db idx o s1) (f2.freeVarLt db idx o s2)
  freeVarConst : ∀ ty1 ty2 db idx o s1 s2, (E ∨ f1.foldsFreeVarConstTy = false → ty2 = ty1) → R s1 s2 →
    SimRes E R (f1.freeVarConst ty1 db idx o s1) (f2.freeVarConst ty2 db idx o s2)
  inferTy : ∀ v k o s1 s2, R s1 s2 → SimRes E R (f1.inferTy v k o s1) (f2.inferTy v k o s2)
  inferLt : ∀ v o s1 s2, R s1 s2 → SimRes E R (f1.inferLt v o s1) (f2.inferLt v o s2)
  inferConst : ∀ ty1 ty2 v o s1 s2, (E ∨ f1.foldsInferConstTy = false → ty2 = ty1) → R s1 s2 →
    SimRes E R (f1.inferConst ty1 v o s1) (f2.inferConst ty2 v o s2)
  phTy : ∀ ui idx o s1 s2, R s1 s2 → SimRes E R (f1.phTy ui idx o s1) (f2.phTy ui idx o s2)
  phLt : ∀ ui idx o s1 s2, R s1 s2 → SimRes E R (f1.phLt ui idx o s1) (f2.phLt ui idx o s2)
  phConst : ∀ ty1 ty2 ui idx o s1 s2, (E ∨ f1.foldsPhConstTy = false → ty2 = ty1) → R s1 s2 →
    SimRes E R (f1.phConst ty1 ui idx o s1) (f2.phConst ty2 ui idx o s2)
  flagFreeVar : f1.foldsFreeVarConstTy = f2.foldsFreeVarConstTy
  flagInfer : f1.foldsInferConstTy = f2.foldsInferConstTy
  flagPh : f1.foldsPhConstTy = f2.foldsPhConstTy

variable {E : Prop} {R : σ1 → σ2 → Prop} {f1 : SFolder σ1} {f2 : SFolder σ2}

theorem sfoldLifetime_sim (H : SimHandlers E R f1 f2) (o : Nat) (l : Lifetime) (s1 : σ1) (s2 : σ2)
    (hr : R s1 s2) : SimRes E R (sfoldLifetime f1 o l s1) (sfoldLifetime f2 o l s2) := by
  cases l with
  | bound db idx =>
    simp only [sfoldLifetime]
    split
    · exact H.freeVarLt _ _ _ _ _ hr
    · exact SimRes.pure (fun _ => rfl) hr
  | infer v => exact H.inferLt _ _ _ _ hr
  | placeholder ui idx => exact H.phLt _ _ _ _ _ hr
  | static => exact SimRes.pure (fun _ => rfl) hr
  | erased => exact SimRes.pure (fun _ => rfl) hr
  | error => exact SimRes.pure (fun _ => rfl) hr

mutual
  theorem sfoldTy_sim (H : SimHandlers E R f1 f2) (o : Nat) : (t : Ty) → (s1 : σ1) → (s2 : σ2) → R s1 s2 →
      SimRes E R (sfoldTy f1 o t s1) (sfoldTy f2 o t s2)
    | .app n args => fun s1 s2 hr =>
        SimRes.bind_pure (sfoldArgs_sim H o args s1 s2 hr) fun _ => rfl
    | .scalar _ => fun _ _ hr => SimRes.pure (fun _ => rfl) hr
    | .str => fun _ _ hr => SimRes.pure (fun _ => rfl) hr
    | .never => fun _ _ hr => SimRes.pure (fun _ => rfl) hr
    | .foreign _ => fun _ _ hr => SimRes.pure (fun _ => rfl) hr
    | .error => fun _ _ hr => SimRes.pure (fun _ => rfl) hr
    | .array t c => fun s1 s2 hr =>
        SimRes.bind (sfoldTy_sim H o t s1 s2 hr) fun a b s1' s2' hab h =>
          SimRes.bind_pure (sfoldConst_sim H o c s1' s2' h) fun e => by rw [hab e]
    | .slice t => fun s1 s2 hr =>
        SimRes.bind_pure (sfoldTy_sim H o t s1 s2 hr) fun _ => rfl
    | .raw m t => fun s1 s2 hr =>
        SimRes.bind_pure (sfoldTy_sim H o t s1 s2 hr) fun _ => rfl
    | .ref m l t => fun s1 s2 hr =>
        SimRes.bind (sfoldLifetime_sim H o l s1 s2 hr) fun a b s1' s2' hab h =>
          SimRes.bind_pure (sfoldTy_sim H o t s1' s2' h) fun e => by rw [hab e]
    | .placeholder ui idx => fun s1 s2 hr => H.phTy _ _ _ _ _ hr
    | .dyn kinds bounds l => fun s1 s2 hr =>
        SimRes.bind (sfoldQWCs_sim H (o + 1) bounds s1 s2 hr) fun a b s1' s2' hab h =>
          SimRes.bind_pure (sfoldLifetime_sim H o l s1' s2' h) fun e => by rw [hab e]
    | .proj id args => fun s1 s2 hr =>
        SimRes.bind_pure (sfoldArgs_sim H o args s1 s2 hr) fun _ => rfl
    | .opaque id args => fun s1 s2 hr =>
        SimRes.bind_pure (sfoldArgs_sim H o args s1 s2 hr) fun _ => rfl
    | .function nb sig args => fun s1 s2 hr =>
        SimRes.bind_pure (sfoldArgs_sim H (o + 1) args s1 s2 hr) fun _ => rfl
    | .bound db idx => fun s1 s2 hr => by
        simp only [sfoldTy]
        split
        · exact H.freeVarTy _ _ _ _ _ hr
        · exact SimRes.pure (fun _ => rfl) hr
    | .infer v k => fun s1 s2 hr => H.inferTy _ _ _ _ _ hr
  theorem sfoldConst_sim (H : SimHandlers E R f1 f2) (o : Nat) : (c : Const) → (s1 : σ1) → (s2 : σ2) → R s1 s2 →
      SimRes E R (sfoldConst f1 o c s1) (sfoldConst f2 o c s2)
    | .mk ty (.bound db idx) => fun s1 s2 hr => by
        simp only [sfoldConst, ← H.flagFreeVar]
        split
        · split
          · rename_i hflag
            exact SimRes.bind (sfoldTy_sim H o ty s1 s2 hr) fun a b s1' s2' hab h =>
              H.freeVarConst _ _ _ _ _ _ _ (fun hh => hh.elim hab (fun hf => by simp [hflag] at hf)) h
          · exact H.freeVarConst _ _ _ _ _ _ _ (fun _ => rfl) hr
        · exact SimRes.pure (fun _ => rfl) hr
    | .mk ty (.infer v) => fun s1 s2 hr => by
        simp only [sfoldConst, ← H.flagInfer]
        split
        · rename_i hflag
          exact SimRes.bind (sfoldTy_sim H o ty s1 s2 hr) fun a b s1' s2' hab h =>
            H.inferConst _ _ _ _ _ _ (fun hh => hh.elim hab (fun hf => by simp [hflag] at hf)) h
        · exact H.inferConst _ _ _ _ _ _ (fun _ => rfl) hr
    | .mk ty (.placeholder ui idx) => fun s1 s2 hr => by
        simp only [sfoldConst, ← H.flagPh]
        split
        · rename_i hflag
          exact SimRes.bind (sfoldTy_sim H o ty s1 s2 hr) fun a b s1' s2' hab h =>
            H.phConst _ _ _ _ _ _ _ (fun hh => hh.elim hab (fun hf => by simp [hflag] at hf)) h
        · exact H.phConst _ _ _ _ _ _ _ (fun _ => rfl) hr
    | .mk ty (.concrete k) => fun s1 s2 hr =>
        SimRes.bind_pure (sfoldTy_sim H o ty s1 s2 hr) fun _ => rfl
  theorem sfoldGArg_sim (H : SimHandlers E R f1 f2) (o : Nat) : (g : GArg) → (s1 : σ1) → (s2 : σ2) → R s1 s2 →
      SimRes E R (sfoldGArg f1 o g s1) (sfoldGArg f2 o g s2)
    | .ty t => fun s1 s2 hr =>
        SimRes.bind_pure (sfoldTy_sim H o t s1 s2 hr) fun _ => rfl
    | .lt l => fun s1 s2 hr =>
        SimRes.bind_pure (sfoldLifetime_sim H o l s1 s2 hr) fun _ => rfl
    | .ct c => fun s1 s2 hr =>
        SimRes.bind_pure (sfoldConst_sim H o c s1 s2 hr) fun _ => rfl
  theorem sfoldArgs_sim (H : SimHandlers E R f1 f2) (o : Nat) : (as : Args) → (s1 : σ1) → (s2 : σ2) → R s1 s2 →
      SimRes E R (sfoldArgs f1 o as s1) (sfoldArgs f2 o as s2)
    | .nil => fun _ _ hr => SimRes.pure (fun _ => rfl) hr
    | .cons g as => fun s1 s2 hr =>
        SimRes.bind (sfoldGArg_sim H o g s1 s2 hr) fun a b s1' s2' hab h =>
          SimRes.bind_pure (sfoldArgs_sim H o as s1' s2' h) fun e => by rw [hab e]
  theorem sfoldWC_sim (H : SimHandlers E R f1 f2) (o : Nat) : (w : WC) → (s1 : σ1) → (s2 : σ2) → R s1 s2 →
      SimRes E R (sfoldWC f1 o w s1) (sfoldWC f2 o w s2)
    | .implemented tr args => fun s1 s2 hr =>
        SimRes.bind_pure (sfoldArgs_sim H o args s1 s2 hr) fun _ => rfl
    | .aliasEqProj id args ty => fun s1 s2 hr =>
        SimRes.bind (sfoldArgs_sim H o args s1 s2 hr) fun a b s1' s2' hab h =>
          SimRes.bind_pure (sfoldTy_sim H o ty s1' s2' h) fun e => by rw [hab e]
    | .aliasEqOpaque id args ty => fun s1 s2 hr =>
        SimRes.bind (sfoldArgs_sim H o args s1 s2 hr) fun a b s1' s2' hab h =>
          SimRes.bind_pure (sfoldTy_sim H o ty s1' s2' h) fun e => by rw [hab e]
    | .ltOutlives x y => fun s1 s2 hr =>
        SimRes.bind (sfoldLifetime_sim H o x s1 s2 hr) fun a b s1' s2' hab h =>
          SimRes.bind_pure (sfoldLifetime_sim H o y s1' s2' h) fun e => by rw [hab e]
    | .tyOutlives t l => fun s1 s2 hr =>
        SimRes.bind (sfoldTy_sim H o t s1 s2 hr) fun a b s1' s2' hab h =>
          SimRes.bind_pure (sfoldLifetime_sim H o l s1' s2' h) fun e => by rw [hab e]
  theorem sfoldQWC_sim (H : SimHandlers E R f1 f2) (o : Nat) : (q : QWC) → (s1 : σ1) → (s2 : σ2) → R s1 s2 →
      SimRes E R (sfoldQWC f1 o q s1) (sfoldQWC f2 o q s2)
    | .mk _ wc => fun s1 s2 hr =>
        SimRes.bind_pure (sfoldWC_sim H (o + 1) wc s1 s2 hr) fun _ => rfl
  theorem sfoldQWCs_sim (H : SimHandlers E R f1 f2) (o : Nat) : (qs : QWCs) → (s1 : σ1) → (s2 : σ2) → R s1 s2 →
      SimRes E R (sfoldQWCs f1 o qs s1) (sfoldQWCs f2 o qs s2)
    | .nil => fun _ _ hr => SimRes.pure (fun _ => rfl) hr
    | .cons q qs => fun s1 s2 hr =>
        SimRes.bind (sfoldQWC_sim H o q s1 s2 hr) fun a b s1' s2' hab h =>
          SimRes.bind_pure (sfoldQWCs_sim H o qs s1' s2' h) fun e => by rw [hab e]
end

end Sim

section Comp
variable {σ : Type}

/-- the stateful folder that does "first `g`, then `f`" leaf by leaf (for `f` whose const methods
    do not fold the type) -/
def SFolder.comp (f : SFolder σ) (g : Folder) : SFolder σ where
  freeVarTy := fun db idx o s =>
    match g.freeVarTy with
    | some h => (match h db idx o with | .ok t => sfoldTy f o t s | .error e => .error e)
    | none => f.freeVarTy db idx o s
  freeVarLt := fun db idx o s =>
    match g.freeVarLt with
    | some h => (match h db idx o with | .ok t => sfoldLifetime f o t s | .error e => .error e)
    | none => f.freeVarLt db idx o s
  freeVarConst := fun ty db idx o s =>
    match g.freeVarConst with
    | some h => (match h ty db idx o with | .ok c => sfoldConst f o c s | .error e => .error e)
    | none => (match foldTy g o ty with | .ok ty' => f.freeVarConst ty' db idx o s | .error e => .error e)
  inferTy := fun v k o s =>
    match g.inferTy with
    | some h => (match h v k o with | .ok t => sfoldTy f o t s | .error e => .error e)
    | none => f.inferTy v k o s
  inferLt := fun v o s =>
    match g.inferLt with
    | some h => (match h v o with | .ok t => sfoldLifetime f o t s | .error e => .error e)
    | none => f.inferLt v o s
  inferConst := fun ty v o s =>
    match g.inferConst with
    | some h => (match h ty v o with | .ok c => sfoldConst f o c s | .error e => .error e)
    | none => (match foldTy g o ty with | .ok ty' => f.inferConst ty' v o s | .error e => .error e)
  phTy := fun ui idx o s =>
    match g.phTy with
    | some h => (match h ui idx o with | .ok t => sfoldTy f o t s | .error e => .error e)
    | none => f.phTy ui idx o s
  phLt := fun ui idx o s =>
    match g.phLt with
    | some h => (match h ui idx o with | .ok t => sfoldLifetime f o t s | .error e => .error e)
    | none => f.phLt ui idx o s
  phConst := fun ty ui idx o s =>
    match g.phConst with
    | some h => (match h ty ui idx o with | .ok c => sfoldConst f o c s | .error e => .error e)
    | none => (match foldTy g o ty with | .ok ty' => f.phConst ty' ui idx o s | .error e => .error e)

/-- `f`'s const methods receive the type unfolded -/
structure SFolder.NoTyFold (f : SFolder σ) : Prop where
  freeVar : f.foldsFreeVarConstTy = false
  infer : f.foldsInferConstTy = false
  ph : f.foldsPhConstTy = false

theorem SFolder.comp_freeVarTy (f : SFolder σ) (g : Folder) (db idx o s) : (f.comp g).freeVarTy db idx o s =
    match g.freeVarTy with
    | some h => (match h db idx o with | .ok t => sfoldTy f o t s | .error e => .error e)
    | none => f.freeVarTy db idx o s := rfl
theorem SFolder.comp_freeVarLt (f : SFolder σ) (g : Folder) (db idx o s) : (f.comp g).freeVarLt db idx o s =
    match g.freeVarLt with
    | some h => (match h db idx o with | .ok t => sfoldLifetime f o t s | .error e => .error e)
    | none => f.freeVarLt db idx o s := rfl
theorem SFolder.comp_freeVarConst (f : SFolder σ) (g : Folder) (ty db idx o s) : (f.comp g).freeVarConst ty db idx o s =
    match g.freeVarConst with
    | some h => (match h ty db idx o with | .ok t => sfoldConst f o t s | .error e => .error e)
    | none => (match foldTy g o ty with | .ok ty' => f.freeVarConst ty' db idx o s | .error e => .error e) := rfl
theorem SFolder.comp_inferTy (f : SFolder σ) (g : Folder) (v k o s) : (f.comp g).inferTy v k o s =
    match g.inferTy with
    | some h => (match h v k o with | .ok t => sfoldTy f o t s | .error e => .error e)
    | none => f.inferTy v k o s := rfl
theorem SFolder.comp_inferLt (f : SFolder σ) (g : Folder) (v o s) : (f.comp g).inferLt v o s =
    match g.inferLt with
    | some h => (match h v o with | .ok t => sfoldLifetime f o t s | .error e => .error e)
    | none => f.inferLt v o s := rfl
theorem SFolder.comp_inferConst (f : SFolder σ) (g : Folder) (ty v o s) : (f.comp g).inferConst ty v o s =
    match g.inferConst with
    | some h => (match h ty v o with | .ok t => sfoldConst f o t s | .error e => .error e)
    | none => (match foldTy g o ty with | .ok ty' => f.inferConst ty' v o s | .error e => .error e) := rfl
theorem SFolder.comp_phTy (f : SFolder σ) (g : Folder) (ui idx o s) : (f.comp g).phTy ui idx o s =
    match g.phTy with
    | some h => (match h ui idx o with | .ok t => sfoldTy f o t s | .error e => .error e)
    | none => f.phTy ui idx o s := rfl
theorem SFolder.comp_phLt (f : SFolder σ) (g : Folder) (ui idx o s) : (f.comp g).phLt ui idx o s =
    match g.phLt with
    | some h => (match h ui idx o with | .ok t => sfoldLifetime f o t s | .error e => .error e)
    | none => f.phLt ui idx o s := rfl
theorem SFolder.comp_phConst (f : SFolder σ) (g : Folder) (ty ui idx o s) : (f.comp g).phConst ty ui idx o s =
    match g.phConst with
    | some h => (match h ty ui idx o with | .ok t => sfoldConst f o t s | .error e => .error e)
    | none => (match foldTy g o ty with | .ok ty' => f.phConst ty' ui idx o s | .error e => .error e) := rfl

variable {f : SFolder σ} {g : Folder}

/-- a node with one folded child: if the claim holds of the child (`ih`) it holds of the node, `F'`
    being the second fold on nodes and `F` on the child -/
theorem comp_map {α β : Type} {A : Res (α × σ)} {G : Res α} {F : α → Res (α × σ)} {c : α → β}
    {F' : β → Res (β × σ)} (ih : ∀ r, A = .ok r → ∃ x, G = .ok x ∧ F x = .ok r)
    (hF' : ∀ x, F' (c x) = bindS (F x) fun a s => .ok (c a, s)) (r : β × σ)
    (h : bindS A (fun a s => .ok (c a, s)) = .ok r) : ∃ y, G.map c = .ok y ∧ F' y = .ok r := by
  obtain ⟨a1, s1, h1, h2⟩ := bindS_eq_ok.mp h
  obtain ⟨x, hgx, hx⟩ := ih _ h1
  exact ⟨c x, by rw [hgx]; rfl, by rw [hF', hx]; exact h2⟩

theorem comp_bind {α β γ : Type} {A : Res (α × σ)} {B : σ → Res (β × σ)} {G1 : Res α} {G2 : Res β}
    {F1 : α → Res (α × σ)} {F2 : β → σ → Res (β × σ)} {c : α → β → γ} {F' : γ → Res (γ × σ)}
    (ih1 : ∀ r, A = .ok r → ∃ x, G1 = .ok x ∧ F1 x = .ok r)
    (ih2 : ∀ s1 r, B s1 = .ok r → ∃ y, G2 = .ok y ∧ F2 y s1 = .ok r)
    (hF' : ∀ x y, F' (c x y) = bindS (F1 x) fun a s1 => bindS (F2 y s1) fun b s2 => .ok (c a b, s2))
    (r : γ × σ) (h : bindS A (fun a s1 => bindS (B s1) fun b s2 => .ok (c a b, s2)) = .ok r) :
    ∃ z, (G1.bind fun a => G2.map (c a)) = .ok z ∧ F' z = .ok r := by
  obtain ⟨a1, s1, h1, h'⟩ := bindS_eq_ok.mp h
  obtain ⟨a2, s2, h2, h3⟩ := bindS_eq_ok.mp h'
  obtain ⟨x, hgx, hx⟩ := ih1 _ h1
  obtain ⟨y, hgy, hy⟩ := ih2 _ _ h2
  exact ⟨c x y, by rw [hgx, hgy]; rfl, by rw [hF', hx, bindS_ok, hy]; exact h3⟩

theorem sfoldLifetime_comp (o : Nat) (l : Lifetime) (s : σ) (r : Lifetime × σ)
    (h : sfoldLifetime (f.comp g) o l s = .ok r) :
    ∃ l', foldLifetime g o l = .ok l' ∧ sfoldLifetime f o l' s = .ok r := by
  cases l with
  | bound db idx =>
    rw [sfoldLifetime] at h
    rw [foldLifetime]
    split
    · rename_i hd
      rw [if_pos hd, SFolder.comp_freeVarLt] at h
      cases hg : g.freeVarLt with
      | none =>
        simp only [hg] at h
        exact ⟨_, rfl, by rw [sfoldLifetime, if_pos (Nat.le_add_left ..), Nat.add_sub_cancel]; exact h⟩
      | some hh =>
        simp only [hg] at h
        cases hx : hh (db - o) idx o with
        | error e => simp only [hx] at h; cases h
        | ok t => simp only [hx] at h; exact ⟨t, hx, h⟩
    · rw [if_neg ‹_›] at h; exact ⟨_, rfl, by rw [sfoldLifetime, if_neg ‹_›]; exact h⟩
  | infer v =>
    rw [sfoldLifetime, SFolder.comp_inferLt] at h
    rw [foldLifetime]
    cases hg : g.inferLt with
    | none => simp only [hg] at h; exact ⟨_, rfl, h⟩
    | some hh =>
      simp only [hg] at h
      cases hx : hh v o with
      | error e => simp only [hx] at h; cases h
      | ok t => simp only [hx] at h; exact ⟨t, hx, h⟩
  | placeholder ui idx =>
    rw [sfoldLifetime, SFolder.comp_phLt] at h
    rw [foldLifetime]
    cases hg : g.phLt with
    | none => simp only [hg] at h; exact ⟨_, rfl, h⟩
    | some hh =>
      simp only [hg] at h
      cases hx : hh ui idx o with
      | error e => simp only [hx] at h; cases h
      | ok t => simp only [hx] at h; exact ⟨t, hx, h⟩
  | static => exact ⟨_, rfl, h⟩
  | erased => exact ⟨_, rfl, h⟩
  | error => exact ⟨_, rfl, h⟩

mutual
  theorem sfoldTy_comp (hf : f.NoTyFold) (o : Nat) : (t : Ty) → (s : σ) → (r : Ty × σ) →
      sfoldTy (f.comp g) o t s = .ok r → ∃ t', foldTy g o t = .ok t' ∧ sfoldTy f o t' s = .ok r
    | .app n args => fun s =>
        foldTy_app .. ▸ comp_map (sfoldArgs_comp hf o args s) fun _ => rfl
    | .scalar sc => fun s r h => ⟨_, rfl, h⟩
    | .str => fun s r h => ⟨_, rfl, h⟩
    | .never => fun s r h => ⟨_, rfl, h⟩
    | .foreign id => fun s r h => ⟨_, rfl, h⟩
    | .error => fun s r h => ⟨_, rfl, h⟩
    | .array t c => fun s =>
        foldTy_array .. ▸ comp_bind (sfoldTy_comp hf o t s) (sfoldConst_comp hf o c) fun _ _ => rfl
    | .slice t => fun s =>
        foldTy_slice .. ▸ comp_map (sfoldTy_comp hf o t s) fun _ => rfl
    | .raw m t => fun s =>
        foldTy_raw .. ▸ comp_map (sfoldTy_comp hf o t s) fun _ => rfl
    | .ref m l t => fun s =>
        foldTy_ref .. ▸ comp_bind (sfoldLifetime_comp o l s) (sfoldTy_comp hf o t) fun _ _ => rfl
    | .placeholder ui idx => fun s r h => by
        rw [sfoldTy, SFolder.comp_phTy] at h
        rw [foldTy]
        cases hg : g.phTy with
        | none => simp only [hg] at h; exact ⟨_, rfl, h⟩
        | some hh =>
          simp only [hg] at h
          cases hx : hh ui idx o with
          | error e => simp only [hx] at h; cases h
          | ok t => simp only [hx] at h; exact ⟨t, hx, h⟩
    | .dyn kinds bounds l => fun s =>
        foldTy_dyn .. ▸ comp_bind (sfoldQWCs_comp hf (o + 1) bounds s) (sfoldLifetime_comp o l) fun _ _ => rfl
    | .proj id args => fun s =>
        foldTy_proj .. ▸ comp_map (sfoldArgs_comp hf o args s) fun _ => rfl
    | .opaque id args => fun s =>
        foldTy_opaque .. ▸ comp_map (sfoldArgs_comp hf o args s) fun _ => rfl
    | .function nb sig args => fun s =>
        foldTy_function .. ▸ comp_map (sfoldArgs_comp hf (o + 1) args s) fun _ => rfl
    | .bound db idx => fun s r h => by
        rw [sfoldTy] at h
        rw [foldTy]
        split
        · rename_i hd
          rw [if_pos hd, SFolder.comp_freeVarTy] at h
          cases hg : g.freeVarTy with
          | none =>
            simp only [hg] at h
            exact ⟨_, rfl, by rw [sfoldTy, if_pos (Nat.le_add_left ..), Nat.add_sub_cancel]; exact h⟩
          | some hh =>
            simp only [hg] at h
            cases hx : hh (db - o) idx o with
            | error e => simp only [hx] at h; cases h
            | ok t => simp only [hx] at h; exact ⟨t, hx, h⟩
        · rw [if_neg ‹_›] at h; exact ⟨_, rfl, by rw [sfoldTy, if_neg ‹_›]; exact h⟩
    | .infer v k => fun s r h => by
        rw [sfoldTy, SFolder.comp_inferTy] at h
        rw [foldTy]
        cases hg : g.inferTy with
        | none => simp only [hg] at h; exact ⟨_, rfl, h⟩
        | some hh =>
          simp only [hg] at h
          cases hx : hh v k o with
          | error e => simp only [hx] at h; cases h
          | ok t => simp only [hx] at h; exact ⟨t, hx, h⟩
  theorem sfoldConst_comp (hf : f.NoTyFold) (o : Nat) : (c : Const) → (s : σ) → (r : Const × σ) →
      sfoldConst (f.comp g) o c s = .ok r → ∃ c', foldConst g o c = .ok c' ∧ sfoldConst f o c' s = .ok r
    | .mk ty (.bound db idx) => fun s r h => by
        rw [sfoldConst] at h
        rw [foldConst]
        split
        · rename_i hd
          rw [if_pos hd, if_neg (show ¬ (f.comp g).foldsFreeVarConstTy = true from Bool.false_ne_true),
            SFolder.comp_freeVarConst] at h
          cases hg : g.freeVarConst with
          | none =>
            simp only [hg] at h ⊢
            cases hx : foldTy g o ty with
            | error e => simp only [hx] at h; cases h
            | ok ty' =>
              simp only [hx] at h
              exact ⟨_, rfl, by
                rw [sfoldConst, if_pos (Nat.le_add_left ..), hf.freeVar, if_neg Bool.false_ne_true, Nat.add_sub_cancel]
                exact h⟩
          | some hh =>
            simp only [hg] at h
            cases hx : hh ty (db - o) idx o with
            | error e => simp only [hx] at h; cases h
            | ok t => simp only [hx] at h; exact ⟨t, hx, h⟩
        · rw [if_neg ‹_›] at h; exact ⟨_, rfl, by rw [sfoldConst, if_neg ‹_›]; exact h⟩
    | .mk ty (.infer v) => fun s r h => by
        rw [sfoldConst, if_neg (show ¬ (f.comp g).foldsInferConstTy = true from Bool.false_ne_true),
          SFolder.comp_inferConst] at h
        rw [foldConst]
        cases hg : g.inferConst with
        | none =>
          simp only [hg] at h ⊢
          cases hx : foldTy g o ty with
          | error e => simp only [hx] at h; cases h
          | ok ty' =>
            simp only [hx] at h
            exact ⟨_, rfl, by rw [sfoldConst, hf.infer, if_neg Bool.false_ne_true]; exact h⟩
        | some hh =>
          simp only [hg] at h
          cases hx : hh ty v o with
          | error e => simp only [hx] at h; cases h
          | ok t => simp only [hx] at h; exact ⟨t, hx, h⟩
    | .mk ty (.placeholder ui idx) => fun s r h => by
        rw [sfoldConst, if_neg (show ¬ (f.comp g).foldsPhConstTy = true from Bool.false_ne_true),
          SFolder.comp_phConst] at h
        rw [foldConst]
        cases hg : g.phConst with
        | none =>
          simp only [hg] at h ⊢
          cases hx : foldTy g o ty with
          | error e => simp only [hx] at h; cases h
          | ok ty' =>
            simp only [hx] at h
            exact ⟨_, rfl, by rw [sfoldConst, hf.ph, if_neg Bool.false_ne_true]; exact h⟩
        | some hh =>
          simp only [hg] at h
          cases hx : hh ty ui idx o with
          | error e => simp only [hx] at h; cases h
          | ok t => simp only [hx] at h; exact ⟨t, hx, h⟩
    | .mk ty (.concrete k) => fun s =>
        foldConst_concrete .. ▸ comp_map (sfoldTy_comp hf o ty s) fun _ => rfl
  theorem sfoldGArg_comp (hf : f.NoTyFold) (o : Nat) : (a : GArg) → (s : σ) → (r : GArg × σ) →
      sfoldGArg (f.comp g) o a s = .ok r → ∃ a', foldGArg g o a = .ok a' ∧ sfoldGArg f o a' s = .ok r
    | .ty t => fun s =>
        foldGArg_ty .. ▸ comp_map (sfoldTy_comp hf o t s) fun _ => rfl
    | .lt l => fun s =>
        foldGArg_lt .. ▸ comp_map (sfoldLifetime_comp o l s) fun _ => rfl
    | .ct c => fun s =>
        foldGArg_ct .. ▸ comp_map (sfoldConst_comp hf o c s) fun _ => rfl
  theorem sfoldArgs_comp (hf : f.NoTyFold) (o : Nat) : (as : Args) → (s : σ) → (r : Args × σ) →
      sfoldArgs (f.comp g) o as s = .ok r → ∃ as', foldArgs g o as = .ok as' ∧ sfoldArgs f o as' s = .ok r
    | .nil => fun s r h => ⟨_, rfl, h⟩
    | .cons a as => fun s =>
        foldArgs_cons .. ▸ comp_bind (sfoldGArg_comp hf o a s) (sfoldArgs_comp hf o as) fun _ _ => rfl
  theorem sfoldWC_comp (hf : f.NoTyFold) (o : Nat) : (w : WC) → (s : σ) → (r : WC × σ) →
      sfoldWC (f.comp g) o w s = .ok r → ∃ w', foldWC g o w = .ok w' ∧ sfoldWC f o w' s = .ok r
    | .implemented tr args => fun s =>
        foldWC_implemented .. ▸ comp_map (sfoldArgs_comp hf o args s) fun _ => rfl
    | .aliasEqProj id args ty => fun s =>
        foldWC_aliasEqProj .. ▸ comp_bind (sfoldArgs_comp hf o args s) (sfoldTy_comp hf o ty) fun _ _ => rfl
    | .aliasEqOpaque id args ty => fun s =>
        foldWC_aliasEqOpaque .. ▸ comp_bind (sfoldArgs_comp hf o args s) (sfoldTy_comp hf o ty) fun _ _ => rfl
    | .ltOutlives a b => fun s =>
        foldWC_ltOutlives .. ▸ comp_bind (sfoldLifetime_comp o a s) (sfoldLifetime_comp o b) fun _ _ => rfl
    | .tyOutlives t l => fun s =>
        foldWC_tyOutlives .. ▸ comp_bind (sfoldTy_comp hf o t s) (sfoldLifetime_comp o l) fun _ _ => rfl
  theorem sfoldQWC_comp (hf : f.NoTyFold) (o : Nat) : (q : QWC) → (s : σ) → (r : QWC × σ) →
      sfoldQWC (f.comp g) o q s = .ok r → ∃ q', foldQWC g o q = .ok q' ∧ sfoldQWC f o q' s = .ok r
    | .mk kinds wc => fun s =>
        foldQWC_mk .. ▸ comp_map (sfoldWC_comp hf (o + 1) wc s) fun _ => rfl
  theorem sfoldQWCs_comp (hf : f.NoTyFold) (o : Nat) : (qs : QWCs) → (s : σ) → (r : QWCs × σ) →
      sfoldQWCs (f.comp g) o qs s = .ok r → ∃ qs', foldQWCs g o qs = .ok qs' ∧ sfoldQWCs f o qs' s = .ok r
    | .nil => fun s r h => ⟨_, rfl, h⟩
    | .cons q qs => fun s =>
        foldQWCs_cons .. ▸ comp_bind (sfoldQWC_comp hf o q s) (sfoldQWCs_comp hf o qs) fun _ _ => rfl
end

end Comp

end Chalk
