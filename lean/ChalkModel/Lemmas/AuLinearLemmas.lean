import ChalkModel.Lemmas.MakeSolutionLemmas
import ChalkModel.Lemmas.ShiftPure

/-!
  Linearity of the anti-unifier's results, and "structural instance = instance" for linear patterns.

  * `vars0`: left to right, the pattern variables `^0.i` at the positions the anti-unifier (`auTy`/`auConst`/
    `auLifetime`) looks at: arguments of `app/proj/opaque`, `slice`, `raw`, `ref`, `array`; `dyn`, `function`,
    inference variables, scalars and the TYPES of constants are leaves (`auConst` copies the type of its first argument).
  * `top0`: every pattern variable at those positions has de Bruijn depth 0.
  * `bindings r t`: the (index, matched subterm) pairs of a structural match of `t` against `r`.
  * `ctAgree r t`: where `r` has a NON-variable constant parallel to one of `t`, both carry the same closed type.
    (Neither `genOf` nor the Rust code compares constant types; well-typed answers to one query satisfy this.)
-/
namespace Chalk

def Lifetime.vars0 : Lifetime → List Nat
  | .bound db i => if db = 0 then [i] else []
  | _ => []

def Const.vars0 : Const → List Nat
  | .mk _ (.bound db i) => if db = 0 then [i] else []
  | _ => []

mutual
  def Ty.vars0 : Ty → List Nat
    | .bound db i => if db = 0 then [i] else []
    | .app _ a => a.vars0
    | .proj _ a => a.vars0
    | .opaque _ a => a.vars0
    | .slice t => t.vars0
    | .raw _ t => t.vars0
    | .ref _ l t => l.vars0 ++ t.vars0
    | .array t c => t.vars0 ++ c.vars0
    | _ => []
  def GArg.vars0 : GArg → List Nat
    | .ty t => t.vars0
    | .lt l => l.vars0
    | .ct c => c.vars0
  def Args.vars0 : Args → List Nat
    | .nil => []
    | .cons a as => a.vars0 ++ as.vars0
end

def Lifetime.top0 : Lifetime → Bool
  | .bound db _ => db == 0
  | _ => true

def Const.top0 : Const → Bool
  | .mk _ (.bound db _) => db == 0
  | _ => true

mutual
  def Ty.top0 : Ty → Bool
    | .bound db _ => db == 0
    | .app _ a => a.top0
    | .proj _ a => a.top0
    | .opaque _ a => a.top0
    | .slice t => t.top0
    | .raw _ t => t.top0
    | .ref _ l t => l.top0 && t.top0
    | .array t c => t.top0 && c.top0
    | _ => true
  def GArg.top0 : GArg → Bool
    | .ty t => t.top0
    | .lt l => l.top0
    | .ct c => c.top0
  def Args.top0 : Args → Bool
    | .nil => true
    | .cons a as => a.top0 && as.top0
end

def Ty.Linear (t : Ty) : Prop := t.vars0.Nodup
def GArg.Linear (t : GArg) : Prop := t.vars0.Nodup
def Args.Linear (t : Args) : Prop := t.vars0.Nodup

instance (t : Ty) : Decidable t.Linear := inferInstanceAs (Decidable (t.vars0.Nodup))
instance (t : GArg) : Decidable t.Linear := inferInstanceAs (Decidable (t.vars0.Nodup))
instance (t : Args) : Decidable t.Linear := inferInstanceAs (Decidable (t.vars0.Nodup))

def Lifetime.bindings : Lifetime → Lifetime → List (Nat × GArg)
  | .bound _ i, t => [(i, .lt t)]
  | _, _ => []

def Const.bindings : Const → Const → List (Nat × GArg)
  | .mk _ (.bound _ i), c => [(i, .ct c)]
  | _, _ => []

mutual
  def Ty.bindings : Ty → Ty → List (Nat × GArg)
    | .bound _ i, t => [(i, .ty t)]
    | .app _ a, .app _ a' => a.bindings a'
    | .proj _ a, .proj _ a' => a.bindings a'
    | .opaque _ a, .opaque _ a' => a.bindings a'
    | .slice t, .slice t' => t.bindings t'
    | .raw _ t, .raw _ t' => t.bindings t'
    | .ref _ l t, .ref _ l' t' => l.bindings l' ++ t.bindings t'
    | .array t c, .array t' c' => t.bindings t' ++ c.bindings c'
    | _, _ => []
  def GArg.bindings : GArg → GArg → List (Nat × GArg)
    | .ty r, .ty t => r.bindings t
    | .lt r, .lt t => r.bindings t
    | .ct r, .ct t => r.bindings t
    | _, _ => []
  def Args.bindings : Args → Args → List (Nat × GArg)
    | .cons r rs, .cons t ts => r.bindings t ++ rs.bindings ts
    | _, _ => []
end

/-! `noFree o t`: no bound variable of `t` is free under `o` binders of its own. -/

def Lifetime.noFree (o : Nat) : Lifetime → Bool
  | .bound db _ => db < o
  | _ => true

mutual
  def Ty.noFree (o : Nat) : Ty → Bool
    | .app _ a => a.noFree o
    | .scalar _ => true | .str => true | .never => true | .foreign _ => true | .error => true
    | .array t c => t.noFree o && c.noFree o
    | .slice t => t.noFree o
    | .raw _ t => t.noFree o
    | .ref _ l t => l.noFree o && t.noFree o
    | .placeholder _ _ => true
    | .dyn _ b l => b.noFree (o + 1) && l.noFree o
    | .proj _ a => a.noFree o
    | .opaque _ a => a.noFree o
    | .function _ _ a => a.noFree (o + 1)
    | .bound db _ => db < o
    | .infer _ _ => true
  def Const.noFree (o : Nat) : Const → Bool
    | .mk _ (.bound db _) => db < o
    | .mk ty _ => ty.noFree o
  def GArg.noFree (o : Nat) : GArg → Bool
    | .ty t => t.noFree o
    | .lt l => l.noFree o
    | .ct c => c.noFree o
  def Args.noFree (o : Nat) : Args → Bool
    | .nil => true
    | .cons a as => a.noFree o && as.noFree o
  def WC.noFree (o : Nat) : WC → Bool
    | .implemented _ a => a.noFree o
    | .aliasEqProj _ a t => a.noFree o && t.noFree o
    | .aliasEqOpaque _ a t => a.noFree o && t.noFree o
    | .ltOutlives a b => a.noFree o && b.noFree o
    | .tyOutlives t l => t.noFree o && l.noFree o
  def QWC.noFree (o : Nat) : QWC → Bool
    | .mk _ w => w.noFree (o + 1)
  def QWCs.noFree (o : Nat) : QWCs → Bool
    | .nil => true
    | .cons q qs => q.noFree o && qs.noFree o
end

def Const.ctAgree : Const → Const → Bool
  | .mk _ (.bound _ _), _ => true
  | .mk ty _, .mk ty' _ => ty == ty' && ty.noFree 0

mutual
  def Ty.ctAgree : Ty → Ty → Bool
    | .bound _ _, _ => true
    | .app _ a, .app _ a' => a.ctAgree a'
    | .proj _ a, .proj _ a' => a.ctAgree a'
    | .opaque _ a, .opaque _ a' => a.ctAgree a'
    | .slice t, .slice t' => t.ctAgree t'
    | .raw _ t, .raw _ t' => t.ctAgree t'
    | .ref _ _ t, .ref _ _ t' => t.ctAgree t'
    | .array t c, .array t' c' => t.ctAgree t' && c.ctAgree c'
    | _, _ => true
  def GArg.ctAgree : GArg → GArg → Bool
    | .ty r, .ty t => r.ctAgree t
    | .ct r, .ct t => r.ctAgree t
    | _, _ => true
  def Args.ctAgree : Args → Args → Bool
    | .cons r rs, .cons t ts => r.ctAgree t && rs.ctAgree ts
    | _, _ => true
end

theorem Lifetime.shift_zero (c : Nat) (l : Lifetime) : l.shift 0 c = l := by
  cases l <;> simp only [Lifetime.shift, Nat.add_zero, ite_self]

/-- Shifting by 0 returns every leaf as it is, so by `fold*_undo` it returns every term as it is. -/
theorem noop_undoes_shifter_zero : Folder.noop.Undoes (shifter 0) where
  lt o l l' h := by
    cases (foldLifetime_noop o l).symm.trans h
    rw [foldLifetime_shifter, Lifetime.shift_zero]
  placeholder o ui idx t' h := by cases h; rfl
  bound o db idx t' h := by
    cases (foldTy_noop o _).symm.trans h
    rw [foldTy_shifter]; simp only [Ty.shift, Nat.add_zero, ite_self]
  infer o v k t' h := by cases h; rfl
  const o ty v c' hty h := by
    cases (foldConst_noop o _).symm.trans h
    have hty := Except.ok.inj ((foldTy_shifter 0 o ty).symm.trans (hty ty (foldTy_noop o ty)))
    rw [foldConst_shifter]; cases v <;> simp only [Const.shift, hty, Nat.add_zero, ite_self]

theorem Ty.shift_zero (c : Nat) : (t : Ty) → t.shift 0 c = t
  | t => Except.ok.inj ((foldTy_shifter 0 c t).symm.trans
    (foldTy_undo noop_undoes_shifter_zero c t t (foldTy_noop c t)))
theorem Const.shift_zero (c : Nat) : (k : Const) → k.shift 0 c = k
  | k => Except.ok.inj ((foldConst_shifter 0 c k).symm.trans
    (foldConst_undo noop_undoes_shifter_zero c k k (foldConst_noop c k)))
theorem GArg.shift_zero (c : Nat) : (a : GArg) → a.shift 0 c = a
  | a => Except.ok.inj ((foldGArg_shifter 0 c a).symm.trans
    (foldGArg_undo noop_undoes_shifter_zero c a a (foldGArg_noop c a)))
theorem Args.shift_zero (c : Nat) : (a : Args) → a.shift 0 c = a
  | a => Except.ok.inj ((foldArgs_shifter 0 c a).symm.trans
    (foldArgs_undo noop_undoes_shifter_zero c a a (foldArgs_noop c a)))
theorem WC.shift_zero (c : Nat) : (w : WC) → w.shift 0 c = w
  | w => Except.ok.inj ((foldWC_shifter 0 c w).symm.trans
    (foldWC_undo noop_undoes_shifter_zero c w w (foldWC_noop c w)))
theorem QWC.shift_zero (c : Nat) : (q : QWC) → q.shift 0 c = q
  | q => Except.ok.inj ((foldQWC_shifter 0 c q).symm.trans
    (foldQWC_undo noop_undoes_shifter_zero c q q (foldQWC_noop c q)))
theorem QWCs.shift_zero (c : Nat) : (q : QWCs) → q.shift 0 c = q
  | q => Except.ok.inj ((foldQWCs_shifter 0 c q).symm.trans
    (foldQWCs_undo noop_undoes_shifter_zero c q q (foldQWCs_noop c q)))

@[simp] theorem substFolder_inferTy (θ : List GArg) : (substFolder θ).inferTy = none := rfl
@[simp] theorem substFolder_inferLt (θ : List GArg) : (substFolder θ).inferLt = none := rfl
@[simp] theorem substFolder_inferConst (θ : List GArg) : (substFolder θ).inferConst = none := rfl
@[simp] theorem substFolder_phTy (θ : List GArg) : (substFolder θ).phTy = none := rfl
@[simp] theorem substFolder_phLt (θ : List GArg) : (substFolder θ).phLt = none := rfl
@[simp] theorem substFolder_phConst (θ : List GArg) : (substFolder θ).phConst = none := rfl

theorem foldLifetime_subst_noFree (θ : List GArg) (o : Nat) (l : Lifetime) (h : l.noFree o = true) :
    foldLifetime (substFolder θ) o l = .ok l := by
  cases l with
  | bound db idx => simp only [foldLifetime, if_neg (Nat.not_le.mpr (of_decide_eq_true h))]
  | _ => rfl

mutual
  theorem foldTy_subst_noFree (θ : List GArg) (o : Nat) : (t : Ty) → t.noFree o = true →
      foldTy (substFolder θ) o t = .ok t
    | .app n a, h => by simp only [foldTy, foldArgs_subst_noFree θ o a h]
    | .scalar _, _ => rfl
    | .str, _ => rfl
    | .never, _ => rfl
    | .foreign _, _ => rfl
    | .error, _ => rfl
    | .array t k, h => by
        have h := Bool.and_eq_true_iff.mp h
        simp only [foldTy, foldTy_subst_noFree θ o t h.1, foldConst_subst_noFree θ o k h.2]
    | .slice t, h => by simp only [foldTy, foldTy_subst_noFree θ o t h]
    | .raw _ t, h => by simp only [foldTy, foldTy_subst_noFree θ o t h]
    | .ref _ l t, h => by
        have h := Bool.and_eq_true_iff.mp h
        simp only [foldTy, foldTy_subst_noFree θ o t h.2, foldLifetime_subst_noFree θ o l h.1]
    | .placeholder _ _, _ => rfl
    | .dyn _ b l, h => by
        have h := Bool.and_eq_true_iff.mp h
        simp only [foldTy, foldQWCs_subst_noFree θ (o + 1) b h.1, foldLifetime_subst_noFree θ o l h.2]
    | .proj _ a, h => by simp only [foldTy, foldArgs_subst_noFree θ o a h]
    | .opaque _ a, h => by simp only [foldTy, foldArgs_subst_noFree θ o a h]
    | .function _ _ a, h => by simp only [foldTy, foldArgs_subst_noFree θ (o + 1) a h]
    | .bound db _, h => by simp only [foldTy, if_neg (Nat.not_le.mpr (of_decide_eq_true h))]
    | .infer _ _, _ => rfl
  theorem foldConst_subst_noFree (θ : List GArg) (o : Nat) : (k : Const) → k.noFree o = true →
      foldConst (substFolder θ) o k = .ok k
    | .mk ty (.bound db _), h => by simp only [foldConst, if_neg (Nat.not_le.mpr (of_decide_eq_true h))]
    | .mk ty (.infer _), h => by simp only [foldConst, substFolder_inferConst, foldTy_subst_noFree θ o ty h]
    | .mk ty (.placeholder _ _), h => by simp only [foldConst, substFolder_phConst, foldTy_subst_noFree θ o ty h]
    | .mk ty (.concrete _), h => by simp only [foldConst, foldTy_subst_noFree θ o ty h]
  theorem foldGArg_subst_noFree (θ : List GArg) (o : Nat) : (a : GArg) → a.noFree o = true →
      foldGArg (substFolder θ) o a = .ok a
    | .ty t, h => by simp only [foldGArg, foldTy_subst_noFree θ o t h]
    | .lt l, h => by simp only [foldGArg, foldLifetime_subst_noFree θ o l h]
    | .ct k, h => by simp only [foldGArg, foldConst_subst_noFree θ o k h]
  theorem foldArgs_subst_noFree (θ : List GArg) (o : Nat) : (a : Args) → a.noFree o = true →
      foldArgs (substFolder θ) o a = .ok a
    | .nil, _ => rfl
    | .cons x xs, h => by
        have h := Bool.and_eq_true_iff.mp h
        simp only [foldArgs, foldGArg_subst_noFree θ o x h.1, foldArgs_subst_noFree θ o xs h.2]
  theorem foldWC_subst_noFree (θ : List GArg) (o : Nat) : (w : WC) → w.noFree o = true →
      foldWC (substFolder θ) o w = .ok w
    | .implemented _ a, h => by simp only [foldWC, foldArgs_subst_noFree θ o a h]
    | .aliasEqProj _ a t, h => by
        have h := Bool.and_eq_true_iff.mp h
        simp only [foldWC, foldArgs_subst_noFree θ o a h.1, foldTy_subst_noFree θ o t h.2]
    | .aliasEqOpaque _ a t, h => by
        have h := Bool.and_eq_true_iff.mp h
        simp only [foldWC, foldArgs_subst_noFree θ o a h.1, foldTy_subst_noFree θ o t h.2]
    | .ltOutlives a b, h => by
        have h := Bool.and_eq_true_iff.mp h
        simp only [foldWC, foldLifetime_subst_noFree θ o a h.1, foldLifetime_subst_noFree θ o b h.2]
    | .tyOutlives t l, h => by
        have h := Bool.and_eq_true_iff.mp h
        simp only [foldWC, foldTy_subst_noFree θ o t h.1, foldLifetime_subst_noFree θ o l h.2]
  theorem foldQWC_subst_noFree (θ : List GArg) (o : Nat) : (q : QWC) → q.noFree o = true →
      foldQWC (substFolder θ) o q = .ok q
    | .mk _ w, h => by simp only [foldQWC, foldWC_subst_noFree θ (o + 1) w h]
  theorem foldQWCs_subst_noFree (θ : List GArg) (o : Nat) : (q : QWCs) → q.noFree o = true →
      foldQWCs (substFolder θ) o q = .ok q
    | .nil, _ => rfl
    | .cons q qs, h => by
        have h := Bool.and_eq_true_iff.mp h
        simp only [foldQWCs, foldQWC_subst_noFree θ o q h.1, foldQWCs_subst_noFree θ o qs h.2]
end

theorem Lifetime.subst_of_bindings (θ : List GArg) (r t : Lifetime) (hg : r.genOf t = true)
    (h0 : r.top0 = true) (hb : ∀ p, p ∈ r.bindings t → θ[p.1]? = some p.2) :
    foldLifetime (substFolder θ) 0 r = .ok t := by
  cases r with
  | bound db i =>
    cases beq_iff_eq.mp h0
    have : θ[i]? = some (.lt t) := hb (i, .lt t) (List.mem_singleton.mpr rfl)
    rw [foldLifetime]
    simp only [substFolder, Nat.le_refl, if_true, Nat.sub_zero, this, foldLifetime_shifter, Lifetime.shift_zero]
  | _ =>
    rcases Lifetime.genOf_inv hg with ⟨_, _, e⟩ | rfl
    · cases e
    · rfl

theorem Const.subst_of_bindings (θ : List GArg) (r t : Const) (hg : r.genOf t = true)
    (h0 : r.top0 = true) (hc : r.ctAgree t = true) (hb : ∀ p, p ∈ r.bindings t → θ[p.1]? = some p.2) :
    foldConst (substFolder θ) 0 r = .ok t := by
  obtain ⟨ty, v⟩ := r
  obtain ⟨ty', v'⟩ := t
  cases v with
  | bound db i =>
    cases beq_iff_eq.mp h0
    have : θ[i]? = some (.ct (.mk ty' v')) := hb (i, .ct (.mk ty' v')) (List.mem_singleton.mpr rfl)
    simp only [foldConst, substFolder, Nat.le_refl, if_true, Nat.sub_zero, this, foldConst_shifter,
      Const.shift_zero]
  | _ =>
    rcases Const.genOf_inv hg with ⟨_, _, e⟩ | rfl
    · cases e
    · simp only [Const.ctAgree, Bool.and_eq_true, beq_iff_eq] at hc
      obtain ⟨rfl, h2⟩ := hc
      simp only [foldConst, substFolder_inferConst, substFolder_phConst, foldTy_subst_noFree θ 0 ty h2]

mutual
  theorem Ty.subst_of_bindings (θ : List GArg) : (r t : Ty) → r.genOf t = true → r.top0 = true →
      r.ctAgree t = true → (∀ p, p ∈ r.bindings t → θ[p.1]? = some p.2) →
      foldTy (substFolder θ) 0 r = .ok t
    | r, t, hg, h0, hc, hb => by
        have hi := Ty.genOf_inv hg
        cases r with
        | bound db i =>
          cases beq_iff_eq.mp h0
          have : θ[i]? = some (.ty t) := hb (i, .ty t) (List.mem_singleton.mpr rfl)
          simp only [foldTy, substFolder, Nat.le_refl, if_true, Nat.sub_zero, this, foldTy_shifter,
            Ty.shift_zero]
        | app n x | proj n x | «opaque» n x =>
          obtain ⟨y, rfl, g⟩ := hi
          simp only [foldTy, Args.subst_of_bindings θ x y g h0 hc hb]
        | slice x | raw m x =>
          obtain ⟨y, rfl, g⟩ := hi
          simp only [foldTy, Ty.subst_of_bindings θ x y g h0 hc hb]
        | ref m l x =>
          obtain ⟨l', y, rfl, gl, g⟩ := hi
          have h0 := Bool.and_eq_true_iff.mp h0
          simp only [foldTy,
            Lifetime.subst_of_bindings θ l l' gl h0.1 fun p hp => hb p (List.mem_append_left _ hp),
            Ty.subst_of_bindings θ x y g h0.2 hc fun p hp => hb p (List.mem_append_right _ hp)]
        | array x k =>
          obtain ⟨y, k', rfl, g, gk⟩ := hi
          have h0 := Bool.and_eq_true_iff.mp h0
          have hc := Bool.and_eq_true_iff.mp hc
          simp only [foldTy,
            Ty.subst_of_bindings θ x y g h0.1 hc.1 fun p hp => hb p (List.mem_append_left _ hp),
            Const.subst_of_bindings θ k k' gk h0.2 hc.2 fun p hp => hb p (List.mem_append_right _ hp)]
        | dyn | function | infer => exact hi.elim
        | _ => subst hi; rfl
  termination_by structural r => r
  theorem GArg.subst_of_bindings (θ : List GArg) : (r t : GArg) → r.genOf t = true → r.top0 = true →
      r.ctAgree t = true → (∀ p, p ∈ r.bindings t → θ[p.1]? = some p.2) →
      foldGArg (substFolder θ) 0 r = .ok t
    | .ty r, _, hg, h0, hc, hb => by
        obtain ⟨t, rfl, g⟩ := GArg.genOf_inv hg
        simp only [foldGArg, Ty.subst_of_bindings θ r t g h0 hc hb]
    | .lt r, _, hg, h0, _, hb => by
        obtain ⟨t, rfl, g⟩ := GArg.genOf_inv hg
        simp only [foldGArg, Lifetime.subst_of_bindings θ r t g h0 hb]
    | .ct r, _, hg, h0, hc, hb => by
        obtain ⟨t, rfl, g⟩ := GArg.genOf_inv hg
        simp only [foldGArg, Const.subst_of_bindings θ r t g h0 hc hb]
  termination_by structural r => r
  theorem Args.subst_of_bindings (θ : List GArg) : (r t : Args) → r.genOf t = true → r.top0 = true →
      r.ctAgree t = true → (∀ p, p ∈ r.bindings t → θ[p.1]? = some p.2) →
      foldArgs (substFolder θ) 0 r = .ok t
    | .nil, _, hg, _, _, _ => by cases Args.genOf_inv hg; rfl
    | .cons r rs, _, hg, h0, hc, hb => by
        obtain ⟨t, ts, rfl, g, gs⟩ := Args.genOf_inv hg
        have h0 := Bool.and_eq_true_iff.mp h0
        have hc := Bool.and_eq_true_iff.mp hc
        simp only [foldArgs,
          GArg.subst_of_bindings θ r t g h0.1 hc.1 fun p hp => hb p (List.mem_append_left _ hp),
          Args.subst_of_bindings θ rs ts gs h0.2 hc.2 fun p hp => hb p (List.mem_append_right _ hp)]
  termination_by structural r => r
end

theorem Lifetime.bindings_keys (r t : Lifetime) (h0 : r.top0 = true) :
    (r.bindings t).map Prod.fst = r.vars0 := by
  cases r with
  | bound db i => cases beq_iff_eq.mp h0; rfl
  | _ => rfl

theorem Const.bindings_keys (r t : Const) (h0 : r.top0 = true) :
    (r.bindings t).map Prod.fst = r.vars0 := by
  obtain ⟨ty, v⟩ := r
  cases v with
  | bound db i => cases beq_iff_eq.mp h0; rfl
  | _ => rfl

mutual
  theorem Ty.bindings_keys : (r t : Ty) → r.genOf t = true → r.top0 = true →
      (r.bindings t).map Prod.fst = r.vars0
    | r, t, hg, h0 => by
        have hi := Ty.genOf_inv hg
        cases r with
        | bound db i => cases beq_iff_eq.mp h0; rfl
        | app n x | proj n x | «opaque» n x => obtain ⟨y, rfl, g⟩ := hi; exact Args.bindings_keys x y g h0
        | slice x | raw m x => obtain ⟨y, rfl, g⟩ := hi; exact Ty.bindings_keys x y g h0
        | ref m l x =>
          obtain ⟨l', y, rfl, _, g⟩ := hi
          have h0 := Bool.and_eq_true_iff.mp h0
          show (l.bindings l' ++ x.bindings y).map Prod.fst = l.vars0 ++ x.vars0
          rw [List.map_append, Lifetime.bindings_keys l l' h0.1, Ty.bindings_keys x y g h0.2]
        | array x k =>
          obtain ⟨y, k', rfl, g, _⟩ := hi
          have h0 := Bool.and_eq_true_iff.mp h0
          show (x.bindings y ++ k.bindings k').map Prod.fst = x.vars0 ++ k.vars0
          rw [List.map_append, Ty.bindings_keys x y g h0.1, Const.bindings_keys k k' h0.2]
        | _ => rfl
  termination_by structural r => r
  theorem GArg.bindings_keys : (r t : GArg) → r.genOf t = true → r.top0 = true →
      (r.bindings t).map Prod.fst = r.vars0
    | .ty r, _, hg, h0 => by
        obtain ⟨t, rfl, g⟩ := GArg.genOf_inv hg
        exact Ty.bindings_keys r t g h0
    | .lt r, _, hg, h0 => by
        obtain ⟨t, rfl, _⟩ := GArg.genOf_inv hg
        exact Lifetime.bindings_keys r t h0
    | .ct r, _, hg, h0 => by
        obtain ⟨t, rfl, _⟩ := GArg.genOf_inv hg
        exact Const.bindings_keys r t h0
  termination_by structural r => r
  theorem Args.bindings_keys : (r t : Args) → r.genOf t = true → r.top0 = true →
      (r.bindings t).map Prod.fst = r.vars0
    | .nil, _, _, _ => rfl
    | .cons r rs, _, hg, h0 => by
        obtain ⟨t, ts, rfl, g, gs⟩ := Args.genOf_inv hg
        have h0 := Bool.and_eq_true_iff.mp h0
        show (r.bindings t ++ rs.bindings ts).map Prod.fst = r.vars0 ++ rs.vars0
        rw [List.map_append, GArg.bindings_keys r t g h0.1, Args.bindings_keys rs ts gs h0.2]
  termination_by structural r => r
end

theorem exists_subst_of_bindings (n : Nat) {bs : List (Nat × GArg)} {vs : List Nat}
    (hk : bs.map Prod.fst = vs) (hnd : vs.Nodup) (hlt : ∀ i, i ∈ vs → i < n) :
    ∃ θ : List GArg, θ.length = n ∧ ∀ p, p ∈ bs → θ[p.1]? = some p.2 := by
  subst hk
  induction bs with
  | nil => exact ⟨List.replicate n (.lt .static), List.length_replicate, fun _ hp => nomatch hp⟩
  | cons b bs ih =>
    obtain ⟨i, g⟩ := b
    simp only [List.map_cons, List.nodup_cons, List.mem_cons] at hnd hlt
    obtain ⟨θ, hl, hθ⟩ := ih hnd.2 fun j hj => hlt j (.inr hj)
    refine ⟨θ.set i g, by rw [List.length_set, hl], fun p hp => ?_⟩
    rcases List.mem_cons.mp hp with rfl | hp'
    · exact List.getElem?_set_self (hl ▸ hlt i (.inl rfl))
    · have hne : i ≠ p.1 := fun e => hnd.1 (e ▸ List.mem_map_of_mem hp')
      rw [List.getElem?_set_ne hne, hθ p hp']

theorem Args.genOf_linear_instance (r t : Args) (n : Nat) (hlin : r.Linear) (hg : r.genOf t = true)
    (h0 : r.top0 = true) (hc : r.ctAgree t = true) (hn : ∀ i, i ∈ r.vars0 → i < n) :
    ∃ θ : List GArg, θ.length = n ∧ r.subst θ = .ok t :=
  let ⟨θ, hl, hθ⟩ := exists_subst_of_bindings n (Args.bindings_keys r t hg h0) hlin hn
  ⟨θ, hl, Args.subst_of_bindings θ r t hg h0 hc hθ⟩

theorem Ty.genOf_linear_instance (r t : Ty) (n : Nat) (hlin : r.Linear) (hg : r.genOf t = true)
    (h0 : r.top0 = true) (hc : r.ctAgree t = true) (hn : ∀ i, i ∈ r.vars0 → i < n) :
    ∃ θ : List GArg, θ.length = n ∧ r.subst θ = .ok t :=
  let ⟨θ, hl, hθ⟩ := exists_subst_of_bindings n (Ty.bindings_keys r t hg h0) hlin hn
  ⟨θ, hl, Ty.subst_of_bindings θ r t hg h0 hc hθ⟩

/-- `vs` is the list of the indices created between the states `st` and `st'` -/
def AuFresh (st st' : AuSt) (vs : List Nat) : Prop :=
  st.length ≤ st'.length ∧ vs = List.range' st.length (st'.length - st.length)

theorem AuFresh.refl (st : AuSt) : AuFresh st st [] := by simp [AuFresh]

theorem AuFresh.one (st : AuSt) (x : VarKind × Nat) : AuFresh st (st ++ [x]) [st.length] := by
  simp [AuFresh, List.range'_succ]

theorem AuFresh.append {s1 s2 s3 : AuSt} {v1 v2 : List Nat} (h1 : AuFresh s1 s2 v1) (h2 : AuFresh s2 s3 v2) :
    AuFresh s1 s3 (v1 ++ v2) := by
  obtain ⟨a1, b1⟩ := h1
  obtain ⟨a2, b2⟩ := h2
  refine ⟨Nat.le_trans a1 a2, ?_⟩
  subst b1 b2
  have := @List.range'_append s1.length (s2.length - s1.length) (s3.length - s2.length) 1
  simp only [Nat.one_mul] at this
  rw [show s1.length + (s2.length - s1.length) = s2.length by omega] at this
  rw [this]
  congr 1
  omega

theorem AuFresh.nodup {st st' : AuSt} {vs : List Nat} (h : AuFresh st st' vs) : vs.Nodup := by
  rw [h.2]; exact List.nodup_range' 1

theorem AuFresh.lt {st st' : AuSt} {vs : List Nat} (h : AuFresh st st' vs) : ∀ i, i ∈ vs → i < st'.length := by
  intro i hi
  rw [h.2, List.mem_range'] at hi
  obtain ⟨k, hk, e⟩ := hi
  have := h.1
  omega

/-- what the anti-unifier guarantees about a result (state `st` before, `st'` after): its variables
    `vs` are the fresh indices in order, all at depth 0 (`top`), and constant types stay in agreement
    when they were (`c12`: between the arguments; `c1`, `c2`: between the result and each argument) -/
def AuSpec (st st' : AuSt) (vs : List Nat) (top c12 c1 c2 : Bool) : Prop :=
  AuFresh st st' vs ∧ top = true ∧ (c12 = true → c1 = true ∧ c2 = true)

theorem AuSpec.kept (st : AuSt) (c : Bool) : AuSpec st st [] true c true true :=
  ⟨.refl st, rfl, fun _ => ⟨rfl, rfl⟩⟩

theorem AuSpec.fresh (st : AuSt) (x : VarKind × Nat) (c : Bool) :
    AuSpec st (st ++ [x]) [st.length] true c true true :=
  ⟨.one st x, rfl, fun _ => ⟨rfl, rfl⟩⟩

theorem AuSpec.append {s1 s2 s3 : AuSt} {v1 v2 : List Nat} {t1 t2 a12 a1 a2 b12 b1 b2 : Bool}
    (ha : AuSpec s1 s2 v1 t1 a12 a1 a2) (hb : AuSpec s2 s3 v2 t2 b12 b1 b2) :
    AuSpec s1 s3 (v1 ++ v2) (t1 && t2) (a12 && b12) (a1 && b1) (a2 && b2) := by
  obtain ⟨af, rfl, ac⟩ := ha
  obtain ⟨bf, rfl, bc⟩ := hb
  refine ⟨af.append bf, rfl, fun h => ?_⟩
  obtain ⟨h1, h2⟩ := Bool.and_eq_true_iff.mp h
  obtain ⟨rfl, rfl⟩ := ac h1
  exact bc h2

-- lifetimes carry no constants, so `c` is free; callers pass `true`, for which `AuSpec.append` gives
-- `true && x`, by definition `x` (`ctAgree` of a `ref` or of an `lt` argument ignores the lifetimes)
theorem auLifetime_spec {u : Nat} {l1 l2 r : Lifetime} {st st' : AuSt} (c : Bool)
    (h : auLifetime u l1 l2 st = (r, st')) : AuSpec st st' r.vars0 r.top0 c true true := by
  rcases auLifetime_ok h with e | ⟨rfl, rfl, _, hb⟩
  · cases e; exact .fresh ..
  · cases r with
    | bound db i => exact (hb db i rfl).elim
    | _ => exact .kept ..

theorem auConst_spec {u : Nat} {c1 c2 r : Const} {st st' : AuSt}
    (h : auConst u c1 c2 st = (r, st')) :
    AuSpec st st' r.vars0 r.top0 (c1.ctAgree c2) (r.ctAgree c1) (r.ctAgree c2) := by
  obtain ⟨ty, v1⟩ := c1
  obtain ⟨ty2, v2⟩ := c2
  rcases auConst_ok h with e | ⟨rfl, rfl, rfl, hb⟩
  · cases e; exact .fresh ..
  · cases v1 with
    | bound db i => exact (hb db i rfl).elim
    | _ =>
      refine ⟨.refl _, rfl, fun hc => ⟨?_, hc⟩⟩
      simp only [Const.ctAgree, Bool.and_eq_true, beq_iff_eq] at hc ⊢
      exact ⟨trivial, hc.2⟩

mutual
  theorem auTy_spec (u : Nat) : (t1 t2 : Ty) → (st : AuSt) → (r : Ty) → (st' : AuSt) →
      auTy u t1 t2 st = .ok (r, st') →
      AuSpec st st' r.vars0 r.top0 (t1.ctAgree t2) (r.ctAgree t1) (r.ctAgree t2)
    | t1, t2, st, r, st', h => by
        rcases auTy_ok h with e | h
        · cases e; exact .fresh ..
        · cases t1 with
          | proj i a | «opaque» i a | app i a =>
            obtain ⟨a', ra, rfl, _, ha, rfl⟩ := h; exact auArgs_spec u a a' st ra st' ha
          | slice t | raw m t => obtain ⟨t', rt, rfl, ht, rfl⟩ := h; exact auTy_spec u t t' st rt st' ht
          | ref m l t =>
            obtain ⟨l', t', rl, s1, rt, rfl, hl, ht, rfl⟩ := h
            exact (auLifetime_spec true hl).append (auTy_spec u t t' s1 rt st' ht)
          | array t c =>
            obtain ⟨t', c', rt, s1, rc, rfl, ht, hc, rfl⟩ := h
            exact (auTy_spec u t t' st rt s1 ht).append (auConst_spec hc)
          | dyn | function | bound | infer => exact h.elim
          | _ => obtain ⟨rfl, rfl, rfl⟩ := h; exact .kept ..
  termination_by structural t1 => t1
  theorem auGArg_spec (u : Nat) : (a1 a2 : GArg) → (st : AuSt) → (r : GArg) → (st' : AuSt) →
      auGArg u a1 a2 st = .ok (r, st') →
      AuSpec st st' r.vars0 r.top0 (a1.ctAgree a2) (r.ctAgree a1) (r.ctAgree a2)
    | .ty t, _, st, _, st', h => by
        obtain ⟨t', rt, rfl, ht, rfl⟩ := auGArg_ok h
        exact auTy_spec u t t' st rt st' ht
    | .lt l, _, st, _, st', h => by
        obtain ⟨l', rl, rfl, hl, rfl⟩ := auGArg_ok h
        exact auLifetime_spec true hl
    | .ct c, _, st, _, st', h => by
        obtain ⟨c', rc, rfl, hc, rfl⟩ := auGArg_ok h
        exact auConst_spec hc
  termination_by structural a1 => a1
  theorem auArgs_spec (u : Nat) : (a1 a2 : Args) → (st : AuSt) → (r : Args) → (st' : AuSt) →
      auArgs u a1 a2 st = .ok (r, st') →
      AuSpec st st' r.vars0 r.top0 (a1.ctAgree a2) (r.ctAgree a1) (r.ctAgree a2)
    | .nil, _, _, _, _, h => by obtain ⟨rfl, rfl⟩ := auArgs_ok h; exact .kept ..
    | .cons _ _, .nil, _, _, _, h => by obtain ⟨rfl, rfl⟩ := auArgs_ok h; exact .kept ..
    | .cons x xs, .cons y ys, st, _, st', h => by
        obtain ⟨rx, s1, rxs, hx, hxs, rfl⟩ := auArgs_ok h
        exact (auGArg_spec u x y st rx s1 hx).append (auArgs_spec u xs ys s1 rxs st' hxs)
  termination_by structural a1 => a1
end

theorem mergeLoop_spec (us : List Nat) : (idx : Nat) → (g a : Args) → (st : AuSt) → (r : Args) → (st' : AuSt) →
    mergeLoop us idx g a st = .ok (r, st') →
    AuSpec st st' r.vars0 r.top0 (g.ctAgree a) (r.ctAgree g) (r.ctAgree a)
  | _, .nil, _, _, _, _, h => by obtain ⟨rfl, rfl⟩ := mergeLoop_ok h; exact .kept ..
  | _, .cons _ _, .nil, _, _, _, h => by obtain ⟨rfl, rfl⟩ := mergeLoop_ok h; exact .kept ..
  | idx, .cons p1 ps1, .cons p2 ps2, st, _, st', h => by
      obtain ⟨u, rr, s1, rs, _, hs, hr, rfl⟩ := mergeLoop_ok h
      refine AuSpec.append ?_ (mergeLoop_spec us (idx + 1) ps1 ps2 s1 rs st' hr)
      rcases hs with ⟨⟨l, rfl⟩, e⟩ | hs
      · cases e; exact .fresh ..
      · exact auGArg_spec u p1 p2 st rr s1 hs

/-- the shape of every result of `merge_into_guidance`: the `k` binders are used as `^0.0 … ^0.(k-1)`,
    once each, left to right -/
def MergedShape (c : Canon Args) : Prop :=
  c.value.vars0 = List.range' 0 c.binders.length ∧ c.value.top0 = true

theorem MergedShape.fresh {c : Canon Args} (h : MergedShape c) : AuFresh [] c.binders c.value.vars0 :=
  ⟨Nat.zero_le _, h.1⟩

theorem MergedShape.linear {c : Canon Args} (h : MergedShape c) : c.value.Linear := h.fresh.nodup

theorem MergedShape.lt {c : Canon Args} (h : MergedShape c) : ∀ i, i ∈ c.value.vars0 → i < c.binders.length :=
  h.fresh.lt

theorem mergeIntoGuidance_spec {us : List Nat} {g a : Args} {r : Canon Args}
    (h : mergeIntoGuidance us g a = .ok r) :
    MergedShape r ∧ (g.ctAgree a = true → r.value.ctAgree g = true ∧ r.value.ctAgree a = true) := by
  obtain ⟨a1, a2, a3⟩ := mergeLoop_spec us 0 g a [] _ _ (mergeIntoGuidance_ok h)
  exact ⟨⟨by simpa using a1.2, a2⟩, a3⟩

theorem Const.ctAgree_trans {r g b : Const} (h1 : r.genOf g = true) (h2 : r.ctAgree g = true)
    (h3 : g.ctAgree b = true) : r.ctAgree b = true := by
  obtain ⟨tr, vr⟩ := r
  obtain ⟨tg, vg⟩ := g
  obtain ⟨tb, vb⟩ := b
  cases vr with
  | bound => rfl
  | _ =>
    rcases Const.genOf_inv h1 with ⟨_, _, e⟩ | rfl
    · cases e
    · simp only [Const.ctAgree, Bool.and_eq_true, beq_iff_eq] at h2 h3 ⊢
      exact ⟨h2.1.trans h3.1, h2.2⟩

-- where the heads of `r` and `b` differ `r.ctAgree b` holds by definition; where they agree `g` has
-- that head too, since `r` generalises it
mutual
  theorem Ty.ctAgree_trans : (r g b : Ty) → r.genOf g = true → r.ctAgree g = true → g.ctAgree b = true →
      r.ctAgree b = true
    | r, g, b, h1, h2, h3 => by
        have hi := Ty.genOf_inv h1
        cases r with
        | app n x =>
          obtain ⟨y, rfl, g1⟩ := hi
          cases b with
          | app _ z => exact Args.ctAgree_trans x y z g1 h2 h3
          | _ => rfl
        | proj n x =>
          obtain ⟨y, rfl, g1⟩ := hi
          cases b with
          | proj _ z => exact Args.ctAgree_trans x y z g1 h2 h3
          | _ => rfl
        | «opaque» n x =>
          obtain ⟨y, rfl, g1⟩ := hi
          cases b with
          | «opaque» _ z => exact Args.ctAgree_trans x y z g1 h2 h3
          | _ => rfl
        | slice x =>
          obtain ⟨y, rfl, g1⟩ := hi
          cases b with
          | slice z => exact Ty.ctAgree_trans x y z g1 h2 h3
          | _ => rfl
        | raw m x =>
          obtain ⟨y, rfl, g1⟩ := hi
          cases b with
          | raw _ z => exact Ty.ctAgree_trans x y z g1 h2 h3
          | _ => rfl
        | ref m l x =>
          obtain ⟨l', y, rfl, _, g1⟩ := hi
          cases b with
          | ref _ _ z => exact Ty.ctAgree_trans x y z g1 h2 h3
          | _ => rfl
        | array x k =>
          obtain ⟨y, k', rfl, g1, gk⟩ := hi
          cases b with
          | array z k'' =>
            have h2 := Bool.and_eq_true_iff.mp h2
            have h3 := Bool.and_eq_true_iff.mp h3
            exact Bool.and_eq_true_iff.mpr
              ⟨Ty.ctAgree_trans x y z g1 h2.1 h3.1, Const.ctAgree_trans gk h2.2 h3.2⟩
          | _ => rfl
        | _ => rfl
  termination_by structural r => r
  theorem GArg.ctAgree_trans : (r g b : GArg) → r.genOf g = true → r.ctAgree g = true → g.ctAgree b = true →
      r.ctAgree b = true
    | .ty r, _, b, h1, h2, h3 => by
        obtain ⟨g, rfl, g1⟩ := GArg.genOf_inv h1
        cases b with
        | ty b => exact Ty.ctAgree_trans r g b g1 h2 h3
        | _ => rfl
    | .ct r, _, b, h1, h2, h3 => by
        obtain ⟨g, rfl, g1⟩ := GArg.genOf_inv h1
        cases b with
        | ct b => exact Const.ctAgree_trans g1 h2 h3
        | _ => rfl
    | .lt _, _, _, _, _, _ => rfl
  termination_by structural r => r
  theorem Args.ctAgree_trans : (r g b : Args) → r.genOf g = true → r.ctAgree g = true → g.ctAgree b = true →
      r.ctAgree b = true
    | .cons x xs, _, .cons z zs, h1, h2, h3 => by
        obtain ⟨y, ys, rfl, g1, gs⟩ := Args.genOf_inv h1
        have h2 := Bool.and_eq_true_iff.mp h2
        have h3 := Bool.and_eq_true_iff.mp h3
        exact Bool.and_eq_true_iff.mpr
          ⟨GArg.ctAgree_trans x y z g1 h2.1 h3.1, Args.ctAgree_trans xs ys zs gs h2.2 h3.2⟩
    | .nil, _, _, _, _, _ => rfl
    | .cons _ _, _, .nil, _, _, _ => rfl
  termination_by structural r => r
end

/-- Invariant of the loop of `make_solution`, in three layers: with no hypothesis (shape of the guidance); when the
    remaining answers have the kinds of the initial substitution (it generalises them); when moreover their constant
    types agree with those of the initial substitution (`ctAgree` throughout). -/
theorem guidanceLoop_inv (us : List Nat) : (rest : List CAnswer) → (subst : Canon Args) → (n : Nat) →
    (g : Canon Args) → (m : Nat) →
    guidanceLoop us rest subst n = .ok (.definite g, m) →
    ((g = subst ∧ m = n) ∨ (n < m ∧ MergedShape g)) ∧
    ((∀ a, a ∈ rest → subst.value.sameKinds a.subst = true) →
      (g = subst ∨ g.value.genOf subst.value = true) ∧
      (∀ a, a ∈ rest → g.value.genOf a.subst = true) ∧
      ((∀ a, a ∈ rest → subst.value.ctAgree a.subst = true) →
        (g = subst ∨ g.value.ctAgree subst.value = true) ∧
        ∀ a, a ∈ rest → g.value.ctAgree a.subst = true))
  | rest, subst, n, g, m, h => by
      rcases guidanceLoop_ok h with ⟨rfl, rfl, hf⟩ | h
      · exact ⟨.inl ⟨rfl, rfl⟩, fun hk =>
          ⟨.inl rfl, fun a ha => genOf_of_anyFutureInvalidates hf ha (hk a ha), fun hc => ⟨.inl rfl, hc⟩⟩⟩
      · cases rest with
        | nil => exact h.elim
        | cons a rest' =>
          obtain ⟨s', hm, h⟩ := h
          obtain ⟨hshape, hct⟩ := mergeIntoGuidance_spec hm
          obtain ⟨ih1, ih2⟩ := guidanceLoop_inv us rest' s' (n + 1) g m h
          refine ⟨.inr ?_, fun hk => ?_⟩
          · rcases ih1 with ⟨rfl, rfl⟩ | ⟨e1, e2⟩
            · exact ⟨Nat.lt_succ_self n, hshape⟩
            · exact ⟨Nat.lt_of_succ_lt e1, e2⟩
          have hgen := mergeIntoGuidance_gen hm (hk a (List.mem_cons_self ..))
          obtain ⟨j1, j2, j3⟩ := ih2 fun b hb =>
            Args.sameKinds_trans _ _ _ (Args.sameKinds_of_genOf _ _ hgen.1) (hk b (List.mem_cons_of_mem _ hb))
          have up : ∀ t : Args, s'.value.genOf t = true → g.value.genOf t = true := fun t ht => by
            rcases j1 with rfl | e
            · exact ht
            · exact Args.genOf_trans _ _ _ e ht
          refine ⟨.inr (up _ hgen.1), fun b hb => ?_, fun hc => ?_⟩
          · rcases List.mem_cons.mp hb with rfl | hb
            · exact up _ hgen.2
            · exact j2 b hb
          have hct := hct (hc a (List.mem_cons_self ..))
          obtain ⟨k1, k2⟩ := j3 fun b hb =>
            Args.ctAgree_trans _ _ _ hgen.1 hct.1 (hc b (List.mem_cons_of_mem _ hb))
          have upc : ∀ t : Args, s'.value.genOf t = true → s'.value.ctAgree t = true →
              g.value.ctAgree t = true := fun t ht hc => by
            rcases j1 with rfl | e
            · exact hc
            · rcases k1 with rfl | e'
              · exact hc
              · exact Args.ctAgree_trans _ _ _ e e' hc
          refine ⟨.inr (upc _ hgen.1 hct.1), fun b hb => ?_⟩
          rcases List.mem_cons.mp hb with rfl | hb
          · exact upc _ hgen.2 hct.2
          · exact k2 b hb

end Chalk
