import ChalkModel.WfAnswer
import ChalkModel.Lemmas.SubstLemmas

namespace Chalk

theorem kindsMatch_get : (kinds : List VarKind) → (params : List GArg) → kindsMatch kinds params = true →
    ∀ (i : Nat) (k : VarKind), kinds[i]? = some k → ∃ a : GArg, params[i]? = some a ∧ GArg.hasKind a k = true
  | [], [], _, i, k, hk => by simp at hk
  | [], _ :: _, h, _, _, _ => by simp [kindsMatch] at h
  | _ :: _, [], h, _, _, _ => by simp [kindsMatch] at h
  | k0 :: ks, a0 :: as, h, i, k, hk => by
      simp only [kindsMatch, Bool.and_eq_true] at h
      cases i with
      | zero => simp at hk; subst hk; exact ⟨a0, by simp, h.1⟩
      | succ j =>
        simp at hk
        obtain ⟨a, ha, hh⟩ := kindsMatch_get ks as h.2 j k hk
        exact ⟨a, by simp [ha], hh⟩

theorem kindsMatch_length : (kinds : List VarKind) → (params : List GArg) → kindsMatch kinds params = true →
    params.length = kinds.length
  | [], [], _ => rfl
  | [], _ :: _, h => by simp [kindsMatch] at h
  | _ :: _, [], h => by simp [kindsMatch] at h
  | _ :: ks, _ :: as, h => by
      simp only [kindsMatch, Bool.and_eq_true] at h
      rw [List.length_cons, List.length_cons, kindsMatch_length ks as h.2]

/-- applying a kind-correct parameter list to a term whose free variables all belong to the
    binder with those kinds never panics -/
theorem foldLifetime_apply_ok (kinds : List VarKind) (params : List GArg)
    (hm : kindsMatch kinds params = true) (outer : Nat) (l : Lifetime) (h : l.scoped kinds outer = true) :
    ∃ r, foldLifetime (applyFolder params) outer l = .ok r := by
  cases l <;> try exact ⟨_, rfl⟩
  case bound db idx =>
    simp only [foldLifetime, applyFolder]
    rcases scoped_var h with h | ⟨rfl, h2⟩
    · rw [if_neg (Nat.not_le.2 h)]; exact ⟨_, rfl⟩
    · obtain ⟨a, ha, hk⟩ := kindsMatch_get kinds params hm idx .lt (eq_of_beq h2)
      rw [if_pos (Nat.le_refl _), if_pos (Nat.sub_self _), ha]
      cases a <;> cases hk
      exact ⟨_, foldLifetime_shifter ..⟩

mutual
  theorem foldTy_apply_ok (cty : Nat → Ty) (kinds : List VarKind) (params : List GArg)
      (hm : kindsMatch kinds params = true) (outer : Nat) : (t : Ty) → t.scoped cty kinds outer = true →
      ∃ r, foldTy (applyFolder params) outer t = .ok r
    | .app n args, h => by
        rw [foldTy_app]; exact Except.exists_map_ok (foldArgs_apply_ok cty kinds params hm outer args h) _
    | .scalar s, _ => ⟨_, rfl⟩
    | .str, _ => ⟨_, rfl⟩
    | .never, _ => ⟨_, rfl⟩
    | .foreign id, _ => ⟨_, rfl⟩
    | .error, _ => ⟨_, rfl⟩
    | .array t c, h => by
        have ⟨h1, h2⟩ := Bool.and_eq_true_iff.mp h
        rw [foldTy_array]
        exact Except.exists_bind_ok (foldTy_apply_ok cty kinds params hm outer t h1) fun _ =>
          Except.exists_map_ok (foldConst_apply_ok cty kinds params hm outer c h2) _
    | .slice t, h => by
        rw [foldTy_slice]; exact Except.exists_map_ok (foldTy_apply_ok cty kinds params hm outer t h) _
    | .raw m t, h => by
        rw [foldTy_raw]; exact Except.exists_map_ok (foldTy_apply_ok cty kinds params hm outer t h) _
    | .ref m l t, h => by
        have ⟨h1, h2⟩ := Bool.and_eq_true_iff.mp h
        rw [foldTy_ref]
        exact Except.exists_bind_ok (foldLifetime_apply_ok kinds params hm outer l h1) fun _ =>
          Except.exists_map_ok (foldTy_apply_ok cty kinds params hm outer t h2) _
    | .placeholder ui idx, _ => ⟨_, rfl⟩
    | .dyn ks bounds l, h => by
        have ⟨h1, h2⟩ := Bool.and_eq_true_iff.mp h
        rw [foldTy_dyn]
        exact Except.exists_bind_ok (foldQWCs_apply_ok cty kinds params hm (outer+1) bounds h1) fun _ =>
          Except.exists_map_ok (foldLifetime_apply_ok kinds params hm outer l h2) _
    | .proj id args, h => by
        rw [foldTy_proj]; exact Except.exists_map_ok (foldArgs_apply_ok cty kinds params hm outer args h) _
    | .opaque id args, h => by
        rw [foldTy_opaque]; exact Except.exists_map_ok (foldArgs_apply_ok cty kinds params hm outer args h) _
    | .function nb sig args, h => by
        rw [foldTy_function]; exact Except.exists_map_ok (foldArgs_apply_ok cty kinds params hm (outer+1) args h) _
    | .bound db idx, h => by
        simp only [foldTy, applyFolder]
        rcases scoped_var h with h | ⟨rfl, h2⟩
        · rw [if_neg (Nat.not_le.2 h)]; exact ⟨_, rfl⟩
        · cases hk : kinds[idx]? with
          | none => rw [hk] at h2; cases h2
          | some k =>
            cases k <;> rw [hk] at h2 <;> try cases h2
            obtain ⟨a, ha, hkk⟩ := kindsMatch_get kinds params hm idx _ hk
            rw [if_pos (Nat.le_refl _), if_pos (Nat.sub_self _), ha]
            cases a <;> cases hkk
            exact ⟨_, foldTy_shifter ..⟩
    | .infer v k, _ => ⟨_, rfl⟩
  theorem foldConst_apply_ok (cty : Nat → Ty) (kinds : List VarKind) (params : List GArg)
      (hm : kindsMatch kinds params = true) (outer : Nat) : (c : Const) → c.scoped cty kinds outer = true →
      ∃ r, foldConst (applyFolder params) outer c = .ok r
    | .mk ty (.bound db idx), h => by
        simp only [foldConst, applyFolder]
        rcases scoped_var h with h | ⟨rfl, h2⟩
        · rw [if_neg (Nat.not_le.2 h)]; exact ⟨_, rfl⟩
        · cases hk : kinds[idx]? with
          | none => rw [hk] at h2; cases h2
          | some k =>
            cases k <;> rw [hk] at h2 <;> try cases h2
            obtain ⟨a, ha, hkk⟩ := kindsMatch_get kinds params hm idx _ hk
            rw [if_pos (Nat.le_refl _), if_pos (Nat.sub_self _), ha]
            cases a <;> cases hkk
            exact ⟨_, foldConst_shifter ..⟩
    | .mk ty (.infer v), h => by
        rw [foldConst_infer_none rfl]; exact Except.exists_map_ok (foldTy_apply_ok cty kinds params hm outer ty h) _
    | .mk ty (.placeholder ui idx), h => by
        rw [foldConst_placeholder_none rfl]; exact Except.exists_map_ok (foldTy_apply_ok cty kinds params hm outer ty h) _
    | .mk ty (.concrete k), h => by
        rw [foldConst_concrete]; exact Except.exists_map_ok (foldTy_apply_ok cty kinds params hm outer ty h) _
  theorem foldGArg_apply_ok (cty : Nat → Ty) (kinds : List VarKind) (params : List GArg)
      (hm : kindsMatch kinds params = true) (outer : Nat) : (a : GArg) → a.scoped cty kinds outer = true →
      ∃ r, foldGArg (applyFolder params) outer a = .ok r
    | .ty t, h => by
        rw [foldGArg_ty]; exact Except.exists_map_ok (foldTy_apply_ok cty kinds params hm outer t h) _
    | .lt l, h => by
        rw [foldGArg_lt]; exact Except.exists_map_ok (foldLifetime_apply_ok kinds params hm outer l h) _
    | .ct c, h => by
        rw [foldGArg_ct]; exact Except.exists_map_ok (foldConst_apply_ok cty kinds params hm outer c h) _
  theorem foldArgs_apply_ok (cty : Nat → Ty) (kinds : List VarKind) (params : List GArg)
      (hm : kindsMatch kinds params = true) (outer : Nat) : (a : Args) → a.scoped cty kinds outer = true →
      ∃ r, foldArgs (applyFolder params) outer a = .ok r
    | .nil, _ => ⟨_, rfl⟩
    | .cons a as, h => by
        have ⟨h1, h2⟩ := Bool.and_eq_true_iff.mp h
        rw [foldArgs_cons]
        exact Except.exists_bind_ok (foldGArg_apply_ok cty kinds params hm outer a h1) fun _ =>
          Except.exists_map_ok (foldArgs_apply_ok cty kinds params hm outer as h2) _
  theorem foldWC_apply_ok (cty : Nat → Ty) (kinds : List VarKind) (params : List GArg)
      (hm : kindsMatch kinds params = true) (outer : Nat) : (w : WC) → w.scoped cty kinds outer = true →
      ∃ r, foldWC (applyFolder params) outer w = .ok r
    | .implemented tr args, h => by
        rw [foldWC_implemented]; exact Except.exists_map_ok (foldArgs_apply_ok cty kinds params hm outer args h) _
    | .aliasEqProj id args ty, h => by
        have ⟨h1, h2⟩ := Bool.and_eq_true_iff.mp h
        rw [foldWC_aliasEqProj]
        exact Except.exists_bind_ok (foldArgs_apply_ok cty kinds params hm outer args h1) fun _ =>
          Except.exists_map_ok (foldTy_apply_ok cty kinds params hm outer ty h2) _
    | .aliasEqOpaque id args ty, h => by
        have ⟨h1, h2⟩ := Bool.and_eq_true_iff.mp h
        rw [foldWC_aliasEqOpaque]
        exact Except.exists_bind_ok (foldArgs_apply_ok cty kinds params hm outer args h1) fun _ =>
          Except.exists_map_ok (foldTy_apply_ok cty kinds params hm outer ty h2) _
    | .ltOutlives a b, h => by
        have ⟨h1, h2⟩ := Bool.and_eq_true_iff.mp h
        rw [foldWC_ltOutlives]
        exact Except.exists_bind_ok (foldLifetime_apply_ok kinds params hm outer a h1) fun _ =>
          Except.exists_map_ok (foldLifetime_apply_ok kinds params hm outer b h2) _
    | .tyOutlives t l, h => by
        have ⟨h1, h2⟩ := Bool.and_eq_true_iff.mp h
        rw [foldWC_tyOutlives]
        exact Except.exists_bind_ok (foldTy_apply_ok cty kinds params hm outer t h1) fun _ =>
          Except.exists_map_ok (foldLifetime_apply_ok kinds params hm outer l h2) _
  theorem foldQWC_apply_ok (cty : Nat → Ty) (kinds : List VarKind) (params : List GArg)
      (hm : kindsMatch kinds params = true) (outer : Nat) : (q : QWC) → q.scoped cty kinds outer = true →
      ∃ r, foldQWC (applyFolder params) outer q = .ok r
    | .mk ks wc, h => by
        rw [foldQWC_mk]; exact Except.exists_map_ok (foldWC_apply_ok cty kinds params hm (outer+1) wc h) _
  theorem foldQWCs_apply_ok (cty : Nat → Ty) (kinds : List VarKind) (params : List GArg)
      (hm : kindsMatch kinds params = true) (outer : Nat) : (q : QWCs) → q.scoped cty kinds outer = true →
      ∃ r, foldQWCs (applyFolder params) outer q = .ok r
    | .nil, _ => ⟨_, rfl⟩
    | .cons q qs, h => by
        have ⟨h1, h2⟩ := Bool.and_eq_true_iff.mp h
        rw [foldQWCs_cons]
        exact Except.exists_bind_ok (foldQWC_apply_ok cty kinds params hm outer q h1) fun _ =>
          Except.exists_map_ok (foldQWCs_apply_ok cty kinds params hm outer qs h2) _
end

end Chalk
