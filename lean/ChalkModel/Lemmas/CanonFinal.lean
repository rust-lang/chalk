import ChalkModel.Lemmas.FinalLemmas
import ChalkModel.Lemmas.CanonLemmas
import ChalkModel.Lemmas.ListLemmas
import ChalkModel.Invert

/-!
  Consequences of "the value of a stateful fold is determined by its final state":
  * the canonical value is the input with every unbound variable replaced by the position of its
    root in the final `free_vars` (`numFolder`), bound variables by their numbered values;
  * the inverted value is the input with every type / lifetime placeholder replaced by the variable
    the final `inverted_*` maps assign to it (`invSubst`), plus the invariants of those maps.
-/
namespace Chalk

def pNotRecorded : Err := .panic "variable not in free_vars"
def pFreeVar : Err := .panic "unexpected free variable"

/-- the stateless substitution "replace `?x` by `^outer.(position of root(x) in fv)`", looking
    through bound variables like the canonicalizer (same budget discipline) -/
def numStep (t : Table) (fv : List (VarKind × Nat)) (inner : Option Folder) : Folder where
  freeVarTy := some fun _ _ _ => .error pFreeVar
  freeVarLt := some fun _ _ _ => .error pFreeVar
  freeVarConst := some fun _ _ _ _ => .error pFreeVar
  inferTy := some fun v _ o =>
    match t.probeVar v with
    | some g =>
      match inner with
      | none => .error pCyclic
      | some f =>
        match g with
        | .ty ty => (match foldTy f 0 ty with | .ok ty' => ty'.shiftedInFrom o | .error e => .error e)
        | _ => .error pUnwrapNone
    | none =>
      match posOf (t.find v) fv with
      | some i => .ok (.bound o i)
      | none => .error pNotRecorded
  inferLt := some fun v o =>
    match t.probeVar v with
    | some g =>
      match inner with
      | none => .error pCyclic
      | some f =>
        match g with
        | .lt l => (match foldLifetime f 0 l with | .ok l' => l'.shiftedInFrom o | .error e => .error e)
        | _ => .error pUnwrapNone
    | none =>
      match posOf (t.find v) fv with
      | some i => .ok (.bound o i)
      | none => .error pNotRecorded
  inferConst := some fun ty v o =>
    match t.probeVar v with
    | some g =>
      match inner with
      | none => .error pCyclic
      | some f =>
        match g with
        | .ct c => (match foldConst f 0 c with | .ok c' => c'.shiftedInFrom o | .error e => .error e)
        | _ => .error pUnwrapNone
    | none =>
      match posOf (t.find v) fv with
      | some i => .ok (.mk ty (.bound o i))
      | none => .error pNotRecorded
  phConst := some fun ty ui idx _ => .ok (.mk ty (.placeholder ui idx))

def numFolder (t : Table) (fv : List (VarKind × Nat)) : Nat → Folder
  | 0 => numStep t fv none
  | n + 1 => numStep t fv (some (numFolder t fv n))

def cLe (s s' : CState) : Prop := s.freeVars <+: s'.freeVars

theorem canonAdd_final (t : Table) (st st' : CState) (k : VarKind) (r i : Nat)
    (h : canonAdd t st k r = .ok (i, st')) :
    cLe st st' ∧ ∀ s'', cLe st' s'' → posOf r s''.freeVars = some i := by
  obtain ⟨u, _, rfl, rfl⟩ := canonAdd_eq_ok h
  exact ⟨prefix_addIfNew _ _, fun s'' hs => posOf_prefix r _ _ _ (posOf_addIfNew _ k r) hs⟩

def NumInner : Option (SFolder CState) → (CState → Option Folder) → Prop
  | none, g => ∀ s, g s = none
  | some f, g => ∃ g', (∀ s, g s = some (g' s)) ∧ FinalHandlers cLe g' f

theorem foldTy_infer_some {f : Folder} {h : Nat → TyVarKind → Nat → Res Ty} (hf : f.inferTy = some h)
    (o v : Nat) (k : TyVarKind) : foldTy f o (.infer v k) = h v k o := by
  rw [foldTy, hf]

theorem foldLifetime_infer_some {f : Folder} {h : Nat → Nat → Res Lifetime} (hf : f.inferLt = some h)
    (o v : Nat) : foldLifetime f o (.infer v) = h v o := by
  rw [foldLifetime, hf]

theorem foldConst_infer_some {f : Folder} {h : Ty → Nat → Nat → Res Const} (hf : f.inferConst = some h)
    (o : Nat) (ty : Ty) (v : Nat) : foldConst f o (.mk ty (.infer v)) = h ty v o := by
  rw [foldConst, hf]

theorem num_step (t : Table) (inner : Option (SFolder CState)) (gi : CState → Option Folder)
    (hin : NumInner inner gi) :
    FinalHandlers cLe (fun s => numStep t s.freeVars (gi s)) (canonStep t inner) := by
  refine
    { refl := fun s => List.prefix_refl _, trans := fun a b c h1 h2 => List.IsPrefix.trans h1 h2,
      freeVarTy := ?_, freeVarLt := ?_, freeVarConst := ?_, inferTy := ?_, inferLt := ?_, inferConst := ?_,
      phTy := ?_, phLt := ?_, phConstN := ?_, phConstF := ?_, noFreeVarFold := rfl, noInferFold := rfl }
  · intro db idx o s a s' h; cases h
  · intro db idx o s a s' h; cases h
  · intro ty db idx o s a s' h; cases h
  · intro v k o s a s' h
    rcases canonStep_inferTy_ok h with ⟨hp, i, st', hadd, he⟩ | ⟨ty, f, ty', st', hp, rfl, hf, he⟩ <;> cases he
    · obtain ⟨h1, h2⟩ := canonAdd_final t s _ _ _ i hadd
      exact ⟨h1, fun s'' hs => (foldTy_infer_some (f := numStep _ _ _) rfl o v k).trans (by simp only [hp, h2 s'' hs])⟩
    · obtain ⟨g', hg', IH⟩ := hin
      obtain ⟨h1, h2⟩ := sfoldTy_final IH 0 ty s ty' _ hf
      exact ⟨h1, fun s'' hs => (foldTy_infer_some (f := numStep _ _ _) rfl o v k).trans (by
        simp only [hp, hg', h2 s'' hs, Ty.shiftedInFrom, foldTy_shifter])⟩
  · intro v o s a s' h
    rcases canonStep_inferLt_ok h with ⟨hp, i, st', hadd, he⟩ | ⟨l, f, l', st', hp, rfl, hf, he⟩ <;> cases he
    · obtain ⟨h1, h2⟩ := canonAdd_final t s _ _ _ i hadd
      exact ⟨h1, fun s'' hs => (foldLifetime_infer_some (f := numStep _ _ _) rfl o v).trans (by simp only [hp, h2 s'' hs])⟩
    · obtain ⟨g', hg', IH⟩ := hin
      obtain ⟨h1, h2⟩ := sfoldLifetime_final IH 0 l s l' _ hf
      exact ⟨h1, fun s'' hs => (foldLifetime_infer_some (f := numStep _ _ _) rfl o v).trans (by
        simp only [hp, hg', h2 s'' hs, Lifetime.shiftedInFrom, foldLifetime_shifter])⟩
  · intro ty v o s a s' h
    rcases canonStep_inferConst_ok h with ⟨hp, i, st', hadd, he⟩ | ⟨c, f, c', st', hp, rfl, hf, he⟩ <;> cases he
    · obtain ⟨h1, h2⟩ := canonAdd_final t s _ _ _ i hadd
      exact ⟨h1, fun s'' hs => (foldConst_infer_some (f := numStep _ _ _) rfl o ty v).trans (by simp only [hp, h2 s'' hs])⟩
    · obtain ⟨g', hg', IH⟩ := hin
      obtain ⟨h1, h2⟩ := sfoldConst_final IH 0 c s c' _ hf
      exact ⟨h1, fun s'' hs => (foldConst_infer_some (f := numStep _ _ _) rfl o ty v).trans (by
        simp only [hp, hg', h2 s'' hs, Const.shiftedInFrom, foldConst_shifter])⟩
  · intro ui idx o s a s' h; cases h; exact ⟨List.prefix_refl _, fun s'' _ => rfl⟩
  · intro ui idx o s a s' h; cases h; exact ⟨List.prefix_refl _, fun s'' _ => rfl⟩
  · intro _ ty ui idx o s a s' h; cases h; exact ⟨List.prefix_refl _, fun s'' _ => rfl⟩
  · intro hflag; cases hflag

theorem num_handlers (t : Table) : (fuel : Nat) →
    FinalHandlers cLe (fun s => numFolder t s.freeVars fuel) (canonFolder t fuel)
  | 0 => num_step t none (fun _ => none) (fun _ => rfl)
  | n + 1 => num_step t (some (canonFolder t n)) (fun s => some (numFolder t s.freeVars n))
      ⟨fun s => numFolder t s.freeVars n, fun _ => rfl, num_handlers t n⟩

def pUnmapped : Err := .panic "placeholder not in the inverted map"

/-- the stateless substitution given by the `inverted_ty` / `inverted_lifetime` maps of a state -/
def invSubst (st : InvState) : Folder where
  freeVarTy := some fun _ _ _ => .error pFreeVar
  freeVarLt := some fun _ _ _ => .error pFreeVar
  freeVarConst := some fun _ _ _ _ => .error pFreeVar
  inferTy := some fun _ _ _ => .error pInvInfer
  inferLt := some fun _ _ => .error pInvInfer
  inferConst := some fun _ _ _ => .error pInvInfer
  phTy := some fun ui idx _ =>
    match invLookup (ui, idx) st.invertedTy with
    | some v => .ok (.infer v .general)
    | none => .error pUnmapped
  phLt := some fun ui idx _ =>
    match invLookup (ui, idx) st.invertedLt with
    | some v => .ok (.infer v)
    | none => .error pUnmapped

def invLe (s s' : InvState) : Prop := s.invertedTy <+: s'.invertedTy ∧ s.invertedLt <+: s'.invertedLt

theorem invLookup_append (p : Nat × Nat) : (l m : List ((Nat × Nat) × Nat)) → (v : Nat) →
    invLookup p l = some v → invLookup p (l ++ m) = some v
  | [], _, _, h => by simp [invLookup] at h
  | (q, w) :: l, m, v, h => by
    simp only [invLookup, List.cons_append] at h ⊢
    split
    · rename_i hq; simpa [hq] using h
    · rename_i hq; simp only [hq, if_false] at h; exact invLookup_append p l m v h

theorem invLookup_append_new (p : Nat × Nat) : (l : List ((Nat × Nat) × Nat)) → (v : Nat) →
    invLookup p l = none → invLookup p (l ++ [(p, v)]) = some v
  | [], v, _ => by simp [invLookup]
  | (q, w) :: l, v, h => by
    simp only [invLookup, List.cons_append] at h ⊢
    split
    · rename_i hq; simp [hq] at h
    · rename_i hq; simp only [hq, if_false] at h; exact invLookup_append_new p l v h

theorem invLookup_prefix (p : Nat × Nat) (l l' : List ((Nat × Nat) × Nat)) (v : Nat)
    (h : invLookup p l = some v) (hp : l <+: l') : invLookup p l' = some v := by
  obtain ⟨m, rfl⟩ := hp
  exact invLookup_append p l m v h

theorem inv_final : FinalHandlers invLe invSubst inverterFolder := by
  refine
    { refl := fun s => ⟨List.prefix_refl _, List.prefix_refl _⟩,
      trans := fun a b c h1 h2 => ⟨List.IsPrefix.trans h1.1 h2.1, List.IsPrefix.trans h1.2 h2.2⟩,
      freeVarTy := ?_, freeVarLt := ?_, freeVarConst := ?_, inferTy := ?_, inferLt := ?_, inferConst := ?_,
      phTy := ?_, phLt := ?_, phConstN := ?_, phConstF := ?_, noFreeVarFold := rfl, noInferFold := rfl }
  · intro db idx o s a s' h; cases h
  · intro db idx o s a s' h; cases h
  · intro ty db idx o s a s' h; cases h
  · intro v k o s a s' h; cases h
  · intro v o s a s' h; cases h
  · intro ty v o s a s' h; cases h
  · intro ui idx o s a s' h
    simp only [inverterFolder] at h
    split at h <;> cases h
    · rename_i v hl
      exact ⟨⟨List.prefix_refl _, List.prefix_refl _⟩,
        fun s'' hs => by simp only [foldTy, invSubst, invLookup_prefix _ _ _ _ hl hs.1]⟩
    · rename_i hl
      exact ⟨⟨List.prefix_append _ _, List.prefix_refl _⟩, fun s'' hs => by
        simp only [foldTy, invSubst, invLookup_prefix _ _ _ _ (invLookup_append_new _ _ _ hl) hs.1]⟩
  · intro ui idx o s a s' h
    simp only [inverterFolder] at h
    split at h <;> cases h
    · rename_i v hl
      exact ⟨⟨List.prefix_refl _, List.prefix_refl _⟩,
        fun s'' hs => by simp only [foldLifetime, invSubst, invLookup_prefix _ _ _ _ hl hs.2]⟩
    · rename_i hl
      exact ⟨⟨List.prefix_refl _, List.prefix_append _ _⟩, fun s'' hs => by
        simp only [foldLifetime, invSubst, invLookup_prefix _ _ _ _ (invLookup_append_new _ _ _ hl) hs.2]⟩
  · intro hflag; cases hflag
  · intro _ ty ty' ui idx o s a s' h
    cases h
    exact ⟨⟨List.prefix_refl _, List.prefix_refl _⟩, fun s'' _ hty =>
      (foldConst_placeholder_none rfl ..).trans (congrArg _ hty)⟩

theorem nodup_mid (l1 l2 : List Nat) (x : Nat) (h : (l1 ++ l2).Nodup) (hx : x ∉ l1 ++ l2) :
    (l1 ++ x :: l2).Nodup := by
  rw [List.nodup_append] at h ⊢
  obtain ⟨n1, n2, n3⟩ := h
  simp only [List.mem_append, not_or] at hx
  refine ⟨n1, List.nodup_cons.mpr ⟨hx.2, n2⟩, ?_⟩
  intro a ha b hb
  rcases List.mem_cons.mp hb with rfl | hb
  · exact fun he => hx.1 (he ▸ ha)
  · exact n3 a ha b hb

/-- every variable in the two maps was created after `t0`, exists in the current table, is its own
    root, unbound, in the universe of its placeholder; no variable is used twice (within or across
    the maps) -/
structure InvOk (t0 : Table) (st : InvState) : Prop where
  aligned : st.table.Aligned
  grows : t0.numVars ≤ st.table.numVars
  vars : ∀ p v, ((p, v) ∈ st.invertedTy ∨ (p, v) ∈ st.invertedLt) →
    t0.numVars ≤ v ∧ v < st.table.numVars ∧ st.table.parent.getD v v = v ∧
    st.table.value.getD v (.unbound 0) = .unbound p.1
  nodup : ((st.invertedTy ++ st.invertedLt).map (·.2)).Nodup

theorem InvOk.newVar (t0 : Table) (st : InvState) (h : InvOk t0 st) (ui : Nat) :
    (∀ p v, ((p, v) ∈ st.invertedTy ∨ (p, v) ∈ st.invertedLt) →
      t0.numVars ≤ v ∧ v < (st.table.newVariable ui).1.numVars ∧
      (st.table.newVariable ui).1.parent.getD v v = v ∧
      (st.table.newVariable ui).1.value.getD v (.unbound 0) = .unbound p.1) ∧
    (st.table.newVariable ui).1.parent.getD st.table.numVars st.table.numVars = st.table.numVars ∧
    (st.table.newVariable ui).1.value.getD st.table.numVars (.unbound 0) = .unbound ui := by
  have hal : st.table.value.length = st.table.parent.length := h.aligned
  refine ⟨?_, ?_, ?_⟩
  · intro p v hv
    obtain ⟨h1, h2, h3, h4⟩ := h.vars p v hv
    have h2' : v < st.table.parent.length := h2
    refine ⟨h1, by simp [Table.newVariable, Table.numVars]; omega, ?_, ?_⟩
    · simp only [Table.newVariable]; rw [getD_append_lt _ _ _ _ h2']; exact h3
    · simp only [Table.newVariable]; rw [getD_append_lt _ _ _ _ (by omega)]; exact h4
  · simp only [Table.newVariable, Table.numVars]; exact getD_append_len _ _ _
  · simp only [Table.newVariable, Table.numVars, ← hal]; exact getD_append_len _ _ _

/-- the invariant after a fresh variable for `(ui, idx)` has been put into one of the maps: `ity`,
    `ilt` are the new maps, `l1`, `l2` say where the new variable stands in their concatenation -/
theorem InvOk.insert {t0 : Table} {st : InvState} (hok : InvOk t0 st) (ui idx : Nat)
    (ity ilt : List ((Nat × Nat) × Nat)) (l1 l2 : List Nat)
    (hmem : ∀ q, q ∈ ity ∨ q ∈ ilt →
      (q ∈ st.invertedTy ∨ q ∈ st.invertedLt) ∨ q = ((ui, idx), st.table.numVars))
    (hcat : (ity ++ ilt).map (·.2) = l1 ++ st.table.numVars :: l2)
    (hold : l1 ++ l2 = (st.invertedTy ++ st.invertedLt).map (·.2)) :
    InvOk t0 { table := (st.table.newVariable ui).1, invertedTy := ity, invertedLt := ilt } := by
  obtain ⟨hvars, hp, hv⟩ := hok.newVar t0 st ui
  have hnum : (st.table.newVariable ui).1.numVars = st.table.numVars + 1 := by
    simp only [Table.newVariable, Table.numVars, List.length_append, List.length_cons, List.length_nil]
  refine ⟨Table.newVariable_aligned _ _ hok.aligned, by rw [hnum]; exact Nat.le_succ_of_le hok.grows, ?_, ?_⟩
  · intro p v hv'
    rcases hmem _ hv' with hv' | hv'
    · exact hvars p v hv'
    · cases hv'; exact ⟨hok.grows, by rw [hnum]; exact Nat.lt_succ_self _, hp, hv⟩
  · rw [hcat]
    refine nodup_mid _ _ _ (hold ▸ hok.nodup) ?_
    rw [hold]
    intro hx
    obtain ⟨⟨p, v⟩, hm, rfl⟩ := List.mem_map.mp hx
    exact Nat.lt_irrefl _ (hok.vars p _ (List.mem_append.mp hm)).2.1

/-- `InvOk t0` is an invariant of the `Inverter`'s handlers, put as a simulation of the folder with
    itself (relation: equal states, the first `InvOk`) so that `sfoldArgs_sim` carries it through the
    traversal. -/
theorem inv_invariant (t0 : Table) :
    SimHandlers True (fun s1 s2 : InvState => s1 = s2 ∧ InvOk t0 s1) inverterFolder inverterFolder := by
  refine
    { freeVarTy := ?_, freeVarLt := ?_, freeVarConst := ?_, inferTy := ?_, inferLt := ?_, inferConst := ?_,
      phTy := ?_, phLt := ?_, phConst := ?_, flagFreeVar := rfl, flagInfer := rfl, flagPh := rfl }
  · intro db idx o s1 s2 _ a s1' h; cases h
  · intro db idx o s1 s2 _ a s1' h; cases h
  · intro ty1 ty2 db idx o s1 s2 _ _ a s1' h; cases h
  · intro v k o s1 s2 _ a s1' h; cases h
  · intro v o s1 s2 _ a s1' h; cases h
  · intro ty1 ty2 v o s1 s2 _ _ a s1' h; cases h
  · rintro ui idx o s1 s2 ⟨rfl, hok⟩ a s1' h
    refine ⟨a, s1', h, fun _ => rfl, rfl, ?_⟩
    simp only [inverterFolder] at h
    split at h <;> cases h
    · exact hok
    · refine hok.insert ui idx _ _ (s1.invertedTy.map (·.2)) (s1.invertedLt.map (·.2)) (fun q hq => ?_) ?_
        (List.map_append ..).symm
      · simp only [List.mem_append, List.mem_singleton] at hq
        rcases hq with (hq | hq) | hq
        · exact .inl (.inl hq)
        · exact .inr hq
        · exact .inl (.inr hq)
      · simp only [List.map_append, List.map_cons, List.append_assoc, List.singleton_append]; rfl
  · rintro ui idx o s1 s2 ⟨rfl, hok⟩ a s1' h
    refine ⟨a, s1', h, fun _ => rfl, rfl, ?_⟩
    simp only [inverterFolder] at h
    split at h <;> cases h
    · exact hok
    · refine hok.insert ui idx _ _ ((s1.invertedTy ++ s1.invertedLt).map (·.2)) [] (fun q hq => ?_) ?_
        (List.append_nil _)
      · simp only [List.mem_append, List.mem_singleton] at hq
        rcases hq with hq | hq | hq
        · exact .inl (.inl hq)
        · exact .inl (.inr hq)
        · exact .inr hq
      · simp only [List.map_append, List.map_cons, List.map_nil, List.append_assoc]; rfl
  · rintro ty1 ty2 ui idx o s1 s2 hty ⟨rfl, hok⟩ a s1' h
    cases hty (.inl trivial)
    cases h
    exact ⟨_, _, rfl, fun _ => rfl, rfl, hok⟩

end Chalk
