import ChalkModel.Eval

namespace Chalk.Sem

theorem Verdict.or_eq_yes (a b : Verdict) : a.or b = .yes ↔ a = .yes ∨ b = .yes := by
  cases a <;> cases b <;> simp [Verdict.or]
theorem Verdict.or_eq_no (a b : Verdict) : a.or b = .no ↔ a = .no ∧ b = .no := by
  cases a <;> cases b <;> simp [Verdict.or]
theorem Verdict.and_eq_yes (a b : Verdict) : a.and b = .yes ↔ a = .yes ∧ b = .yes := by
  cases a <;> cases b <;> simp [Verdict.and]
theorem Verdict.and_eq_no (a b : Verdict) : a.and b = .no ↔ a = .no ∨ b = .no := by
  cases a <;> cases b <;> simp [Verdict.and]
theorem Verdict.neg_eq_yes (v : Verdict) : v.neg = .yes ↔ v = .no := by cases v <;> simp [Verdict.neg]
theorem Verdict.neg_eq_no (v : Verdict) : v.neg = .no ↔ v = .yes := by cases v <;> simp [Verdict.neg]

theorem foldr_or_yes {α} (f : α → Verdict) (l : List α) :
    l.foldr (fun c acc => (f c).or acc) .no = .yes ↔ ∃ c ∈ l, f c = .yes := by
  induction l with
  | nil => simp
  | cons c cs ih =>
    simp only [List.foldr_cons, Verdict.or_eq_yes, ih, List.mem_cons, or_and_right, exists_or, exists_eq_left]

theorem foldr_or_no {α} (f : α → Verdict) (l : List α) :
    l.foldr (fun c acc => (f c).or acc) .no = .no ↔ ∀ c ∈ l, f c = .no := by
  induction l with
  | nil => simp
  | cons c cs ih => simp only [List.foldr_cons, Verdict.or_eq_no, ih, List.forall_mem_cons]

theorem foldr_and_yes {α} (g : α → Verdict) (l : List α) :
    l.foldr (fun b acc => (g b).and acc) .yes = .yes ↔ ∀ b ∈ l, g b = .yes := by
  induction l with
  | nil => simp
  | cons c cs ih => simp only [List.foldr_cons, Verdict.and_eq_yes, ih, List.forall_mem_cons]

theorem foldr_and_no {α} (g : α → Verdict) (l : List α) :
    l.foldr (fun b acc => (g b).and acc) .yes = .no ↔ ∃ b ∈ l, g b = .no := by
  induction l with
  | nil => simp
  | cons c cs ih =>
    simp only [List.foldr_cons, Verdict.and_eq_no, ih, List.mem_cons, or_and_right, exists_or, exists_eq_left]

end Chalk.Sem
