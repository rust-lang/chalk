/-
  C22: the fuel measures are bounded by the number of printed tokens, so that above the level of
  types fuel is measured by printed length: a bound for a token list gives the bound for each
  of its segments by comparing lengths (`Nat.le_trans (by simp +arith only) h`).
-/
import ChalkModel.Lemmas.DisplayLemmas

namespace Chalk.Display.Parse
open Chalk.Display

theorem sepBy_length_ge (sep : List Tok) : ∀ (xs : List (List Tok)), (∀ x ∈ xs, 1 ≤ x.length) →
    xs.length ≤ (sepBy sep xs).length
  | [], _ => by simp [sepBy]
  | [x], h => by simpa [sepBy] using h x (by simp)
  | x :: y :: zs, h => by
      rw [sepBy_cons_cons]
      have h1 := sepBy_length_ge sep (y :: zs) (fun z hz => h z (by simp [hz]))
      have h2 := h x (by simp)
      simp only [List.length_append, List.length_cons] at *
      omega

theorem binderNamesFrom_length (s : St) : ∀ (ks : List VK) (i : Nat), (s.binderNamesFrom i ks).length = ks.length
  | [], _ => rfl
  | k :: ks, i => by rw [binderNamesFrom_cons]; simp [binderNamesFrom_length s ks (i + 1)]

theorem binderNamesFrom_pos (s : St) : ∀ (ks : List VK) (i : Nat), ∀ x ∈ s.binderNamesFrom i ks, 1 ≤ x.length
  | [], _, x, h => by simp [St.binderNamesFrom] at h
  | k :: ks, i, x, h => by
      rw [binderNamesFrom_cons] at h
      rcases List.mem_cons.1 h with rfl | h
      · cases k <;> simp [binderTok]
      · exact binderNamesFrom_pos s ks (i + 1) x h

theorem sepBy_binders_length (s : St) (ks : List VK) (i : Nat) :
    ks.length ≤ (sepBy comma (s.binderNamesFrom i ks)).length := by
  have := sepBy_length_ge comma (s.binderNamesFrom i ks) (binderNamesFrom_pos s ks i)
  rwa [binderNamesFrom_length] at this

theorem forallToks_length_ge (s : St) (ks : List VK) : ks.length ≤ (forallToks s ks).length := by
  cases ks with
  | nil => simp
  | cons k ks =>
      have := sepBy_binders_length s (k :: ks) 0
      simp only [forallToks, St.binderNames, List.isEmpty_cons, Bool.false_eq_true, if_false,
        List.length_cons, List.length_append] at *
      omega

theorem fnBinders_length_ge (s : St) (nb : Nat) : nb ≤ (sepBy comma (fnBinderNames s 0 nb)).length := by
  have := sepBy_binders_length s (List.replicate nb .lt) 0
  rwa [← fnBinderNames_eq, List.length_replicate] at this

theorem printLt_length (s : St) (l : Lt) : (printLt s l).length = 1 := by cases l <;> rfl
theorem printCt_length (s : St) (c : Ct) : (printCt s c).length = 1 := by cases c <;> rfl

theorem printArgs_le_tail (s : St) (as : Args) : (printArgs s as).length ≤ (printArgsTail s as).length := by
  cases as with
  | nil => simp [printArgs, printArgsTail]
  | cons a as => rw [printArgsTail_cons]; simp
theorem printTys_le_tail (s : St) (ts : Tys) : (printTys s ts).length ≤ (printTysTail s ts).length := by
  cases ts with
  | nil => simp [printTys, printTysTail]
  | cons a as => rw [printTysTail_cons]; simp
theorem printBounds_le_tail (s : St) (bs : Bounds) : (printBounds s bs).length ≤ (printBoundsTail s bs).length := by
  cases bs with
  | nil => simp [printBounds, printBoundsTail]
  | cons a as => rw [printBoundsTail_cons]; simp

theorem printArgs_le_angle (s : St) (as : Args) : (printArgs s as).length ≤ (printAngleArgs s as).length := by
  cases as with
  | nil => simp [printArgs, printAngleArgs]
  | cons a as => simp [printArgs, printAngleArgs]; omega
theorem printArgs_le_thenComma (s : St) (as : Args) : (printArgs s as).length ≤ (printArgsThenComma s as).length := by
  cases as with
  | nil => simp [printArgs, printArgsThenComma]
  | cons a as => simp [printArgs, printArgsThenComma]

mutual
  theorem szTy_le : (t : Ty) → ∀ (s : St), szTy t + 3 ≤ 8 * (printTy s t).length
    | .adt id args, s => by
        have := szArgs_le args s
        have := printArgs_le_angle s args
        simp only [szTy, printTy, List.length_cons]; omega
    | .scalar sc, s => by simp [szTy, printTy]
    | .tuple ts, s => by
        have := szTys_le ts s
        simp only [szTy, printTy, List.length_cons, List.length_append]; omega
    | .ref m l t, s => by
        have := szTy_le t s
        simp only [szTy, printTy, List.length_cons, List.length_append]; omega
    | .raw m t, s => by
        have := szTy_le t s
        simp only [szTy, printTy, List.length_cons]; omega
    | .slice t, s => by
        have := szTy_le t s
        simp only [szTy, printTy, List.length_cons, List.length_append]; omega
    | .array t c, s => by
        have := szTy_le t s
        simp only [szTy, printTy, List.length_cons, List.length_append]; omega
    | .fnPtr nb args ret, s => by
        have := szTys_le args (s.deeper none)
        have := szTy_le ret (s.deeper none)
        have := fnBinders_length_ge (s.deeper none) nb
        by_cases h : nb = 0
        · simp only [szTy, printTy, h, if_true, List.length_cons, List.length_append, List.length_nil]; omega
        · simp only [szTy, printTy, h, if_false, List.length_cons, List.length_append, List.length_nil]; omega
    | .proj tr assoc self targs aargs, s => by
        have := szTy_le self s
        have := szArgs_le targs s
        have := szArgs_le aargs s
        have := printArgs_le_angle s targs
        have := printArgs_le_angle s aargs
        simp only [szTy, printTy, List.length_cons, List.length_append]; omega
    | .dyn bs l, s => by
        have := szBounds_le bs (s.deeper none)
        simp only [szTy, printTy, List.length_cons, List.length_append]; omega
    | .never, s => by simp [szTy, printTy]
    | .str, s => by simp [szTy, printTy]
    | .bound d i, s => by simp [szTy, printTy]
  theorem szGArg_le : (a : GArg) → ∀ (s : St), szGArg a + 2 ≤ 8 * (printGArg s a).length
    | .ty t, s => by
        have := szTy_le t s
        simp only [szGArg, printGArg]; omega
    | .lt l, s => by simp [szGArg, printGArg, printLt_length]
    | .ct c, s => by simp [szGArg, printGArg, printCt_length]
  theorem szArgs_le : (as : Args) → ∀ (s : St), szArgs as ≤ 8 * (printArgs s as).length
    | .nil, s => by simp [szArgs]
    | .cons a as, s => by
        have := szGArg_le a s
        have := szArgs_le as s
        have := printArgs_le_tail s as
        simp only [szArgs, printArgs, List.length_append]; omega
  theorem szTys_le : (ts : Tys) → ∀ (s : St), szTys ts ≤ 8 * (printTys s ts).length
    | .nil, s => by simp [szTys]
    | .cons t ts, s => by
        have := szTy_le t s
        have := szTys_le ts s
        have := printTys_le_tail s ts
        simp only [szTys, printTys, List.length_append]; omega
  theorem szBound_le : (b : Bound) → ∀ (s : St), szBound b + 6 ≤ 8 * (printBound s b).length
    | .trait ks tr args, s => by
        have := szArgs_le args (s.deeper none)
        have := printArgs_le_angle (s.deeper none) args
        have := forallToks_length_ge (s.deeper none) ks
        simp only [szBound, printBound, List.length_cons, List.length_append]; omega
    | .aliasEq ks tr assoc targs aargs v, s => by
        have := szArgs_le targs (s.deeper none)
        have := szArgs_le aargs (s.deeper none)
        have := szTy_le v (s.deeper none)
        have := printArgs_le_angle (s.deeper none) aargs
        have := printArgs_le_thenComma (s.deeper none) targs
        have := forallToks_length_ge (s.deeper none) ks
        simp only [szBound, printBound, List.length_cons, List.length_append, List.length_nil]; omega
  theorem szBounds_le : (bs : Bounds) → ∀ (s : St), szBounds bs ≤ 8 * (printBounds s bs).length
    | .nil, s => by simp [szBounds]
    | .cons b bs, s => by
        have := szBound_le b s
        have := szBounds_le bs s
        have := printBounds_le_tail s bs
        simp only [szBounds, printBounds, List.length_append]; omega
end

theorem parseTy_print_len {p : PSt} (hp : Faithful p) {t : Ty} (hwf : wfTy p.env t = true) {fuel : Nat}
    (hsz : 8 * (printTy p.st t).length ≤ fuel) {rest : List Tok} (hrest : ∀ r, rest ≠ .kw "<" :: r) :
    parseTy fuel p (printTy p.st t ++ rest) = some (t, rest) :=
  parseTy_print hp hwf (Nat.le_trans (Nat.le_of_add_right_le (szTy_le t p.st)) hsz) hrest

theorem parseAngleArgs_print {p : PSt} (hp : Faithful p) {args : Args} (hwf : wfArgs p.env args = true) {fuel : Nat}
    (hsz : 8 * (printAngleArgs p.st args).length + 1 ≤ fuel) {rest : List Tok} (hrest : ∀ r, rest ≠ .kw "<" :: r) :
    parseAngleArgs fuel p (printAngleArgs p.st args ++ rest) = some (args, rest) := by
  obtain ⟨f, rfl⟩ := Nat.exists_eq_add_of_le' (Nat.le_trans (Nat.le_add_left 1 _) hsz)
  exact angleOK (argsOK args) hp hwf (Nat.le_trans (szArgs_le args p.st)
    (Nat.le_trans (Nat.mul_le_mul_left 8 (printArgs_le_angle p.st args)) (Nat.le_of_add_le_add_right hsz))) hrest

theorem parseBounds_print {p : PSt} (hp : Faithful p) {bs : Bounds} (hne : bs ≠ .nil) (hwf : wfBounds p.env bs = true)
    {fuel : Nat} (hsz : 8 * (printBounds p.st bs).length ≤ fuel) {rest : List Tok}
    (h1 : ∀ r, rest ≠ .kw "<" :: r) (h2 : ∀ r, rest = .kw "+" :: r → isLtStart r = true) :
    parseBounds fuel p (printBounds p.st bs ++ rest) = some (bs, rest) :=
  parseBounds_of_all bs (boundsOK bs) p fuel rest hp hne hwf (Nat.le_trans (szBounds_le bs p.st) hsz) h1 h2

theorem parseTyTop_print {p : PSt} (hp : Faithful p) {t : Ty} (hwf : wfTy p.env t = true) :
    parseTyTop p (printTy p.st t) = some t := by
  have := parseTy_print_len hp hwf (fuel := fuelFor (printTy p.st t)) (Nat.le_add_right _ 16)
    (rest := []) (fun _ h => nomatch h)
  rw [List.append_nil] at this
  simp only [parseTyTop, this]

end Chalk.Display.Parse
