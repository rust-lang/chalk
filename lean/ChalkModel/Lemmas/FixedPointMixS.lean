/-
  FixedPointMixS.lean — a stratified truth predicate exists for EVERY instance: the alternating fixed point
  `ν X. μ Y. T(coinductive goals from X, inductive goals from Y)` (`strat_stratP`).  Without a stratification it
  need not be the only one; with one it is (`C05mixed.stratified_truth_unique`).
-/
import ChalkModel.Lemmas.FixedPointMix

namespace Chalk.FixedPoint.Mix
open Chalk.FixedPoint.Cyc (JE JA)

/-- `μ Y. T(X on coinductive sub-goals, Y on inductive sub-goals)` -/
inductive GI (inst : Instance) (X : Nat → Prop) : Nat → Prop where
  | intro (k : Nat) (alt : List Nat) : alt ∈ inst.deps k →
      (∀ j, j ∈ alt → inst.coind j = true → X j) →
      (∀ j, j ∈ alt → inst.coind j = false → GI inst X j) → GI inst X k

/-- `ν X. GI X`: the canonical stratified truth -/
def StratP (inst : Instance) (k : Nat) : Prop :=
  ∃ X : Nat → Prop, (∀ x, X x → GI inst X x) ∧ X k

theorem GI.mono {inst : Instance} {X Y : Nat → Prop} (h : ∀ j, X j → Y j) {k : Nat} (hk : GI inst X k) :
    GI inst Y k := by
  induction hk with
  | intro k alt ha h1 _ ih => exact GI.intro k alt ha (fun j hj hc => h j (h1 j hj hc)) ih

theorem StratP.unfold {inst : Instance} {k : Nat} (h : StratP inst k) : GI inst (StratP inst) k := by
  obtain ⟨X, hX, hk⟩ := h
  exact (hX k hk).mono (fun j hj => ⟨X, hX, hj⟩)

theorem StratP.fold {inst : Instance} {k : Nat} (h : GI inst (StratP inst) k) : StratP inst k :=
  ⟨GI inst (StratP inst), fun _ hx => hx.mono (fun _ hj => hj.unfold), h⟩

theorem strat_stratP (inst : Instance) : Strat inst (StratP inst) := by
  refine ⟨fun k => ⟨?_, ?_⟩, ?_, ?_⟩
  · intro h
    cases h.unfold with
    | intro _ alt ha h1 h2 =>
      refine ⟨alt, ha, fun j hj => ?_⟩
      cases hc : inst.coind j with
      | true => exact h1 j hj hc
      | false => exact StratP.fold (h2 j hj hc)
  · rintro ⟨alt, ha, hall⟩
    exact StratP.fold (GI.intro k alt ha (fun j hj _ => hall j hj) (fun j hj _ => (hall j hj).unfold))
  · intro S hS k hk
    refine ⟨fun x => S x ∨ StratP inst x, ?_, Or.inl hk⟩
    intro x hx
    cases hx with
    | inr h => exact h.unfold.mono (fun j hj => Or.inr hj)
    | inl h =>
      obtain ⟨_, alt, ha, hall⟩ := hS x h
      refine GI.intro x alt ha (fun j hj _ => hall j hj) (fun j hj hc => ?_)
      cases hall j hj with
      | inl hs =>
        have := (hS j hs).1
        rw [hc] at this
        cases this
      | inr hp => exact hp.unfold.mono (fun j' hj' => Or.inr hj')
  · intro N hN
    have key : ∀ k, GI inst (StratP inst) k → ¬ N k := by
      intro k hk
      induction hk with
      | intro k alt ha h1 h2 ih =>
        intro hn
        obtain ⟨j, hj, hcase⟩ := (hN k hn).2 alt ha
        cases hc : inst.coind j with
        | true =>
          cases hcase with
          | inl hnj =>
            have := (hN j hnj).1
            rw [hc] at this
            cases this
          | inr hnp => exact hnp (h1 j hj hc)
        | false =>
          cases hcase with
          | inl hnj => exact ih j hj hc hnj
          | inr hnp => exact hnp (StratP.fold (h2 j hj hc))
    intro k hk hp
    exact key k hp.unfold hk

end Chalk.FixedPoint.Mix
