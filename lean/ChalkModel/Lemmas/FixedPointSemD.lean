/-
  FixedPointSemD.lean — one polarity, the loop of `solve_new_subgoal`: the state at the head of a round (`LoopSt`),
  the situation after its iteration (`After`: `s0` before the push, `st` at the head of the round, `s1` after the
  iteration; `old` / `cur` the provisional answer of the goal before / after, `new` the nodes behind its node).
-/
import ChalkModel.Lemmas.FixedPointSemB

namespace Chalk.FixedPoint.Cyc

section
variable {c : Bool} {inst : Instance} {dom : List Nat} {fx : Bool}

/-- `s` is the state at the start of an iteration of the loop for the new goal `g`, which was
    pushed on the state `s0` -/
structure LoopSt (c : Bool) (inst : Instance) (dom : List Nat) (fx : Bool) (s0 : St) (g : Nat) (s : St) : Prop
    extends LoopFrame s0 g s where
  i0 : Inv c inst dom fx s0
  u0 : Undef s0 g
  gdom : g ∈ dom
  inv : Inv c inst dom fx s
  low : ∀ k, Undef s0 k → Def s k (bot c) → ¬ InG c inst s0 k

theorem LoopSt.inG {s0 s : St} {g : Nat} (L : LoopSt c inst dom fx s0 g s) {k : Nat} (h : InG c inst s0 k) :
    InG c inst s k :=
  InG.mono L.inv L.ext L.low h

theorem IterFact.not_tgt {s s' : St} {m : Min} {g : Nat} {v : V} (h : IterFact c inst s s' m g v)
    (hv : v = bot c) : ¬ Tgt c inst g := by
  rcases h with h | h | h
  · rw [hv] at h; exact absurd h.1.symm (top_ne_bot c)
  · intro ht
    exact J.dual (J.mono (fun j hj => hj.1) h.2) ht.unfold
  · rw [hv] at h; exact absurd h.1 (bot_ne_ambig c)

theorem IterFact.val {s s' : St} {m : Min} {g : Nat} {v : V} (h : IterFact c inst s s' m g v) :
    v = top c ∨ v = bot c ∨ v = .ambig := by
  rcases h with h | h | h
  · exact Or.inl h.1
  · exact Or.inr (Or.inl h.1)
  · exact Or.inr (Or.inr h.1)

theorem IterFact.ambig {s s' : St} {m : Min} {g : Nat} (h : IterFact c inst s s' m g .ambig) :
    s'.interrupted = true := by
  rcases h with h | h | h
  · exact absurd h.1.symm (top_ne_ambig c)
  · exact absurd h.1.symm (bot_ne_ambig c)
  · exact h.2

/-- the relative lower bound, from the state before the push: entries that are new since `s0` and
    pessimistic are outside the fixed point relative to `s0` -/
theorem loop_low {s0 st s1 : St} {g : Nat} {m : Min} {cur : V} (L : LoopSt c inst dom fx s0 g st)
    (i1 : Inv c inst dom fx s1) (hs : Step c inst st s1 m) (hf : IterFact c inst st s1 m g cur) :
    ∀ k, Undef s0 k → (Def s1 k (bot c) ∨ (k = g ∧ cur = bot c)) → ¬ InG c inst s0 k := by
  intro k hu hk hin
  cases hk with
  | inl hd =>
    cases def_or_undef st k with
    | inl hdt =>
      obtain ⟨v, hv⟩ := hdt
      have : v = bot c := i1.defFun (hs.ext k v hv) hd
      rw [this] at hv
      exact L.low k hu hv hin
    | inr hut => exact hs.low k hut hd (L.inG hin)
  | inr hk =>
    obtain ⟨hkg, hcur⟩ := hk
    subst hkg
    rcases hf with h | h | h
    · rw [hcur] at h; exact absurd h.1.symm (top_ne_bot c)
    · cases hin.unfold with
      | inl hd => exact hd.elim (hu _) (hu _)
      | inr hj =>
        exact J.dual (J.mono (fun j hj => hj.2) h.2) (J.mono (fun j hj => L.inG hj) hj.2)
    · rw [hcur] at h; exact absurd h.1 (bot_ne_ambig c)

theorem Wit.from0 {s0 sX : St} {lb : Min} {j : Nat} (h : Wit c inst s0 lb j)
    (hg : ∃ r, sX.graph = s0.graph ++ r) (hfl : ∀ d, flagAt s0.stack d → flagAt sX.stack d) :
    Wit c inst sX lb j := by
  cases h with
  | inl h => exact Or.inl h
  | inr h =>
    obtain ⟨i, n, hn, hgo, hv, hl, hf⟩ := h
    obtain ⟨r, hr⟩ := hg
    exact Or.inr ⟨i, n, by rw [hr]; exact getElem?_prefix hn, hgo, hv, hl, fun d hd => hfl d (hf d hd)⟩

/-- the situation after one completed iteration of the loop -/
structure After (c : Bool) (inst : Instance) (dom : List Nat) (fx : Bool) (s0 st s1 : St) (g : Nat) (old cur : V)
    (m : Min) (new : List Node) : Prop where
  L : LoopSt c inst dom fx s0 g st
  i1 : Inv c inst dom fx s1
  step : Step c inst st s1 m
  fact : IterFact c inst st s1 m g cur
  gt : st.graph = s0.graph ++ [headNode s0 g old]
  g1 : s1.graph = s0.graph ++ headNode s0 g old :: new
  hnew : ∀ n : Node, n ∈ new → n.stackDepth = none ∧ MinLe m n.links

theorem After.intro {s0 st s1 : St} {g : Nat} {m : Min} {cur : V} (L : LoopSt c inst dom fx s0 g st)
    (i1 : Inv c inst dom fx s1) (hs : Step c inst st s1 m) (hf : IterFact c inst st s1 m g cur) :
    ∃ old new, After c inst dom fx s0 st s1 g old cur m new := by
  obtain ⟨old, hold⟩ := L.graph
  obtain ⟨new, hnew, hn⟩ := hs.graph
  refine ⟨old, new, L, i1, hs, hf, hold, ?_, hn⟩
  rw [hnew, hold, List.append_assoc]
  rfl

section AfterLemmas
variable {s0 st s1 : St} {g : Nat} {old cur : V} {m : Min} {new : List Node}

theorem After.slen (A : After c inst dom fx s0 st s1 g old cur m new) : s1.stack.length = s0.stack.length + 1 :=
  A.L.slen1 A.step.toFrame

theorem After.sext (A : After c inst dom fx s0 st s1 g old cur m new) : StackLe s0.stack s1.stack :=
  A.L.sext1 A.step.toFrame

theorem After.cacheExt (A : After c inst dom fx s0 st s1 g old cur m new) :
    ∀ k v, InCache s0 k v → InCache s1 k v :=
  A.L.cacheExt1 A.step.toFrame

theorem After.popExt (A : After c inst dom fx s0 st s1 g old cur m new) {s5 : St} (P : Popped s0 s1 s5) :
    StackExt s0.stack s5.stack :=
  A.L.popExt A.step.toFrame P

theorem After.g0 (A : After c inst dom fx s0 st s1 g old cur m new) {i : Nat} {n : Node}
    (h : s0.graph[i]? = some n) : s1.graph[i]? = some n := by
  rw [A.g1]; exact getElem?_prefix h

theorem After.head (A : After c inst dom fx s0 st s1 g old cur m new) :
    s1.graph[s0.graph.length]? = some (headNode s0 g old) := by
  rw [A.g1]; exact mid_at _ _ _

theorem After.st_node (A : After c inst dom fx s0 st s1 g old cur m new) {i : Nat} {n : Node}
    (h : st.graph[i]? = some n) : i ≤ s0.graph.length ∧ s1.graph[i]? = some n := by
  rw [A.gt] at h; rw [A.g1]; exact single_mid h

theorem After.new_index (A : After c inst dom fx s0 st s1 g old cur m new) {n : Node} (hn : n ∈ new) :
    ∃ i, s0.graph.length < i ∧ s1.graph[i]? = some n := by
  rw [A.g1]; exact mid_mem_index hn

theorem After.drained_index (A : After c inst dom fx s0 st s1 g old cur m new) {n : Node}
    (hn : n ∈ drained g cur m new) :
    ∃ i n', s0.graph.length ≤ i ∧ s1.graph[i]? = some n' ∧ n'.goal = n.goal := by
  rw [A.g1]; exact Cyc.drained_index rfl hn

theorem After.node1 (A : After c inst dom fx s0 st s1 g old cur m new) {h5 : Node} {i : Nat} {n : Node}
    (hn : (s0.graph ++ h5 :: new)[i]? = some n) :
    ∃ n', s1.graph[i]? = some n' ∧
      ((i = s0.graph.length ∧ n = h5 ∧ n' = headNode s0 g old) ∨ (i ≠ s0.graph.length ∧ n' = n)) := by
  rw [A.g1]; exact mid_corr s0.graph h5 (headNode s0 g old) new i n hn

theorem After.cur_val (A : After c inst dom fx s0 st s1 g old cur m new) :
    cur = top c ∨ cur = bot c ∨ cur = .ambig :=
  A.fact.val

theorem After.amb (A : After c inst dom fx s0 st s1 g old cur m new) (h : cur = .ambig) :
    s1.interrupted = true := by
  have hf := A.fact
  rw [h] at hf
  exact hf.ambig

theorem After.wit (A : After c inst dom fx s0 st s1 g old cur m new) {s5 : St} (P : Popped s0 s1 s5)
    {h5 : Node} (hg5 : s5.graph = s0.graph ++ h5 :: new) (hgo : h5.goal = g) (hsd : h5.stackDepth = none)
    (hv : flagAt s1.stack s0.stack.length → old = top c → h5.solution = top c)
    {lb : Min} {j : Nat} (h : Wit c inst s1 lb j) : Wit c inst s5 lb j := by
  cases h with
  | inl h => exact Or.inl h
  | inr h =>
    obtain ⟨i, n, hn, hgn, hvn, hl, hf⟩ := h
    rw [A.g1] at hn
    obtain ⟨n', hn', hc⟩ := mid_corr s0.graph (headNode s0 g old) h5 new i n hn
    rw [← hg5] at hn'
    cases hc with
    | inl hc =>
      obtain ⟨_, e2, e3⟩ := hc
      subst e2; subst e3
      refine Or.inr ⟨i, _, hn', hgo.trans hgn, ?_, hl, fun d hd => ?_⟩
      · exact hv (hf _ rfl) hvn
      · rw [hsd] at hd; cases hd
    | inr hc =>
      obtain ⟨hne, e⟩ := hc
      subst e
      refine Or.inr ⟨i, _, hn', hgn, hvn, hl, fun d hd => ?_⟩
      rcases mid_cases _ _ _ i _ hn with h1 | h1 | h1
      · have := (A.L.i0.stk i _ d h1.2 hd).1
        exact P.flag this (hf d hd)
      · exact absurd h1.1 hne
      · rw [(A.hnew _ h1.2.1).1] at hd; cases hd

end AfterLemmas

end

end Chalk.FixedPoint.Cyc
