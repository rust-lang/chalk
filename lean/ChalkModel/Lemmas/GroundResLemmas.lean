import ChalkModel.GroundRes
import ChalkModel.Lemmas.VerdictLemmas

-- `[DecidableEq α]` is what `solve` needs; the lemmas about `Derivable` and `DerH` alone carry it unused
set_option linter.unusedSectionVars false

namespace Chalk.GroundRes
open Chalk.Sem

variable {α : Type} [DecidableEq α]

theorem derivable_iff (cf : α → List (List α)) (a : α) :
    Derivable cf a ↔ ∃ body ∈ cf a, ∀ b ∈ body, Derivable cf b := by
  constructor
  · intro h
    cases h with
    | step hb hall => exact ⟨_, hb, hall⟩
  · rintro ⟨body, hb, hall⟩
    exact .step hb hall

theorem solve_succ (cf : α → List (List α)) (fuel : Nat) (S : List α) (a : α) :
    solve cf (fuel + 1) S a =
      if a ∈ S then .no
      else (cf a).foldr (fun body acc =>
        (body.foldr (fun b acc' => (solve cf fuel (a :: S) b).and acc') .yes).or acc) .no := rfl

theorem solve_yes (cf : α → List (List α)) : (fuel : Nat) → (S : List α) → (a : α) →
    solve cf fuel S a = .yes → Derivable cf a
  | 0, _, _, h => by simp [solve] at h
  | fuel + 1, S, a, h => by
      rw [solve_succ] at h
      split at h
      · cases h
      · obtain ⟨body, hb, hy⟩ := (foldr_or_yes _ _).mp h
        have := (foldr_and_yes _ _).mp hy
        exact .step hb (fun b hbb => solve_yes cf fuel (a :: S) b (this b hbb))

/-- derivations of height at most `n` in which no atom of `S` is derived -/
def DerH (cf : α → List (List α)) : Nat → List α → α → Prop
  | 0, _, _ => False
  | n + 1, S, a => a ∉ S ∧ ∃ body ∈ cf a, ∀ b ∈ body, DerH cf n S b

theorem DerH.mono (cf : α → List (List α)) : (n : Nat) → (S : List α) → (a : α) →
    DerH cf n S a → DerH cf (n + 1) S a
  | 0, _, _, h => by simp [DerH] at h
  | n + 1, S, a, h => by
      obtain ⟨hs, body, hb, hall⟩ := h
      exact ⟨hs, body, hb, fun b hbb => DerH.mono cf n S b (hall b hbb)⟩

theorem DerH.mono_le (cf : α → List (List α)) {n m : Nat} (h : n ≤ m) (S : List α) (a : α)
    (hd : DerH cf n S a) : DerH cf m S a := by
  induction h with
  | refl => exact hd
  | step _ ih => exact DerH.mono cf _ S a ih

theorem DerH.avoid_or (cf : α → List (List α)) (x : α) : (n : Nat) → (S : List α) → (b : α) →
    DerH cf n S b → DerH cf n (x :: S) b ∨ DerH cf n S x
  | 0, _, _, h => by simp [DerH] at h
  | n + 1, S, b, h => by
      by_cases hx : DerH cf n S x
      · exact Or.inr (DerH.mono cf n S x hx)
      by_cases hbx : b = x
      · exact Or.inr (hbx ▸ h)
      · obtain ⟨hs, body, hb, hall⟩ := h
        exact Or.inl ⟨by simp [hbx, hs], body, hb,
          fun c hc => (DerH.avoid_or cf x n S c (hall c hc)).resolve_right hx⟩

theorem DerH.root_fresh (cf : α → List (List α)) : (n : Nat) → (S : List α) → (a : α) →
    DerH cf n S a → a ∉ S ∧ ∃ k, ∃ body ∈ cf a, ∀ b ∈ body, DerH cf k (a :: S) b
  | 0, _, _, h => by simp [DerH] at h
  | n + 1, S, a, ⟨hs, body, hb, hall⟩ => by
      by_cases ha : DerH cf n S a
      · exact DerH.root_fresh cf n S a ha
      · exact ⟨hs, n, body, hb, fun c hc => (DerH.avoid_or cf a n S c (hall c hc)).resolve_right ha⟩

theorem solve_no_aux (cf : α → List (List α)) : (fuel : Nat) → (S : List α) → (a : α) →
    solve cf fuel S a = .no → ∀ n, ¬ DerH cf n S a
  | 0, _, _, h => by simp [solve] at h
  | fuel + 1, S, a, h => by
      intro n hd
      obtain ⟨hs, k, body, hb, hall⟩ := DerH.root_fresh cf n S a hd
      rw [solve_succ] at h
      simp only [hs, if_false] at h
      have hno := (foldr_or_no _ _).mp h body hb
      obtain ⟨b, hbb, hbn⟩ := (foldr_and_no _ _).mp hno
      exact solve_no_aux cf fuel (a :: S) b hbn k (hall b hbb)

theorem derH_of_list (cf : α → List (List α)) (S : List α) : (body : List α) →
    (∀ b ∈ body, ∃ n, DerH cf n S b) → ∃ N, ∀ b ∈ body, DerH cf N S b
  | [], _ => ⟨0, by simp⟩
  | b :: bs, h => by
      obtain ⟨n, hn⟩ := h b (by simp)
      obtain ⟨N, hN⟩ := derH_of_list cf S bs (fun c hc => h c (by simp [hc]))
      refine ⟨max n N, ?_⟩
      intro c hc
      simp only [List.mem_cons] at hc
      rcases hc with rfl | hc
      · exact DerH.mono_le cf (Nat.le_max_left _ _) S _ hn
      · exact DerH.mono_le cf (Nat.le_max_right _ _) S _ (hN c hc)

theorem derH_of_derivable (cf : α → List (List α)) {a : α} (h : Derivable cf a) : ∃ n, DerH cf n [] a := by
  induction h with
  | step hb _ ih =>
      obtain ⟨N, hN⟩ := derH_of_list cf [] _ ih
      exact ⟨N + 1, by simp, _, hb, hN⟩

theorem solve_no (cf : α → List (List α)) (fuel : Nat) (a : α) (h : solve cf fuel [] a = .no) :
    ¬ Derivable cf a := by
  intro hd
  obtain ⟨n, hn⟩ := derH_of_derivable cf hd
  exact solve_no_aux cf fuel [] a h n hn

end Chalk.GroundRes
