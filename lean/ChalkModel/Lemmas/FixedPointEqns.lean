/-
  FixedPointEqns.lean — the tick of the work counter and the `should_continue` callback as the proofs about cyclic
  instances use them (the branch equations of `solve_goal` are in `FixedPointLemmas.lean`).  Namespace `Cyc`; no polarity.
-/
import ChalkModel.Lemmas.FixedPointBook
import ChalkModel.Lemmas.FixedPointHistory

namespace Chalk.FixedPoint.Cyc

theorem tick_sat {Ok : Nat → V → Prop} (cfg : Cfg) {s : St} (hc : CacheAll Ok s) :
    (tick cfg s).sat (fun _ s0 => s0 = { s with work := s.work + 1 }) (BudgetPanic Ok cfg) := by
  cases ht : tick cfg s with
  | ok u s0 => exact tick_ok cfg s s0 ht
  | panic site s0 =>
    obtain ⟨hsite, hbud⟩ := tick_panic_budget cfg s s0 site ht
    refine ⟨hsite, hbud, ?_⟩
    rw [tick_panic cfg s s0 site ht]
    exact hc

section
variable {cfg : Cfg}

theorem tick_none (h : cfg.budget = none) (s : St) : tick cfg s = .ok () { s with work := s.work + 1 } := by
  unfold tick
  rw [h]

end

theorem shouldContinue_quiet {s : St} (h : s.oracle = [] ∧ s.oracleDefault = true ∧ s.interrupted = false) :
    shouldContinue s = (true, s) := by
  unfold shouldContinue
  rw [h.1, h.2.1]

theorem shouldContinue_cases (s : St) : ∃ b o, shouldContinue s = (b, { s with oracle := o }) ∧
    (QuietSt s → b = true ∧ o = []) := by
  obtain ⟨st, gr, ca, orc, od, w, intr⟩ := s
  cases orc with
  | nil => exact ⟨od, [], rfl, fun q => ⟨q.2, rfl⟩⟩
  | cons b rest => exact ⟨b, rest, rfl, fun q => by cases q.1⟩

theorem inCache_iff_lookup (s : St) (g : Nat) (v : V) : InCache s g v ↔ cacheLookup s g = some v := by
  unfold InCache cacheLookup
  cases s.cache with
  | none => simp
  | some cc => simp

end Chalk.FixedPoint.Cyc
