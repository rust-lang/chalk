import ChalkModel.Canon

/-! Facts about the inference-table model needed for the canonicalization theorems:
    fresh variables created by `fresh_subst` are their own roots, unbound, in the binder's universe. -/
namespace Chalk

/-- the per-variable lists of a table have one entry per variable (true of `Table.new` and kept by
    every operation of `Infer.lean`) -/
def Table.Aligned (t : Table) : Prop := t.value.length = t.parent.length

theorem Table.new_aligned : Table.new.Aligned := rfl

theorem Table.newVariable_aligned (t : Table) (ui : Nat) (h : t.Aligned) : (t.newVariable ui).1.Aligned := by
  simp [Table.newVariable, Table.Aligned] at *; omega

theorem Table.find_self (t : Table) (v : Nat) (h : t.parent.getD v v = v) : t.find v = v := by
  unfold Table.find
  cases t.parent.length with
  | zero => rfl
  | succ n =>
    simp [Table.findFuel]
    intro h'
    exact absurd (by simpa [List.getD] using h) h'

/-- the arguments `fresh_subst` returns when the table has `n` variables -/
def freshArgs : Nat → List (VarKind × Nat) → List GArg
  | _, [] => []
  | n, (k, _) :: bs => k.toInferArg n :: freshArgs (n + 1) bs

/-- the `free_vars` the canonicalizer records for them -/
def freshVars : Nat → List (VarKind × Nat) → List (VarKind × Nat)
  | _, [] => []
  | n, (k, _) :: bs => (k, n) :: freshVars (n + 1) bs

theorem freshSubst_spec : (bs : List (VarKind × Nat)) → (t : Table) →
    (t.freshSubst bs).1.parent = t.parent ++ List.range' t.parent.length bs.length ∧
    (t.freshSubst bs).1.value = t.value ++ bs.map (fun b => InferValue.unbound b.2) ∧
    (t.freshSubst bs).2 = freshArgs t.parent.length bs
  | [], t => by simp [Table.freshSubst, freshArgs]
  | (k, u) :: bs, t => by
    have ih := freshSubst_spec bs (t.newVariable u).1
    simp only [Table.freshSubst, freshArgs]
    obtain ⟨h1, h2, h3⟩ := ih
    refine ⟨?_, ?_, ?_⟩
    · rw [h1]; simp [Table.newVariable, List.range'_succ]
    · rw [h2]; simp [Table.newVariable]
    · rw [h3]; simp [Table.newVariable]

theorem freshArgs_get : (bs : List (VarKind × Nat)) → (n i : Nat) → (k : VarKind) → (u : Nat) →
    bs[i]? = some (k, u) → (freshArgs n bs)[i]? = some (k.toInferArg (n + i))
  | [], _, i, _, _, h => by simp at h
  | (k0, u0) :: bs, n, 0, k, u, h => by simp at h; simp [freshArgs, h.1]
  | (k0, u0) :: bs, n, i + 1, k, u, h => by
    simp at h
    have := freshArgs_get bs (n + 1) i k u h
    have e : n + 1 + i = n + (i + 1) := by omega
    rw [e] at this
    simp [freshArgs, this]

theorem freshArgs_length : (bs : List (VarKind × Nat)) → (n : Nat) → (freshArgs n bs).length = bs.length
  | [], _ => rfl
  | (_, _) :: bs, n => by simp [freshArgs, freshArgs_length bs (n + 1)]

theorem freshVars_get : (bs : List (VarKind × Nat)) → (n i : Nat) → (k : VarKind) → (u : Nat) →
    bs[i]? = some (k, u) → (freshVars n bs)[i]? = some (k, n + i)
  | [], _, i, _, _, h => by simp at h
  | (k0, u0) :: bs, n, 0, k, u, h => by simp at h; simp [freshVars, h.1]
  | (k0, u0) :: bs, n, i + 1, k, u, h => by
    simp at h
    have := freshVars_get bs (n + 1) i k u h
    have e : n + 1 + i = n + (i + 1) := by omega
    rw [e] at this
    simp [freshVars, this]

theorem freshVars_length : (bs : List (VarKind × Nat)) → (n : Nat) → (freshVars n bs).length = bs.length
  | [], _ => rfl
  | (_, _) :: bs, n => by simp [freshVars, freshVars_length bs (n + 1)]

theorem freshSubst_var (t : Table) (ht : t.Aligned) (bs : List (VarKind × Nat)) (i : Nat) (k : VarKind) (u : Nat)
    (hi : bs[i]? = some (k, u)) :
    (t.freshSubst bs).1.find (t.numVars + i) = t.numVars + i ∧
    (t.freshSubst bs).1.probeVar (t.numVars + i) = none ∧
    (t.freshSubst bs).1.universeOfUnbound (t.numVars + i) = .ok u := by
  obtain ⟨h1, h2, _⟩ := freshSubst_spec bs t
  have hlt : i < bs.length := by
    have := (List.getElem?_eq_some_iff.mp hi).1; exact this
  have hfind : (t.freshSubst bs).1.find (t.numVars + i) = t.numVars + i := by
    apply Table.find_self
    rw [h1]
    simp [Table.numVars, List.getD, List.getElem?_append_right, List.getElem?_range', hlt]
  have hval : (t.freshSubst bs).1.probeValue (t.numVars + i) = .unbound u := by
    unfold Table.probeValue
    rw [hfind, h2]
    have : t.numVars = t.value.length := by simp [Table.numVars, ht.symm]
    rw [this]
    simp [List.getD, List.getElem?_append_right, hi]
  refine ⟨hfind, ?_, ?_⟩
  · simp [Table.probeVar, hval]
  · simp [Table.universeOfUnbound, hval]

end Chalk
