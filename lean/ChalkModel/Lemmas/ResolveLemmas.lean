/-
  Lemmas for C24 (`Resolve.lean`): the invariants that make every indexing / unwrap site of the lowering code
  unreachable (`Tables.WF`, presence of every associated-type key, the shape `lower_goal` reads back); "no panic".
-/
import ChalkModel.Resolve

namespace Chalk.Resolve

/-- the outcome is `ok` or `err`, never a panic -/
def NoPanic {α : Type} (o : Outcome α) : Prop := ∀ s, o ≠ .panic s

namespace NoPanic
variable {α β : Type}

theorem ok (a : α) : NoPanic (Outcome.ok a) := fun _ h => by cases h
theorem err (e : ErrKind) : NoPanic (Outcome.err e : Outcome α) := fun _ h => by cases h

theorem andThen {x : Outcome α} {f : α → Outcome β} (hx : NoPanic x)
    (hf : ∀ a, x = .ok a → NoPanic (f a)) : NoPanic (x.andThen f) := by
  cases x with
  | ok a => exact hf a rfl
  | err e => exact err e
  | panic s => exact absurd rfl (hx s)

theorem seq {x : Outcome α} {y : Outcome β} (hx : NoPanic x) (hy : NoPanic y) : NoPanic (x ⨾ y) := by
  cases x with
  | ok a => exact hy
  | err e => exact err e
  | panic s => exact absurd rfl (hx s)

theorem void {x : Outcome α} (hx : NoPanic x) : NoPanic x.void := by
  cases x with
  | ok a => exact ok ()
  | err e => exact err e
  | panic s => exact absurd rfl (hx s)

theorem ite {c : Prop} [Decidable c] {x y : Outcome α} (hx : NoPanic x) (hy : NoPanic y) :
    NoPanic (if c then x else y) := by
  split <;> assumption
end NoPanic

theorem seq_ok_inv {α β : Type} {x : Outcome α} {y : Outcome β} {b : β} (h : (x ⨾ y) = .ok b) : y = .ok b := by
  cases x <;> simp only [Outcome.seq] at h
  · exact h
  · cases h
  · cases h

theorem andThen_ok_inv {α β : Type} {x : Outcome α} {f : α → Outcome β} {b : β}
    (h : x.andThen f = .ok b) : ∃ a, x = .ok a ∧ f a = .ok b := by
  cases x <;> simp only [Outcome.andThen] at h
  · exact ⟨_, rfl, h⟩
  · cases h
  · cases h

theorem alookup_cons_ne_none {κ ν : Type} [DecidableEq κ] (l : List (κ × ν)) (k' : κ) (v : ν) (k : κ)
    (h : alookup l k ≠ none) : alookup ((k', v) :: l) k ≠ none := by
  simp only [alookup]
  split
  · simp
  · exact h

theorem alookup_cons_self {κ ν : Type} [DecidableEq κ] (l : List (κ × ν)) (k : κ) (v : ν) :
    alookup ((k, v) :: l) k = some v := by
  simp [alookup]

theorem alookup_cons_of_ne {κ ν : Type} [DecidableEq κ] (l : List (κ × ν)) (k' : κ) (v : ν) (k : κ)
    (h : k' ≠ k) : alookup ((k', v) :: l) k = alookup l k := by
  simp [alookup, h]

/-- every id a name table hands out has an entry in the companion table -/
def IdsIn {ν : Type} (ids : List (String × Nat)) (tbl : List (Nat × ν)) : Prop :=
  ∀ n id, alookup ids n = some id → alookup tbl id ≠ none

theorem IdsIn.nil {ν : Type} (tbl : List (Nat × ν)) : IdsIn [] tbl := by
  intro n id h; simp [alookup] at h

theorem IdsIn.cons {ν : Type} {ids : List (String × Nat)} {tbl : List (Nat × ν)} (h : IdsIn ids tbl)
    (n : String) (id : Nat) (v : ν) : IdsIn ((n, id) :: ids) ((id, v) :: tbl) := by
  intro n' id' h'
  simp only [alookup] at h'
  split at h'
  · cases h'; simp [alookup]
  · exact alookup_cons_ne_none _ _ _ _ (h n' id' h')

/-- invariant of the tables built by `extract_ids` (env.rs:176-212 never miss) -/
structure Tables.WF (tb : Tables) : Prop where
  adt : IdsIn tb.adtIds tb.adtKinds
  fnDef : IdsIn tb.fnDefIds tb.fnDefKinds
  closure : IdsIn tb.closureIds tb.closureKinds
  trait : IdsIn tb.traitIds tb.traitKinds
  autoT : IdsIn tb.traitIds tb.autoTraits
  opaqueT : IdsIn tb.opaqueIds tb.opaqueKinds
  coroutine : IdsIn tb.coroutineIds tb.coroutineKinds

/-- repaired code, well-formed tables -/
structure Env.WF (env : Env) : Prop where
  ver : env.ver = .fixed
  tb : env.tb.WF

theorem introduce_wf {env env' : Env} {new : List (String × Kind)} (h : env.WF)
    (hi : env.introduce new = .ok env') : env'.WF := by
  unfold Env.introduce at hi
  split at hi
  · cases hi; exact ⟨h.ver, h.tb⟩
  · cases hi

theorem introduce_noPanic (env : Env) (new : List (String × Kind)) : NoPanic (env.introduce new) := by
  unfold Env.introduce
  split
  · exact .ok _
  · exact .err _

/-- the form in which the lowering functions enter binders -/
theorem introduce_match_noPanic {α : Type} {env : Env} (h : env.WF) (new : List (String × Kind))
    {f : Env → Outcome α} (hf : ∀ env', env'.WF → NoPanic (f env')) :
    NoPanic (match env.introduce new with
      | .ok env' => f env'
      | .err e => .err e
      | .panic s => .panic s) := by
  split
  · next env' hi => exact hf env' (introduce_wf h hi)
  · exact .err _
  · next s hi => exact absurd hi (introduce_noPanic _ _ s)

theorem kindsIndex_noPanic (site : Site) {ids : List (String × Nat)} {tbl : List (Nat × List Kind)}
    (hI : IdsIn ids tbl) {n : String} {id : Nat} (hl : alookup ids n = some id) :
    NoPanic (kindsIndex site tbl id) := by
  unfold kindsIndex
  split
  · exact .ok _
  · next hn => exact absurd hn (hI n id hl)

theorem unappliedKind_noPanic {ks : Outcome (List Kind)} (h : NoPanic ks) : NoPanic (unappliedKind ks) :=
  h.andThen fun _ _ => NoPanic.ite (.err _) (.ok _)

theorem lookupType_src {env : Env} {n : String} {r : TypeLookup} (h : env.lookupType n = some r) :
    match r with
    | .param k => alookup env.params n = some k
    | .adt id => alookup env.tb.adtIds n = some id
    | .fnDef id => alookup env.tb.fnDefIds n = some id
    | .closure id => alookup env.tb.closureIds n = some id
    | .opaque id => alookup env.tb.opaqueIds n = some id
    | .foreign id => alookup env.tb.foreignIds n = some id
    | .trait id => alookup env.tb.traitIds n = some id
    | .coroutine id => alookup env.tb.coroutineIds n = some id := by
  unfold Env.lookupType at h
  repeat' split at h
  all_goals cases h
  all_goals assumption

theorem lookupGenericArg_noPanic {env : Env} (h : env.WF) (n : String) : NoPanic (env.lookupGenericArg n) := by
  unfold Env.lookupGenericArg
  split
  · exact .ok _
  · next id hl => exact unappliedKind_noPanic (kindsIndex_noPanic _ h.tb.adt (lookupType_src hl))
  · next id hl => exact unappliedKind_noPanic (kindsIndex_noPanic _ h.tb.fnDef (lookupType_src hl))
  · next id hl => exact unappliedKind_noPanic (kindsIndex_noPanic _ h.tb.closure (lookupType_src hl))
  · next id hl => exact unappliedKind_noPanic (kindsIndex_noPanic _ h.tb.coroutine (lookupType_src hl))
  · exact .ok _
  · exact .ok _
  · exact .err _
  · exact .err _

theorem lookupTrait_noPanic (env : Env) (n : String) : NoPanic (env.lookupTrait n) := by
  unfold Env.lookupTrait
  split
  · exact .ok _
  · exact NoPanic.ite (.err _) (.err _)

theorem lookupTrait_ok {env : Env} {n : String} {id : Nat} (h : env.lookupTrait n = .ok id) :
    alookup env.tb.traitIds n = some id := by
  unfold Env.lookupTrait at h
  split at h
  · cases h; assumption
  · split at h <;> cases h

theorem autoTrait_noPanic {env : Env} (h : env.WF) {n : String} {id : Nat} (hl : env.lookupTrait n = .ok id) :
    NoPanic (env.autoTrait id) := by
  unfold Env.autoTrait
  split
  · exact .ok _
  · next hn => exact absurd hn (h.tb.autoT _ _ (lookupTrait_ok hl))

theorem lookupAssocTy_noPanic (env : Env) (t : Nat) (n : String) : NoPanic (env.lookupAssocTy t n) := by
  unfold Env.lookupAssocTy
  split
  · exact .ok _
  · exact .err _

theorem lowerAbi_noPanic (abi : String) : NoPanic (lowerAbi abi) :=
  NoPanic.ite (.ok _) (.err _)

theorem lowerLifetime_noPanic {env : Env} (h : env.WF) (l : ALifetime) : NoPanic (lowerLifetime env l) := by
  cases l with
  | id n =>
    exact (lookupGenericArg_noPanic h n).andThen fun _ _ => NoPanic.ite (.ok _) (.err _)
  | static | erased => exact .ok _

theorem lowerConst_noPanic {env : Env} (h : env.WF) (c : AConst) : NoPanic (lowerConst env c) := by
  cases c with
  | id n =>
    exact (lookupGenericArg_noPanic h n).andThen fun _ _ => NoPanic.ite (.ok _) (.err _)
  | value => exact .ok _

theorem checkArgs_noPanic (a k : ErrKind) (expected : List Kind) (n : Nat) {args : Outcome (List Kind)}
    (h : NoPanic args) : NoPanic (checkArgs a k expected n args) :=
  NoPanic.ite (.err _) (h.andThen fun _ _ => NoPanic.ite (.err _) (.ok _))

theorem checkedApply_noPanic {site : Site} {ids : List (String × Nat)} {tbl : List (Nat × List Kind)}
    (hI : IdsIn ids tbl) {nm : String} {id : Nat} (hl : alookup ids nm = some id) (a k : ErrKind) (n : Nat)
    {args : Outcome (List Kind)} (h : NoPanic args) :
    NoPanic ((kindsIndex site tbl id).andThen fun ks => checkArgs a k ks n args) :=
  (kindsIndex_noPanic _ hI hl).andThen fun _ _ => checkArgs_noPanic _ _ _ _ h

theorem checkArgsAfter_noPanic (a k : ErrKind) (expected : List Kind) {args : Outcome (List Kind)}
    (h : NoPanic args) : NoPanic (checkArgsAfter a k expected args) :=
  h.andThen fun _ _ => NoPanic.ite (.err _) (NoPanic.ite (.err _) (.ok _))

theorem lowerTraitBoundWith_noPanic {env : Env} (h : env.WF) (trait : String) {args : Outcome (List Kind)}
    (ha : NoPanic args) : NoPanic (lowerTraitBoundWith env trait args) := by
  refine (lookupTrait_noPanic env trait).andThen fun tid htid => ?_
  refine (kindsIndex_noPanic _ h.tb.trait (lookupTrait_ok htid)).andThen fun ks _ => ?_
  exact (checkArgsAfter_noPanic _ _ _ ha).seq (.ok _)

def BoundRes.NoPanic (r : BoundRes) : Prop :=
  Resolve.NoPanic r.traitId ∧ Resolve.NoPanic r.auto ∧ Resolve.NoPanic r.lowered

theorem boundsLookupPhase_noPanic (rs : List BoundRes) (h : ∀ r ∈ rs, r.NoPanic) :
    NoPanic (boundsLookupPhase rs) := by
  induction rs with
  | nil => exact .ok _
  | cons r rs ih =>
    unfold boundsLookupPhase
    obtain ⟨hr, hrs⟩ := List.forall_mem_cons.1 h
    exact hr.1.void.seq (hr.2.1.void.seq (ih hrs))

theorem firstFailure_noPanic (os : List (Outcome Unit)) (h : ∀ o ∈ os, NoPanic o) :
    NoPanic (firstFailure os) := by
  induction os with
  | nil => exact .ok _
  | cons o os ih =>
    unfold firstFailure
    obtain ⟨ho, hos⟩ := List.forall_mem_cons.1 h
    exact ho.seq (ih hos)

theorem mem_insertById {x y : Nat × Outcome Unit} {l : List (Nat × Outcome Unit)}
    (h : y ∈ insertById x l) : y = x ∨ y ∈ l := by
  induction l with
  | nil => simpa [insertById] using h
  | cons z zs ih =>
    unfold insertById at h
    split at h
    · exact List.mem_cons.1 h
    · rcases List.mem_cons.1 h with rfl | h
      · exact .inr (List.mem_cons_self ..)
      · exact (ih h).imp_right (List.mem_cons_of_mem _)

theorem mem_sortById {y : Nat × Outcome Unit} {l : List (Nat × Outcome Unit)} (h : y ∈ sortById l) : y ∈ l := by
  induction l with
  | nil => simp [sortById] at h
  | cons x xs ih =>
    unfold sortById at h
    rcases mem_insertById h with h | h
    · simp [h]
    · exact List.mem_cons_of_mem _ (ih h)

theorem combineBounds_noPanic (rs : List BoundRes) (h : ∀ r ∈ rs, r.NoPanic) : NoPanic (combineBounds rs) := by
  refine (boundsLookupPhase_noPanic rs h).seq (firstFailure_noPanic _ ?_)
  intro o ho
  simp only [List.mem_append, List.mem_map, List.mem_filter] at ho
  rcases ho with ⟨r, ⟨hr, _⟩, rfl⟩ | ⟨p, hp, rfl⟩
  · exact (h r hr).2.2
  · have := mem_sortById hp
    simp only [List.mem_map, List.mem_filter] at this
    obtain ⟨r, ⟨hr, _⟩, rfl⟩ := this
    exact (h r hr).2.2


-- `lowerTy env (.c ..)` computes to the arm of the definition for `.c`, so each arm below is the
-- `NoPanic` fact about that arm's body.
mutual
theorem lowerTy_noPanic : ∀ (t : ATy) (env : Env), env.WF → NoPanic (lowerTy env t)
  | .id n, env, h =>
      (lookupGenericArg_noPanic h n).andThen fun _ _ => NoPanic.ite (.ok _) (.err _)
  | .apply n args, env, h => by
      have ha := lowerGArgs_noPanic args env h
      unfold lowerTy
      split
      · exact .err _
      · exact .err _
      · next hl => exact checkedApply_noPanic h.tb.adt (lookupType_src hl) _ _ _ ha
      · next hl => exact checkedApply_noPanic h.tb.fnDef (lookupType_src hl) _ _ _ ha
      · next hl => exact checkedApply_noPanic h.tb.closure (lookupType_src hl) _ _ _ ha
      · next hl => exact checkedApply_noPanic h.tb.opaqueT (lookupType_src hl) _ _ _ ha
      · next hl => exact checkedApply_noPanic h.tb.coroutine (lookupType_src hl) _ _ _ ha
      · rw [h.ver]; exact NoPanic.ite (.err _) (.ok _)
      · rw [h.ver]; exact .err _
  | .tuple tys, env, h => lowerTys_noPanic tys env h
  | .leaf, _, _ => .ok _
  | .ref l t, env, h => (lowerLifetime_noPanic h l).seq (lowerTy_noPanic t env h)
  | .raw t, env, h | .slice t, env, h => lowerTy_noPanic t env h
  | .array t c, env, h => (lowerTy_noPanic t env h).seq (lowerConst_noPanic h c)
  | .fnptr lts abi tys, env, h =>
      introduce_match_noPanic h _ fun env' h' => (lowerTys_noPanic tys env' h').seq (lowerAbi_noPanic abi)
  | .proj self trait targs name args, env, h =>
      (lowerTraitBoundWith_noPanic h trait (lowerGArgs_noPanic targs env h)).andThen fun tid _ =>
        (lowerTy_noPanic self env h).seq <|
          (lookupAssocTy_noPanic env tid name).andThen fun _ _ =>
            checkArgsAfter_noPanic _ _ _ (lowerGArgs_noPanic args env h)
  | .dyn bounds l, env, h =>
      introduce_match_noPanic h _ fun env' h' =>
        (combineBounds_noPanic _ (lowerQIBs_noPanic bounds env' h')).seq (lowerLifetime_noPanic h l)

theorem lowerTys_noPanic : ∀ (ts : ATys) (env : Env), env.WF → NoPanic (lowerTys env ts)
  | .nil, _, _ => .ok _
  | .cons t ts, env, h => (lowerTy_noPanic t env h).seq (lowerTys_noPanic ts env h)

theorem lowerGArg_noPanic : ∀ (a : AGArg) (env : Env), env.WF → NoPanic (lowerGArg env a)
  | .ty t, env, h => (lowerTy_noPanic t env h).seq (.ok _)
  | .lt l, _, h => (lowerLifetime_noPanic h l).seq (.ok _)
  | .id n, _, h => lookupGenericArg_noPanic h n
  | .const c, _, h => (lowerConst_noPanic h c).seq (.ok _)

theorem lowerGArgs_noPanic : ∀ (as : AGArgs) (env : Env), env.WF → NoPanic (lowerGArgs env as)
  | .nil, _, _ => .ok _
  | .cons a as, env, h =>
      (lowerGArg_noPanic a env h).andThen fun _ _ =>
        (lowerGArgs_noPanic as env h).andThen fun _ _ => .ok _

theorem lowerQIB_noPanic : ∀ (b : AQIB) (env : Env), env.WF → (lowerQIB env b).NoPanic
  | .traitBound _ trait args, env, h =>
      ⟨lookupTrait_noPanic env trait,
        (lookupTrait_noPanic env trait).andThen fun _ hid => autoTrait_noPanic h hid,
        introduce_match_noPanic h _ fun env' h' =>
          (lowerTraitBoundWith_noPanic h' trait (lowerGArgs_noPanic args env' h')).void⟩
  | .aliasEq _ trait args name aargs value, env, h =>
      ⟨lookupTrait_noPanic env trait,
        (lookupTrait_noPanic env trait).andThen fun _ hid => autoTrait_noPanic h hid,
        introduce_match_noPanic h _ fun env' h' =>
          (lowerTraitBoundWith_noPanic h' trait (lowerGArgs_noPanic args env' h')).andThen fun t _ =>
            (lookupAssocTy_noPanic env' t name).andThen fun _ _ =>
              (checkArgsAfter_noPanic _ _ _ (lowerGArgs_noPanic aargs env' h')).seq
                (lowerTy_noPanic value env' h')⟩

theorem lowerQIBs_noPanic : ∀ (bs : AQIBs) (env : Env), env.WF → ∀ r ∈ lowerQIBs env bs, r.NoPanic
  | .nil, env, h => by unfold lowerQIBs; intro r hr; cases hr
  | .cons b bs, env, h => by
      unfold lowerQIBs
      intro r hr
      rcases List.mem_cons.mp hr with rfl | hr
      · exact lowerQIB_noPanic b env h
      · exact lowerQIBs_noPanic bs env h r hr
end


theorem lowerTraitRef_noPanic {env : Env} (h : env.WF) (tr : ATraitRef) : NoPanic (lowerTraitRef env tr) :=
  (lowerTraitBoundWith_noPanic h _ (lowerGArgs_noPanic _ env h)).andThen fun _ _ =>
    (lowerTy_noPanic _ env h).seq (.ok _)

theorem lowerProj_noPanic {env : Env} (h : env.WF) (p : AProj) : NoPanic (lowerProj env p) :=
  (lowerTraitRef_noPanic h _).andThen fun tid _ =>
    (lookupAssocTy_noPanic env tid _).andThen fun _ _ =>
      checkArgsAfter_noPanic _ _ _ (lowerGArgs_noPanic _ env h)

theorem lowerWhereClause_noPanic {env : Env} (h : env.WF) (w : AWhereClause) :
    NoPanic (lowerWhereClause env w) := by
  cases w with
  | implemented tr => exact (lowerTraitRef_noPanic h tr).void
  | projEq p t =>
    exact (lowerProj_noPanic h p).seq ((lowerTy_noPanic t env h).seq (lowerTraitRef_noPanic h _).void)
  | ltOutlives a b => exact (lowerLifetime_noPanic h a).seq (lowerLifetime_noPanic h b)
  | tyOutlives t l => exact (lowerTy_noPanic t env h).seq (lowerLifetime_noPanic h l)

theorem inBinders_noPanic {env : Env} (h : env.WF) (vks : List (String × Kind)) (op : Env → Outcome Unit)
    (hop : ∀ env', env'.WF → NoPanic (op env')) : NoPanic (inBinders env vks op) :=
  (introduce_noPanic env vks).andThen fun env' hi => hop env' (introduce_wf h hi)

theorem lowerQWC_noPanic {env : Env} (h : env.WF) (w : AQWC) : NoPanic (lowerQWC env w) :=
  inBinders_noPanic h _ _ fun _ h' => lowerWhereClause_noPanic h' _

theorem lowerQWCs_noPanic {env : Env} (h : env.WF) (ws : List AQWC) : NoPanic (lowerQWCs env ws) := by
  induction ws with
  | nil => exact .ok _
  | cons w ws ih => exact (lowerQWC_noPanic h w).seq ih

theorem lowerDomainGoal_noPanic {env : Env} (h : env.WF) (d : ADomainGoal) : NoPanic (lowerDomainGoal env d) := by
  cases d with
  | holds wc => exact lowerWhereClause_noPanic h wc
  | normalize p t => exact (lowerProj_noPanic h p).seq (lowerTy_noPanic t env h)
  | ofTy t => exact lowerTy_noPanic t env h
  | ofTraitRef tr => exact (lowerTraitRef_noPanic h tr).void
  | nullary => exact .ok _
  | objectSafe n => exact (lookupTrait_noPanic env n).void

theorem lowerLeaf_noPanic {env : Env} (h : env.WF) (l : ALeaf) : NoPanic (lowerLeaf env l) := by
  cases l with
  | domain dg => exact lowerDomainGoal_noPanic h dg
  | unify a b => exact (lowerGArg_noPanic a env h).void.seq (lowerGArg_noPanic b env h).void
  | subtype a b => exact (lowerTy_noPanic a env h).seq (lowerTy_noPanic b env h)

mutual
theorem lowerGoal_noPanic : ∀ (g : AGoal) (env : Env), env.WF → NoPanic (lowerGoal env g)
  | .quant vks g, env, h => by
      unfold lowerGoal
      split
      · exact lowerGoal_noPanic g env h
      · exact introduce_match_noPanic h _ fun env' h' => lowerGoal_noPanic g env' h'
  | .implies hyp g, env, h =>
      (lowerClauses_noPanic hyp env h).seq (lowerGoal_noPanic g env h)
  | .and gs, env, h => lowerGoals_noPanic gs env h
  | .not g, env, h | .compatible g, env, h => lowerGoal_noPanic g env h
  | .leaf l, env, h => lowerLeaf_noPanic h l

theorem lowerGoals_noPanic : ∀ (gs : AGoals) (env : Env), env.WF → NoPanic (lowerGoals env gs)
  | .nil, _, _ => .ok _
  | .cons g gs, env, h =>
      (lowerGoal_noPanic g env h).seq (lowerGoals_noPanic gs env h)

theorem lowerGoalsRev_noPanic : ∀ (gs : AGoals) (env : Env), env.WF → NoPanic (lowerGoalsRev env gs)
  | .nil, _, _ => .ok _
  | .cons g gs, env, h =>
      (lowerGoalsRev_noPanic gs env h).seq (lowerGoal_noPanic g env h)

theorem lowerClause_noPanic : ∀ (c : AClause) (env : Env), env.WF → NoPanic (lowerClause env c)
  | .mk _ consequence conditions, _, h =>
      introduce_match_noPanic h _ fun env' h' =>
        (lowerDomainGoal_noPanic h' consequence).seq (lowerGoalsRev_noPanic conditions env' h')

theorem lowerClauses_noPanic : ∀ (cs : AClauses) (env : Env), env.WF → NoPanic (lowerClauses env cs)
  | .nil, _, _ => .ok _
  | .cons c cs, env, h =>
      (lowerClause_noPanic c env h).seq (lowerClauses_noPanic cs env h)
end


/-- the keys `extract_associated_types` must have created for the item at position `r` -/
def AssocOK (tb : Tables) (r : Nat) : AItem → Prop
  | .trait _ _ _ _ assoc => ∀ d ∈ assoc, alookup tb.assocLookups (r, d.name) ≠ none
  | .impl _ _ _ _ values => ∀ v ∈ values, alookup tb.assocValueIds (r, v.name) ≠ none
  | _ => True

/-- the key `extract_ids` must have created for a coroutine -/
def CoroOK (tb : Tables) : AItem → Prop
  | .coroutine name _ _ _ _ _ _ _ => alookup tb.coroutineIds name ≠ none
  | _ => True

theorem traitAssocIds_noPanic (env : Env) (r : Nat) (assoc : List AAssocTyDefn)
    (h : ∀ d ∈ assoc, alookup env.tb.assocLookups (r, d.name) ≠ none) : NoPanic (traitAssocIds env r assoc) := by
  induction assoc with
  | nil => exact .ok _
  | cons d ds ih =>
    unfold traitAssocIds
    obtain ⟨hd, hds⟩ := List.forall_mem_cons.1 h
    split
    · next hn => exact absurd hn hd
    · exact ih hds

theorem lowerAssocDefns_noPanic {env : Env} (hw : env.WF) (r : Nat) (tp : List (String × Kind))
    (assoc : List AAssocTyDefn) (h : ∀ d ∈ assoc, alookup env.tb.assocLookups (r, d.name) ≠ none) :
    ∀ acc, NoPanic (lowerAssocDefns env r tp acc assoc) := by
  induction assoc with
  | nil => intro acc; exact .ok _
  | cons d ds ih =>
    intro acc
    unfold lowerAssocDefns
    obtain ⟨hd, hds⟩ := List.forall_mem_cons.1 h
    split
    · next hn => exact absurd hn hd
    · refine NoPanic.andThen ?_ fun _ _ => ih hds _
      exact inBinders_noPanic hw _ _ fun env' h' =>
        (combineBounds_noPanic _ (lowerQIBs_noPanic _ env' h')).seq (lowerQWCs_noPanic h' _)

theorem implValueIds_noPanic (env : Env) (site : Site) (r : Nat) (values : List AAssocTyValue)
    (h : ∀ v ∈ values, alookup env.tb.assocValueIds (r, v.name) ≠ none) :
    NoPanic (implValueIds env site r values) := by
  induction values with
  | nil => exact .ok _
  | cons v vs ih =>
    unfold implValueIds
    obtain ⟨hv, hvs⟩ := List.forall_mem_cons.1 h
    split
    · next hn => exact absurd hn hv
    · exact ih hvs

theorem lowerAssocValues_noPanic {env : Env} (hw : env.WF) (r tid : Nat) (ip : List (String × Kind))
    (values : List AAssocTyValue) (h : ∀ v ∈ values, alookup env.tb.assocValueIds (r, v.name) ≠ none) :
    NoPanic (lowerAssocValues env r tid ip values) := by
  induction values with
  | nil => exact .ok _
  | cons v vs ih =>
    unfold lowerAssocValues
    obtain ⟨hv, hvs⟩ := List.forall_mem_cons.1 h
    split
    · next hn => exact absurd hn hv
    · split
      · rw [hw.ver]; exact .err _
      · exact (inBinders_noPanic hw _ _ fun env' h' => lowerTy_noPanic _ env' h').seq (ih hvs)

theorem varianceCheck_noPanic (v : Option Nat) (n : Nat) : NoPanic (varianceCheck v n) := by
  unfold varianceCheck
  split
  · exact NoPanic.ite (.err _) (.ok _)
  · exact .ok _

theorem lowerItem_noPanic {env : Env} (hw : env.WF) (r : Nat) (acc : Lowered) (it : AItem)
    (ha : AssocOK env.tb r it) (hc : CoroOK env.tb it) : NoPanic (lowerItem env r acc it) := by
  cases it with
  | adt name vks fundamental fields wcs variances =>
    refine NoPanic.seq (NoPanic.ite (.err _) ?_) (.ok _)
    exact (inBinders_noPanic hw _ _ fun env' h' =>
      (lowerTys_noPanic _ env' h').seq (lowerQWCs_noPanic h' _)).seq (varianceCheck_noPanic _ _)
  | fnDef name vks wcs args ret abi variances =>
    refine NoPanic.seq (inBinders_noPanic hw _ _ fun env' h' => ?_)
      ((lowerAbi_noPanic _).seq ((varianceCheck_noPanic _ _).seq (.ok _)))
    exact (lowerQWCs_noPanic h' _).seq (inBinders_noPanic h' _ _ fun env'' h'' =>
      (lowerTy_noPanic _ env'' h'').seq (lowerTys_noPanic _ env'' h''))
  | closure name vks args ret upvars =>
    exact (inBinders_noPanic hw _ _ fun env' h' =>
        (lowerTy_noPanic _ env' h').seq (lowerTys_noPanic _ env' h')).seq
      ((inBinders_noPanic hw _ _ fun env' h' => lowerTys_noPanic _ env' h').seq (.ok _))
  | trait name vks auto wcs assoc =>
    refine NoPanic.seq (inBinders_noPanic hw _ _ fun env' h' => ?_)
      ((traitAssocIds_noPanic env r assoc ha).seq (lowerAssocDefns_noPanic hw r _ assoc ha _))
    refine NoPanic.seq ?_ (lowerQWCs_noPanic h' _)
    split
    · exact NoPanic.ite (.err _) (NoPanic.ite (.err _) (.ok _))
    · exact .ok _
  | opaqueTy name vks ty bounds wcs =>
    refine NoPanic.seq (inBinders_noPanic hw _ _ fun env' h' => ?_) (.ok _)
    refine (lowerTy_noPanic _ env' h').seq (NoPanic.seq ?_ ?_)
    · exact inBinders_noPanic h' _ _ fun env'' h'' => combineBounds_noPanic _ (lowerQIBs_noPanic _ env'' h'')
    · exact inBinders_noPanic h' _ _ fun env'' h'' => lowerQWCs_noPanic h'' _
  | coroutine name vks upvars resume yield ret witnesses witnessLts =>
    refine NoPanic.seq (inBinders_noPanic hw _ _ fun env' h' => ?_) (NoPanic.seq ?_ (NoPanic.seq ?_ (.ok _)))
    · exact (lowerTy_noPanic _ env' h').seq ((lowerTy_noPanic _ env' h').seq
        ((lowerTy_noPanic _ env' h').seq (lowerTys_noPanic _ env' h')))
    · exact inBinders_noPanic hw _ _ fun env' h' =>
        inBinders_noPanic h' _ _ fun env'' h'' => lowerTys_noPanic _ env'' h''
    · split
      · exact .ok _
      · next hn => exact absurd hn hc
  | impl vks positive tr wcs values =>
    refine NoPanic.andThen ?_ fun tid _ => ?_
    · refine (introduce_noPanic env _).andThen fun env' hi => ?_
      have h' := introduce_wf hw hi
      refine (lowerTraitRef_noPanic h' tr).andThen fun tid _ => ?_
      exact (NoPanic.ite (.err _) (.ok _)).seq ((lowerQWCs_noPanic h' _).seq (.ok _))
    · exact (implValueIds_noPanic env _ r values ha).seq
        ((lowerAssocValues_noPanic hw r tid _ values ha).seq (.ok _))
  | clause c =>
    exact (lowerClause_noPanic c env hw).seq (.ok _)
  | foreign name =>
    exact .ok _


/-- keys of the associated-type tables and coroutine names are only added, and well-formedness
    of the id tables is kept -/
structure Mono (tb tb' : Tables) : Prop where
  lookups : ∀ k, alookup tb.assocLookups k ≠ none → alookup tb'.assocLookups k ≠ none
  values : ∀ k, alookup tb.assocValueIds k ≠ none → alookup tb'.assocValueIds k ≠ none
  coro : ∀ k, alookup tb.coroutineIds k ≠ none → alookup tb'.coroutineIds k ≠ none
  wf : tb.WF → tb'.WF

theorem Mono.refl (tb : Tables) : Mono tb tb := ⟨fun _ h => h, fun _ h => h, fun _ h => h, fun h => h⟩

theorem Mono.trans {a b c : Tables} (h1 : Mono a b) (h2 : Mono b c) : Mono a c :=
  ⟨fun k h => h2.lookups k (h1.lookups k h), fun k h => h2.values k (h1.values k h),
   fun k h => h2.coro k (h1.coro k h), fun h => h2.wf (h1.wf h)⟩

theorem AssocOK.mono {tb tb' : Tables} (m : Mono tb tb') {r : Nat} {it : AItem} (h : AssocOK tb r it) :
    AssocOK tb' r it := by
  cases it <;> simp only [AssocOK] at h ⊢
  · exact fun d hd => m.lookups _ (h d hd)
  · exact fun v hv => m.values _ (h v hv)

theorem CoroOK.mono {tb tb' : Tables} (m : Mono tb tb') {it : AItem} (h : CoroOK tb it) : CoroOK tb' it := by
  cases it <;> simp only [CoroOK] at h ⊢
  exact m.coro _ h

theorem traitAssocStep_mono (r : Nat) (acc : Tables × Nat) (d : AAssocTyDefn) :
    Mono acc.1 (traitAssocStep r acc d).1 :=
  { Mono.refl acc.1 with lookups := fun _ h => alookup_cons_ne_none _ _ _ _ h, wf := fun h => { h with } }

theorem implValueStep_mono (r : Nat) (acc : Tables × Nat) (v : AAssocTyValue) :
    Mono acc.1 (implValueStep r acc v).1 :=
  { Mono.refl acc.1 with values := fun _ h => alookup_cons_ne_none _ _ _ _ h, wf := fun h => { h with } }

/-- `traitIds` is carried along because `lowerProgram_wf` needs the trait names of the final tables to be
    those `extract_ids` inserted. -/
theorem foldl_keys {δ : Type} (step : Tables × Nat → δ → Tables × Nat) (has : Tables → δ → Prop)
    (hstep : ∀ acc d, Mono acc.1 (step acc d).1 ∧ (step acc d).1.traitIds = acc.1.traitIds ∧
      has (step acc d).1 d)
    (hmono : ∀ {tb tb'} d, Mono tb tb' → has tb d → has tb' d) (l : List δ) (acc : Tables × Nat) :
    Mono acc.1 (l.foldl step acc).1 ∧ (l.foldl step acc).1.traitIds = acc.1.traitIds ∧
      ∀ d ∈ l, has (l.foldl step acc).1 d := by
  induction l generalizing acc with
  | nil => exact ⟨Mono.refl _, rfl, fun _ h => nomatch h⟩
  | cons d ds ih =>
    obtain ⟨m1, t1, k1⟩ := hstep acc d
    obtain ⟨m2, t2, k2⟩ := ih (step acc d)
    exact ⟨m1.trans m2, t2.trans t1, List.forall_mem_cons.2 ⟨hmono d m2 k1, k2⟩⟩

theorem extractAssocItem_spec {tb : Tables} {next r : Nat} {it : AItem} {res : Tables × Nat}
    (h : extractAssocItem tb next r it = .ok res) :
    Mono tb res.1 ∧ res.1.traitIds = tb.traitIds ∧ AssocOK res.1 r it := by
  cases it <;> simp only [extractAssocItem] at h
  case trait name vks auto wcs assoc =>
    split at h
    · cases h
    · cases h
      exact foldl_keys (traitAssocStep r) (fun tb d => alookup tb.assocLookups (r, d.name) ≠ none)
        (fun acc d => ⟨traitAssocStep_mono r acc d, rfl,
          fun h => nomatch (alookup_cons_self _ _ _).symm.trans h⟩)
        (fun _ m h => m.lookups _ h) assoc (tb, next)
  case impl vks positive tr wcs values =>
    cases h
    exact foldl_keys (implValueStep r) (fun tb v => alookup tb.assocValueIds (r, v.name) ≠ none)
      (fun acc v => ⟨implValueStep_mono r acc v, rfl,
        fun h => nomatch (alookup_cons_self _ _ _).symm.trans h⟩)
      (fun _ m h => m.values _ h) values (tb, next)
  all_goals (cases h; exact ⟨Mono.refl _, rfl, trivial⟩)

theorem extractAssocItem_noPanic (tb : Tables) (next r : Nat) (it : AItem) :
    NoPanic (extractAssocItem tb next r it) := by
  cases it <;> simp only [extractAssocItem]
  case trait => exact NoPanic.ite (.err _) (.ok _)
  all_goals exact .ok _

/-- every item of the list has its associated-type keys (positions counted from `r`) -/
def AssocItemsOK (tb : Tables) : Nat → List AItem → Prop
  | _, [] => True
  | r, it :: rest => AssocOK tb r it ∧ AssocItemsOK tb (r + 1) rest

theorem AssocItemsOK.mono {tb tb' : Tables} (m : Mono tb tb') : ∀ {r : Nat} {items : List AItem},
    AssocItemsOK tb r items → AssocItemsOK tb' r items
  | _, [], _ => trivial
  | _, _ :: _, h => ⟨h.1.mono m, AssocItemsOK.mono m h.2⟩

theorem extractAssoc_noPanic : ∀ (items : List AItem) (tb : Tables) (next r : Nat),
    NoPanic (extractAssoc tb next r items)
  | [], _, _, _ => .ok _
  | it :: rest, tb, next, r => by
      unfold extractAssoc
      exact (extractAssocItem_noPanic tb next r it).andThen fun res _ => extractAssoc_noPanic rest _ _ _

theorem extractAssoc_spec : ∀ (items : List AItem) (tb : Tables) (next r : Nat) (res : Tables × Nat),
    extractAssoc tb next r items = .ok res →
      Mono tb res.1 ∧ res.1.traitIds = tb.traitIds ∧ AssocItemsOK res.1 r items
  | [], tb, next, r, res, h => by cases h; exact ⟨Mono.refl _, rfl, trivial⟩
  | it :: rest, tb, next, r, res, h => by
      unfold extractAssoc at h
      obtain ⟨r1, hi, h⟩ := andThen_ok_inv h
      obtain ⟨m1, t1, ok1⟩ := extractAssocItem_spec hi
      obtain ⟨m2, t2, ok2⟩ := extractAssoc_spec rest r1.1 r1.2 (r + 1) res h
      exact ⟨m1.trans m2, t2.trans t1, ok1.mono m2, ok2⟩

theorem extractIdsItem_mono (tb : Tables) (r : Nat) (it : AItem) : Mono tb (extractIdsItem tb r it) := by
  cases it <;> simp only [extractIdsItem]
  case adt => exact { Mono.refl tb with wf := fun h => { h with adt := h.adt.cons _ _ _ } }
  case fnDef => exact { Mono.refl tb with wf := fun h => { h with fnDef := h.fnDef.cons _ _ _ } }
  case closure => exact { Mono.refl tb with wf := fun h => { h with closure := h.closure.cons _ _ _ } }
  case trait =>
    exact { Mono.refl tb with
      wf := fun h => { h with trait := h.trait.cons _ _ _, autoT := h.autoT.cons _ _ _ } }
  case opaqueTy => exact { Mono.refl tb with wf := fun h => { h with opaqueT := h.opaqueT.cons _ _ _ } }
  case coroutine =>
    exact { Mono.refl tb with
      coro := fun _ h => alookup_cons_ne_none _ _ _ _ h
      wf := fun h => { h with coroutine := h.coroutine.cons _ _ _ } }
  case foreign => exact { Mono.refl tb with wf := fun h => { h with } }
  all_goals exact Mono.refl _

theorem extractIdsItem_coro (tb : Tables) (r : Nat) (it : AItem) : CoroOK (extractIdsItem tb r it) it := by
  cases it <;> simp only [extractIdsItem, CoroOK]
  simp [alookup]

def CoroItemsOK (tb : Tables) : List AItem → Prop
  | [] => True
  | it :: rest => CoroOK tb it ∧ CoroItemsOK tb rest

theorem CoroItemsOK.mono {tb tb' : Tables} (m : Mono tb tb') : ∀ {items : List AItem},
    CoroItemsOK tb items → CoroItemsOK tb' items
  | [], _ => trivial
  | _ :: _, h => ⟨h.1.mono m, CoroItemsOK.mono m h.2⟩

theorem extractIds_spec : ∀ (items : List AItem) (tb : Tables) (r : Nat),
    Mono tb (extractIds tb r items) ∧ CoroItemsOK (extractIds tb r items) items
  | [], tb, r => ⟨Mono.refl _, trivial⟩
  | it :: rest, tb, r => by
      unfold extractIds
      obtain ⟨m, hc⟩ := extractIds_spec rest (extractIdsItem tb r it) (r + 1)
      exact ⟨(extractIdsItem_mono tb r it).trans m, (extractIdsItem_coro tb r it).mono m, hc⟩

theorem Tables.WF.empty : Tables.WF {} :=
  ⟨IdsIn.nil _, IdsIn.nil _, IdsIn.nil _, IdsIn.nil _, IdsIn.nil _, IdsIn.nil _, IdsIn.nil _⟩

theorem extracted_tables {p : AProgram} {res : Tables × Nat} (h : extractAssoc {} p.length 0 p = .ok res) :
    (extractIds res.1 0 p).WF ∧ AssocItemsOK (extractIds res.1 0 p) 0 p ∧
      CoroItemsOK (extractIds res.1 0 p) p := by
  obtain ⟨m1, _, ha⟩ := extractAssoc_spec p {} p.length 0 res h
  obtain ⟨m2, hc⟩ := extractIds_spec p res.1 0
  exact ⟨m2.wf (m1.wf Tables.WF.empty), ha.mono m2, hc⟩


/-- invariant of the accumulated program data after the items before position `r` -/
structure LInv (acc : Lowered) (r : Nat) : Prop where
  keys : ∀ k, alookup acc.traitData k ≠ none → k < r
  assoc : ∀ p ∈ acc.assocTyData,
    ∃ td, alookup acc.traitData p.2.traitId = some td ∧ td.nBinders ≤ p.2.binders.length

theorem lowerAssocDefns_spec (env : Env) (r : Nat) (tp : List (String × Kind)) :
    ∀ (assoc : List AAssocTyDefn) (acc acc' : Lowered), lowerAssocDefns env r tp acc assoc = .ok acc' →
      acc'.tb = acc.tb ∧ acc'.traitData = acc.traitData ∧
      ∀ p ∈ acc'.assocTyData, p ∈ acc.assocTyData ∨ (p.2.traitId = r ∧ tp.length ≤ p.2.binders.length)
  | [], acc, acc', h => by
      simp only [lowerAssocDefns] at h; cases h
      exact ⟨rfl, rfl, fun p hp => Or.inl hp⟩
  | d :: ds, acc, acc', h => by
      unfold lowerAssocDefns at h
      split at h
      · cases h
      · next lk _ =>
        obtain ⟨_, _, h⟩ := andThen_ok_inv h
        obtain ⟨h1, h2, h3⟩ := lowerAssocDefns_spec env r tp ds _ acc' h
        refine ⟨h1, h2, fun p hp => ?_⟩
        rcases h3 p hp with hp | hp
        · rcases List.mem_cons.mp hp with rfl | hp
          · exact Or.inr ⟨rfl, by simp⟩
          · exact Or.inl hp
        · exact Or.inr hp

def isTrait : AItem → Bool
  | .trait .. => true
  | _ => false

/-- The last two parts are what `lowerItems_spec` adds up: data of earlier traits stay, and a
    trait item at position `r` leaves a datum under key `r`. -/
theorem lowerItem_spec {env : Env} {r : Nat} {acc acc' : Lowered} {it : AItem}
    (h : lowerItem env r acc it = .ok acc') :
    acc'.tb = acc.tb ∧ (LInv acc r → LInv acc' (r + 1)) ∧
    (∀ k, alookup acc.traitData k ≠ none → alookup acc'.traitData k ≠ none) ∧
    (isTrait it = true → alookup acc'.traitData r ≠ none) := by
  -- every arm but the trait's ends in `⨾ .ok acc`
  have same : isTrait it = false → acc = acc' → acc'.tb = acc.tb ∧ (LInv acc r → LInv acc' (r + 1)) ∧
      (∀ k, alookup acc.traitData k ≠ none → alookup acc'.traitData k ≠ none) ∧
      (isTrait it = true → alookup acc'.traitData r ≠ none) := by
    rintro hn rfl
    exact ⟨rfl, fun i => ⟨fun k hk => Nat.lt_succ_of_lt (i.keys k hk), i.assoc⟩, fun _ hk => hk,
      fun ht => nomatch hn.symm.trans ht⟩
  cases it <;> unfold lowerItem at h
  case trait name vks auto wcs assoc =>
    replace h := seq_ok_inv (seq_ok_inv h)
    obtain ⟨h1, h2, h3⟩ := lowerAssocDefns_spec _ _ _ _ _ _ h
    refine ⟨h1, fun i => ⟨fun k hk => ?_, fun p hp => ?_⟩, fun k hk => ?_, fun _ => ?_⟩
    · rw [h2] at hk
      simp only [alookup] at hk
      split at hk
      · omega
      · exact Nat.lt_succ_of_lt (i.keys k hk)
    · rw [h2]
      rcases h3 p hp with hp | ⟨hp, hl⟩
      · obtain ⟨td, htd, hle⟩ := i.assoc p hp
        refine ⟨td, ?_, hle⟩
        have : p.2.traitId < r := i.keys _ (by rw [htd]; simp)
        rw [alookup_cons_of_ne _ _ _ _ (by omega)]
        exact htd
      · refine ⟨_, by rw [hp]; exact alookup_cons_self _ _ _, ?_⟩
        simpa using hl
    · rw [h2]; exact alookup_cons_ne_none _ _ _ _ hk
    · rw [h2]; simp [alookup]
  case adt | opaqueTy | clause => exact same rfl (Outcome.ok.inj (seq_ok_inv h))
  case fnDef | coroutine => exact same rfl (Outcome.ok.inj (seq_ok_inv (seq_ok_inv (seq_ok_inv h))))
  case closure => exact same rfl (Outcome.ok.inj (seq_ok_inv (seq_ok_inv h)))
  case impl =>
    obtain ⟨_, _, h⟩ := andThen_ok_inv h
    exact same rfl (Outcome.ok.inj (seq_ok_inv (seq_ok_inv h)))
  case foreign => exact same rfl (Outcome.ok.inj h)

/-- positions (counted from `r`) of the trait items -/
def traitIdxs : Nat → List AItem → List Nat
  | _, [] => []
  | r, it :: rest => if isTrait it then r :: traitIdxs (r + 1) rest else traitIdxs (r + 1) rest

theorem lowerItems_noPanic {env : Env} (hw : env.WF) : ∀ (items : List AItem) (r : Nat) (acc : Lowered),
    acc.tb = env.tb → AssocItemsOK env.tb r items → CoroItemsOK env.tb items →
      NoPanic (lowerItems env r acc items)
  | [], _, _, _, _, _ => .ok _
  | it :: rest, r, acc, ht, ha, hc => by
      unfold lowerItems
      refine (lowerItem_noPanic hw r acc it ha.1 hc.1).andThen fun acc' h' => ?_
      exact lowerItems_noPanic hw rest (r + 1) acc' ((lowerItem_spec h').1.trans ht) ha.2 hc.2

theorem lowerItems_spec {env : Env} : ∀ (items : List AItem) (r : Nat) (acc res : Lowered),
    lowerItems env r acc items = .ok res →
      res.tb = acc.tb ∧ (LInv acc r → LInv res (r + items.length)) ∧
      (∀ k, alookup acc.traitData k ≠ none → alookup res.traitData k ≠ none) ∧
      (∀ id ∈ traitIdxs r items, alookup res.traitData id ≠ none)
  | [], r, acc, res, h => by
      simp only [lowerItems] at h; cases h
      exact ⟨rfl, fun i => i, fun _ hk => hk, fun id hid => by cases hid⟩
  | it :: rest, r, acc, res, h => by
      unfold lowerItems at h
      obtain ⟨acc', h1, h2⟩ := andThen_ok_inv h
      obtain ⟨a1, a2, a3, a4⟩ := lowerItem_spec h1
      obtain ⟨b1, b2, b3, b4⟩ := lowerItems_spec rest (r + 1) acc' res h2
      refine ⟨b1.trans a1, fun i => ?_, fun k hk => b3 k (a3 k hk), fun id hid => ?_⟩
      · have := b2 (a2 i)
        simpa [Nat.add_assoc, Nat.add_comm 1] using this
      · unfold traitIdxs at hid
        split at hid
        · next ht =>
          rcases List.mem_cons.mp hid with rfl | hid
          · exact b3 _ (a4 ht)
          · exact b4 id hid
        · exact b4 id hid

theorem extractIdsItem_traitIds (tb : Tables) (r : Nat) (it : AItem) (n : String) (id : Nat)
    (h : alookup (extractIdsItem tb r it).traitIds n = some id) :
    alookup tb.traitIds n = some id ∨ (isTrait it = true ∧ id = r) := by
  cases it <;> simp only [extractIdsItem] at h
  case trait =>
    simp only [alookup] at h
    split at h
    · cases h; exact Or.inr ⟨rfl, rfl⟩
    · exact Or.inl h
  all_goals exact Or.inl h

theorem extractIds_traitIds : ∀ (items : List AItem) (tb : Tables) (r : Nat) (n : String) (id : Nat),
    alookup (extractIds tb r items).traitIds n = some id →
      alookup tb.traitIds n = some id ∨ id ∈ traitIdxs r items
  | [], _, _, _, _, h => Or.inl h
  | it :: rest, tb, r, n, id, h => by
      unfold extractIds at h
      rcases extractIds_traitIds rest _ (r + 1) n id h with h | h
      · rcases extractIdsItem_traitIds tb r it n id h with h | ⟨ht, rfl⟩
        · exact Or.inl h
        · exact Or.inr (by simp [traitIdxs, ht])
      · refine Or.inr ?_
        unfold traitIdxs
        split
        · exact List.mem_cons_of_mem _ h
        · exact h

theorem alookup_map_ne_none {ν μ : Type} (f : ν → μ) (l : List (Nat × ν)) (k : Nat)
    (h : alookup l k ≠ none) : alookup (l.map fun p => (p.1, f p.2)) k ≠ none := by
  induction l with
  | nil => simp [alookup] at h
  | cons x xs ih =>
    obtain ⟨k', v⟩ := x
    simp only [List.map_cons, alookup] at h ⊢
    split
    · simp
    · next hne => rw [if_neg hne] at h; exact ih h

theorem rebuildAssocLookups_noPanic (traitData : List (Nat × TraitDatum)) :
    ∀ (l : List (Nat × AssocTyDatum)),
      (∀ p ∈ l, ∃ td, alookup traitData p.2.traitId = some td ∧ td.nBinders ≤ p.2.binders.length) →
      NoPanic (rebuildAssocLookups traitData l)
  | [], _ => .ok _
  | (id, d) :: rest, h => by
      unfold rebuildAssocLookups
      obtain ⟨td, htd, hle⟩ := h (id, d) (List.mem_cons_self ..)
      simp only at htd hle
      rw [htd]
      simp only
      rw [if_neg (by omega)]
      exact (rebuildAssocLookups_noPanic traitData rest fun p hp => h p (List.mem_cons_of_mem _ hp)).andThen
        fun _ _ => .ok _

/-- what `lower_goal` relies on in a successfully lowered program -/
structure Lowered.WF (prog : Lowered) : Prop where
  tb : prog.tb.WF
  assoc : ∀ p ∈ prog.assocTyData,
    ∃ td, alookup prog.traitData p.2.traitId = some td ∧ td.nBinders ≤ p.2.binders.length
  traits : ∀ n id, alookup prog.tb.traitIds n = some id → alookup prog.traitData id ≠ none

theorem lowerProgram_noPanic (p : AProgram) : NoPanic (lowerProgram .fixed p) := by
  refine (extractAssoc_noPanic p _ _ _).andThen fun res hres => ?_
  obtain ⟨hwf, ha, hc⟩ := extracted_tables hres
  exact lowerItems_noPanic (env := ⟨.fixed, extractIds res.1 0 p, []⟩) ⟨rfl, hwf⟩ p 0 _ rfl ha hc

theorem lowerProgram_wf {p : AProgram} {prog : Lowered} (h : lowerProgram .fixed p = .ok prog) : prog.WF := by
  unfold lowerProgram at h
  obtain ⟨res, hres, h⟩ := andThen_ok_inv h
  obtain ⟨hwf, _⟩ := extracted_tables hres
  obtain ⟨h1, h2, _, h4⟩ := lowerItems_spec p 0 _ prog h
  have hi : LInv { tb := extractIds res.1 0 p } 0 :=
    ⟨fun k hk => by simp [alookup] at hk, fun p hp => by cases hp⟩
  refine ⟨by rw [h1]; exact hwf, (h2 hi).assoc, fun n id hn => ?_⟩
  rw [h1] at hn
  rcases extractIds_traitIds p res.1 0 n id hn with hn | hn
  · rw [(extractAssoc_spec p _ _ _ res hres).2.1] at hn
    cases hn
  · exact h4 id hn

theorem lowerGoalTop_noPanic {prog : Lowered} (hp : prog.WF) (g : AGoal) :
    NoPanic (lowerGoalTop .fixed prog g) := by
  refine (rebuildAssocLookups_noPanic _ _ hp.assoc).andThen fun lookups _ => ?_
  apply lowerGoal_noPanic
  refine ⟨rfl, ⟨hp.tb.adt, hp.tb.fnDef, hp.tb.closure, hp.tb.trait, ?_, hp.tb.opaqueT, hp.tb.coroutine⟩⟩
  intro n id hn
  exact alookup_map_ne_none (fun d => d.auto) prog.traitData id (hp.traits n id hn)

end Chalk.Resolve
