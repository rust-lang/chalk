/-
  Helpers for `Props/C02gen.lean` (the translation of `forall<T> { G }` by a fresh opaque constant):
  a replacement of constants that is the identity outside the set `N` fixes everything that avoids
  `N` (terms, atoms, hypothesis lists).
-/
import ChalkModel.Lemmas.GenericLemmas

namespace Chalk.Sem

mutual
  theorem Tm.repl_of_avoids {N : String → Prop} {ρ : String → Option Tm} (hρ : ∀ c, ¬ N c → ρ c = none) :
      (t : Tm) → t.Avoids N → t.repl ρ = t
    | .var _, _ => by simp [Tm.repl]
    | .app c args, h => by
        simp only [Tm.Avoids] at h
        rw [Tm.repl_app_of_none (hρ c h.1), Tms.repl_of_avoids hρ args h.2]
  theorem Tms.repl_of_avoids {N : String → Prop} {ρ : String → Option Tm} (hρ : ∀ c, ¬ N c → ρ c = none) :
      (ts : Tms) → ts.Avoids N → ts.repl ρ = ts
    | .nil, _ => by simp [Tms.repl]
    | .cons t ts, h => by
        simp only [Tms.Avoids] at h
        simp only [Tms.repl]
        rw [Tm.repl_of_avoids hρ t h.1, Tms.repl_of_avoids hρ ts h.2]
end

theorem Atom.repl_of_avoids {N : String → Prop} {ρ : String → Option Tm} (hρ : ∀ c, ¬ N c → ρ c = none)
    (a : Atom) (h : a.Avoids N) : a.repl ρ = a := by
  simp only [Atom.repl]
  rw [Tms.repl_of_avoids hρ a.args h]

theorem map_repl_of_avoids {N : String → Prop} {ρ : String → Option Tm} (hρ : ∀ c, ¬ N c → ρ c = none)
    (Γ : List Atom) (h : ∀ a ∈ Γ, a.Avoids N) : Γ.map (Atom.repl ρ) = Γ :=
  (List.map_congr_left fun a ha => Atom.repl_of_avoids hρ a (h a ha)).trans (List.map_id Γ)

theorem GHolds.repl_fixed {N : String → Prop} {ρ : String → Option Tm} (hρ : ∀ c, ¬ N c → ρ c = none)
    {P : Program} (hP : P.Avoids N) {Γ : List Atom} (hΓ : ∀ a ∈ Γ, a.Avoids N) {g : Goal} (hg : g.Avoids N)
    (hpos : g.Positive) (θ : Nat → Tm) (h : GHolds P Γ (g.inst θ)) :
    GHolds P Γ (g.inst (fun i => (θ i).repl ρ)) := by
  have h2 := GHolds.repl hρ hP _ (Goal.positive_inst θ g hpos) Γ h
  rw [map_repl_of_avoids hρ Γ hΓ, Goal.repl_inst hρ θ g hg] at h2
  exact h2

def hypsAllSyms (p : String → Bool) (Γ : List Atom) : Bool := Γ.all (Atom.allSyms p)

theorem hyps_avoid_of_allSyms {N : String → Prop} {p : String → Bool} (hp : ∀ c, p c = true → ¬ N c)
    (Γ : List Atom) (h : hypsAllSyms p Γ = true) : ∀ a ∈ Γ, a.Avoids N := by
  simp only [hypsAllSyms, List.all_eq_true] at h
  exact fun a ha => Atom.avoids_of_allSyms hp a (h a ha)

end Chalk.Sem
