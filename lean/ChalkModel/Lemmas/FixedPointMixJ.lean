/-
  FixedPointMixJ.lean — both polarities: `solve_goal` meets its specification `SubSpec` (`solveGoal_spec`,
  `finishGoal_spec`); totality without a work budget (`solveGoal_tot`).
-/
import ChalkModel.Lemmas.FixedPointMixI

namespace Chalk.FixedPoint.Mix
open Chalk.FixedPoint.Cyc (JE JA MinLe InCache InGraph Def Undef flagAt
  getElem?_prefix headNode mid_cases mid_at setCycle_getElem?_eq finishGoal pushed cacheLookup inCache_iff_lookup
  keptSt cachedSt updateFrom_le_left updateFrom_le_right updateFrom_cases
  stackExt_setCycle_true finishGoal_cases solveGoal_cases Rest
  stack_length_le stack_length_lt)

section
variable {inst : Instance} {P : Nat → Prop} {dom : List Nat} {lvl : Nat → Nat} {fx : Bool} {cfg : Cfg}

def SubTot (inst : Instance) (P : Nat → Prop) (dom : List Nat) (lvl : Nat → Nat) (fx : Bool) (cfg : Cfg) (D : Nat)
    (rec : SubSolver) : Prop :=
  ∀ g m s, Inv inst P dom lvl fx s → g ∈ dom → Below inst lvl s g → cfg.overflowDepth < D + s.stack.length →
    ∃ v m' s', rec g m s = .ok (v, m') s'

/-- `CacheAll` for the true answers -/
def CacheOK (P : Nat → Prop) (s : St) : Prop := ∀ k v, InCache s k v → Holds P v k

theorem finishGoal_spec (h3 : cfg.fixF3 = true) {s0 : St} {g : Nat} {sub : Min} {s3 : St}
    (hp : LoopPost inst P dom lvl fx s0 g sub s3) (m : Min) :
    (finishGoal cfg m s0.stack.length s0.graph.length sub s3).sat (fun r s' =>
      Inv inst P dom lvl fx s' ∧ Step inst P s0 s' r.2 ∧ MinLe r.2 m ∧ Fact inst P s0 s' r.2 g r.1 ∧
      LinkOK lvl s' (lvl g) s0.graph.length m r.2) (BudgetPanic (fun k v => Holds P v k) cfg) := by
  obtain ⟨st', s1, old, cur, new, new3, A, hend⟩ := hp
  have hlow : cur = botOf inst g → ¬ InG inst P s0 g :=
    fun hb => loop_low A.L A.i1 A.step A.fact g A.L.u0 (Or.inr ⟨rfl, hb⟩)
  have hle : MinLe (Min.updateFrom m sub) m := updateFrom_le_left m sub
  have hfl' : cur ≠ .ambig → ¬ flagAt s1.stack s0.stack.length ∨ old = cur :=
    fun hne => hend.kind.elim (fun h1 => h1.2) (fun h1 => absurd h1.2 hne)
  -- the link of the result, for any final graph that keeps the old graph as a prefix
  have hlink : ∀ sF : St, (∃ r, sF.graph = s0.graph ++ r) →
      LinkOK lvl sF (lvl g) s0.graph.length m (Min.updateFrom m sub) := by
    intro sF hpre
    cases updateFrom_cases m sub with
    | inl e => exact Or.inl e
    | inr e =>
      cases A.link with
      | inl e2 =>
        left
        rw [e2]
        cases m <;> rfl
      | inr e2 =>
        obtain ⟨l, e3, hex⟩ := e2
        refine Or.inr ⟨l, by rw [e, e3], fun hlt => ?_⟩
        obtain ⟨n', hn', hle'⟩ := hex (by rw [A.gt, List.length_append]; omega)
        obtain ⟨r, hr⟩ := hpre
        rw [A.g1] at hn'
        rcases mid_cases _ _ _ l n' hn' with h1 | h1 | h1
        · exact ⟨n', by rw [hr]; exact getElem?_prefix h1.2, hle'⟩
        · omega
        · omega
  -- the reported fact, once the node is gone from the graph
  have hfact : ∀ (sF : St), sF.interrupted = s1.interrupted → (cur ≠ .ambig → Holds P cur g) →
      Fact inst P s0 sF (Min.updateFrom m sub) g cur := by
    intro sF hiF hcorr
    rcases A.cur_val with hc | hc | hc
    · exact Or.inl ⟨hc, Or.inl (hcorr (by rw [hc]; exact topOf_ne_ambig inst g))⟩
    · exact Or.inr (Or.inl ⟨hc, hcorr (by rw [hc]; exact botOf_ne_ambig inst g), hlow hc⟩)
    · exact Or.inr (Or.inr ⟨hc, by rw [hiF]; exact A.amb hc⟩)
  rcases finishGoal_cases h3 hend A.hnew A.amb m with
    ⟨l, hl, hlt, e, Pp⟩ | ⟨hge, e, Pp⟩ | ⟨hge, hnew, hne, hni, cc1, cc6, hc1, hdr, e, Pp⟩
  · rw [e]
    have hkeep : Inv inst P dom lvl fx (keptSt s3 (s0.graph ++ (⟨g, cur, none, sub⟩ : Node) :: new3)) ∧
        Step inst P s0 (keptSt s3 (s0.graph ++ (⟨g, cur, none, sub⟩ : Node) :: new3)) sub := by
      cases hend.kind with
      | inl h1 =>
        obtain ⟨e, hfl⟩ := h1
        subst e
        exact A.finish_keep Pp hfl l hl hlt rfl
      | inr h1 =>
        obtain ⟨e, hca⟩ := h1
        subst e; subst hca
        exact A.finish_keep_amb rfl Pp l hl hlt rfl
    obtain ⟨i5, hs5⟩ := hkeep
    refine ⟨i5, hs5.weaken (updateFrom_le_right m sub), hle, ?_, hlink _ ⟨_, rfl⟩⟩
    rcases A.cur_val with hc | hc | hc
    · refine Or.inl ⟨hc, Or.inr ⟨s0.graph.length, _, mid_at _ _ _, rfl, rfl, hc.symm, ?_,
        fun d hd => by cases hd⟩⟩
      refine (updateFrom_le_right m sub).trans ?_
      rw [hl]
      exact Nat.le_of_lt hlt
    · exact Or.inr (Or.inl ⟨hc, A.cur_holds hc, hlow hc⟩)
    · exact Or.inr (Or.inr ⟨hc, by
        show s3.interrupted = true
        rw [hend.rest.interrupted]; exact A.amb hc⟩)
  · -- caching disabled, or interrupted (F3: nothing is cached): `rollback_to(dfn)`
    rw [e]
    obtain ⟨i6, hs6, hcorr⟩ := A.finish_discard Pp hfl' hge rfl
    exact ⟨i6, hs6 _, hle, hfact _ hend.rest.interrupted hcorr, hlink _ ⟨[], by simp [keptSt]⟩⟩
  · subst hnew
    rw [e]
    obtain ⟨i6, hs6, hcorr⟩ := A.finish_cache (s6 := cachedSt s3 s0.graph cc6) Pp (hfl' hne) hge rfl cc1 cc6 hc1
      rfl hdr hni
    exact ⟨i6, hs6 _, hle, hfact _ hend.rest.interrupted (fun _ => hcorr), hlink _ ⟨[], by simp [cachedSt]⟩⟩

theorem Fact.of_work {s s' : St} {w : Nat} {m' : Min} {g : Nat} {v : V}
    (h : Fact inst P { s with work := w } s' m' g v) : Fact inst P s s' m' g v := h

theorem hit_fact {s : St} (hi : Inv inst P dom lvl fx s) {g dfn : Nat} {node : Node} (hn : s.graph[dfn]? = some node)
    (hgo : node.goal = g) {s' : St} {m' : Min} (hpre : s'.graph = s.graph)
    (hint : s'.interrupted = s.interrupted)
    (hfl : ∀ d, node.stackDepth = some d → flagAt s'.stack d) (l : Nat) (hlk : node.links = some l)
    (hl : l ≤ dfn) (hm' : MinLe m' node.links) : Fact inst P s s' m' g node.solution := by
  subst hgo
  rcases hi.val dfn node hn with ht' | hb | ha
  · refine Or.inl ⟨ht', Or.inr ⟨dfn, node, by rw [hpre]; exact hn, rfl, rfl, ht'.symm, ?_, hfl⟩⟩
    refine hm'.trans ?_
    rw [hlk]; exact hl
  · exact Or.inr (Or.inl ⟨hb, hi.approx dfn node hn hb,
      hi.not_inG_of_bot (Or.inr ⟨dfn, node, hn, rfl, hb⟩)⟩)
  · exact Or.inr (Or.inr ⟨ha, by rw [hint]; exact hi.amb dfn node hn ha⟩)

/-- `solve_goal` meets its specification: it returns with invariant, frame and the fact about its answer,
    or ends in the budget panic with a right cache; no assert of the framework fires, no cycle is judged
    mixed, the stack does not overflow, the loop stops within two rounds (any `should_continue` oracle) -/
theorem solveGoal_spec (hyp : MHyp inst P dom lvl) (h3 : cfg.fixF3 = true) (h10 : fx = true → cfg.fixF10 = true)
    (h16 : fx = true → cfg.fixF16 = true) (hov : dom.length ≤ cfg.overflowDepth) (hr : 2 ≤ cfg.rounds) :
    ∀ d, SubSpec inst P dom lvl fx cfg d (solveGoal inst cfg d)
  | 0 => by
    intro g m s hi _ _ hres
    have := stack_length_le hi.nodup hi.inDom hi.cnt
    omega
  | d + 1 => by
    intro g m s hi hg hbel hres
    have i0 : Inv inst P dom lvl fx { s with work := s.work + 1 } := hi.work _
    rcases solveGoal_cases inst cfg d g m hi.cacheOK hi.nodup hi.inDom hi.cnt hi.stk hg hov with
      ⟨s', e, hp⟩ | ⟨w, hin, e⟩ | ⟨dfn, node, hn, hgo, hsd, e⟩ | ⟨dfn, node, depth, hn, hgo, hsd, e⟩ | ⟨hu, hlt, e⟩
    · rw [e]; exact hp
    · rw [e]
      refine ⟨i0, Step.work s _ _, MinLe.refl _, ?_, Or.inl rfl⟩
      have hh := hi.cacheOK g w hin
      rcases hi.defVal (Or.inl hin) with e | e | e
      · exact Or.inl ⟨e, Or.inl hh⟩
      · refine Or.inr (Or.inl ⟨e, hh, hi.not_inG_of_bot (Or.inl ?_)⟩)
        rw [← e]; exact hin
      · rw [e] at hh; exact hh.elim
    · rw [e]
      obtain ⟨l, hlk, hll⟩ := hi.nonstk dfn node hn hsd
      refine ⟨i0, Step.work s _ _, updateFrom_le_left _ _,
        hit_fact hi hn hgo rfl rfl (fun d' hd' => by rw [hsd] at hd'; cases hd') l hlk (Nat.le_of_lt hll)
          (updateFrom_le_right m node.links), ?_⟩
      cases updateFrom_cases m node.links with
      | inl e => exact Or.inl e
      | inr e =>
        refine Or.inr ⟨l, by rw [e, hlk], fun _ => ?_⟩
        obtain ⟨n', hn', hle'⟩ := hi.lvlLinks dfn node l hn hsd hlk
        exact ⟨n', hn', by rw [← hgo]; exact hle'⟩
    · -- a cycle is closed: it is not mixed
      obtain ⟨hdl, hlk⟩ := hi.stk dfn node depth hn hsd
      have hext := stackExt_setCycle_true depth s.stack
      have R : Rest s { s with work := s.work + 1, stack := setCycle true depth s.stack } := ⟨rfl, rfl, rfl, rfl⟩
      have i1 : Inv inst P dom lvl fx { s with work := s.work + 1, stack := setCycle true depth s.stack } :=
        hi.stackChange rfl R hext
      have hmix : mixedFrom (setCycle true depth s.stack) depth = false := hit_not_mixed hi hbel hn hgo hsd
      have hst : Step inst P s { s with work := s.work + 1, stack := setCycle true depth s.stack }
          (Min.updateFrom m node.links) :=
        Step.stackOnly (s := s) (s' := { s with work := s.work + 1, stack := setCycle true depth s.stack }) rfl R hext _
      rw [e, hmix]
      simp only [Bool.false_eq_true, if_false]
      refine ⟨i1, hst, updateFrom_le_left _ _,
        hit_fact hi hn hgo rfl rfl (fun d' hd' => ?_) dfn hlk (Nat.le_refl _) (updateFrom_le_right m node.links), ?_⟩
      · rw [hsd] at hd'
        cases hd'
        exact ⟨_, setCycle_getElem?_eq true depth s.stack _ (List.getElem?_eq_getElem hdl), rfl⟩
      · cases updateFrom_cases m node.links with
        | inl e => exact Or.inl e
        | inr e =>
          exact Or.inr ⟨dfn, by rw [e, hlk], fun _ => ⟨node, hn, by rw [hgo]; exact Nat.le_refl _⟩⟩
    · rw [e]
      have hloop := loop_spec hyp h3 h10 h16 (solveGoal_spec hyp h3 h10 h16 hov hr d)
        (s0 := { s with work := s.work + 1 }) (g := g)
        (by show cfg.overflowDepth < d + (s.stack.length + 1); omega) cfg.rounds _
        (push_loopSt hyp i0 hu hg hbel) (Or.inl ⟨hr, by simp only [pushed, headNode, topOf]⟩)
      cases hlp : solveNewSubgoal inst cfg (solveGoal inst cfg d) g s.stack.length s.graph.length
          cfg.rounds (pushed inst g { s with work := s.work + 1 }) with
      | panic site s3 => rw [hlp] at hloop; exact hloop
      | ok sub s3 =>
        rw [hlp] at hloop
        exact (finishGoal_spec h3 hloop m).imp (fun _ _ ⟨i', hs', hle', hf', hk'⟩ =>
          ⟨i', Step.of_work hs', hle', Fact.of_work hf', hk'⟩)

theorem solveGoal_tot (hyp : MHyp inst P dom lvl) (h3 : cfg.fixF3 = true) (h10 : fx = true → cfg.fixF10 = true)
    (h16 : fx = true → cfg.fixF16 = true) (hb : cfg.budget = none)
    (hov : dom.length ≤ cfg.overflowDepth) (hr : 2 ≤ cfg.rounds) :
    ∀ d, SubTot inst P dom lvl fx cfg d (solveGoal inst cfg d) := by
  intro d g m s hi hg hbel hres
  have h := solveGoal_spec hyp h3 h10 h16 hov hr d g m s hi hg hbel hres
  cases hr' : solveGoal inst cfg d g m s with
  | ok r s' => exact ⟨r.1, r.2, s', rfl⟩
  | panic site s' => rw [hr'] at h; exact absurd hb h.2.1

end

end Chalk.FixedPoint.Mix
