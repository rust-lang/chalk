/-
  FixedPointMixH.lean — both polarities: changes of the stack alone keep `Inv` and are a `Step`; a goal found on the
  stack never closes a mixed cycle (`hit_not_mixed`); the state after the push starts the loop (`push_loopSt`).
-/
import ChalkModel.Lemmas.FixedPointMixE
import ChalkModel.Lemmas.FixedPointMixF
import ChalkModel.Lemmas.FixedPointMixG

namespace Chalk.FixedPoint.Mix
open Chalk.FixedPoint.Cyc (JE JA MinLe InCache InGraph Def Undef flagAt StackExt stackGoals
  getElem?_lt_length getElem?_prefix def_or_undef headNode mid_cases mid_at mid_corr Popped
  stackGoals_append stackGoals_nonstack single_cases Rest setCycle_length setCycle_getElem?_ne
  setCycle_getElem?_eq pushed mixedFrom_seg fixes_of_eq Frame LoopFrame def_of_eq)

section
variable {inst : Instance} {P : Nat → Prop} {dom : List Nat} {lvl : Nat → Nat} {fx : Bool}

theorem Inv.stackChange {s s' : St} (h : Inv inst P dom lvl fx s) (hg : s'.graph = s.graph) (R : Rest s s')
    (hext : StackExt s.stack s'.stack) : Inv inst P dom lvl fx s' := by
  have hwit : ∀ {lb : Min} {v : V} {j : Nat}, Wit inst P s lb v j → Wit inst P s' lb v j :=
    fun hw => hw.from0 ⟨[], by rw [hg, List.append_nil]⟩ (fun d hd => hext.flag hd)
  refine ⟨fixes_of_eq h.fixes R.oracle R.oracleDefault R.interrupted, ?_,
    fun k v hk => h.cacheOK k v (R.inCache.mp hk), ?_, ?_, ?_, ?_, ?_, ?_, ?_, ?_, ?_, ?_, ?_, ?_⟩
  · intro i n hn ha
    rw [hg] at hn
    rw [R.interrupted]; exact h.amb i n hn ha
  · intro d e' he'
    have hlt : d < s.stack.length := by rw [← hext.1]; exact getElem?_lt_length he'
    obtain ⟨e'', he'', hco, _⟩ := hext.2 d s.stack[d] (List.getElem?_eq_getElem hlt)
    rw [he'] at he''
    cases he''
    obtain ⟨i, n, hn, hd, hc⟩ := h.stackNode d s.stack[d] (List.getElem?_eq_getElem hlt)
    exact ⟨i, n, by rw [hg]; exact hn, hd, by rw [hco, hc]⟩
  · rw [hg]; exact h.chain
  · rw [hg]; exact h.nodup
  · intro i n hn v hc
    rw [hg] at hn
    exact h.disj i n hn v (R.inCache.mp hc)
  · rw [hg]; exact h.inDom
  · rw [hg]; exact h.val
  · rw [hg]; exact h.approx
  · intro i n d hn hd
    rw [hg] at hn
    have := h.stk i n d hn hd
    exact ⟨by rw [hext.1]; exact this.1, this.2⟩
  · rw [hg]; exact h.nonstk
  · rw [hg, hext.1]; exact h.cnt
  · intro i n hn hd htop
    rw [hg] at hn
    exact JV.mono (fun j hj => hwit hj) (h.just i n hn hd htop)
  · rw [hg]; exact h.lvlLinks

theorem Step.stackOnly {s s' : St} (hg : s'.graph = s.graph) (R : Rest s s')
    (hext : StackExt s.stack s'.stack) (lb : Min) : Step inst P s s' lb :=
  ⟨Frame.stackOnly hg R hext lb, fun _ hu hd => absurd (def_of_eq hg R.cache hd) (hu _)⟩

theorem Inv.not_inG_of_bot {s : St} (h : Inv inst P dom lvl fx s) {k : Nat} (hd : Def s k (botOf inst k)) :
    ¬ InG inst P s k := by
  intro hin
  cases hin.unfold with
  | inl h2 =>
    cases h2 with
    | inl h3 => exact topOf_ne_botOf inst k (h.defFun h3 hd)
    | inr h3 => exact botOf_ne_ambig inst k (h.defFun hd h3)
  | inr h2 => exact h2.1 _ hd

/-- when the goal `g` is found on the stack at depth `depth`, the stack from there on has the
    polarity of `g`: the cycle that is closed is not mixed -/
theorem hit_same_pol {s : St} (hi : Inv inst P dom lvl fx s) {g : Nat} (hb : Below inst lvl s g) {dfn : Nat}
    {x : Node} {depth : Nat} (hx : s.graph[dfn]? = some x) (hgo : x.goal = g)
    (hsd : x.stackDepth = some depth) :
    ∀ (j : Nat) (e : StackEntry), depth ≤ j → s.stack[j]? = some e → e.coinductiveGoal = inst.coind g := by
  intro j e hle he
  obtain ⟨i, n, hn, hd, hc⟩ := hi.stackNode j e he
  have h1 := hi.chain dfn x depth i n j hx hsd hn hd hle
  have h2 := hb i n j hn hd
  rw [hgo] at h1
  rw [hc, h1.2 (Nat.le_antisymm h1.1 h2.1)]

theorem hit_not_mixed {s : St} (hi : Inv inst P dom lvl fx s) {g : Nat} (hb : Below inst lvl s g) {dfn : Nat}
    {x : Node} {depth : Nat} (hx : s.graph[dfn]? = some x) (hgo : x.goal = g)
    (hsd : x.stackDepth = some depth) :
    mixedFrom (setCycle true depth s.stack) depth = false := by
  apply mixedFrom_seg (b := inst.coind g)
  intro e he
  obtain ⟨k, hk⟩ := List.getElem?_of_mem he
  rw [List.getElem?_drop] at hk
  by_cases hk0 : depth + k = depth
  · rw [hk0] at hk
    have hlt : depth < s.stack.length := (hi.stk dfn x depth hx hsd).1
    rw [setCycle_getElem?_eq true depth s.stack _ (List.getElem?_eq_getElem hlt)] at hk
    cases hk
    exact hit_same_pol hi hb hx hgo hsd depth s.stack[depth] (Nat.le_refl _) (List.getElem?_eq_getElem hlt)
  · rw [setCycle_getElem?_ne _ _ _ _ hk0] at hk
    exact hit_same_pol hi hb hx hgo hsd (depth + k) e (Nat.le_add_right _ _) hk

theorem push_loopSt (hyp : MHyp inst P dom lvl) {s0 : St} (i0 : Inv inst P dom lvl fx s0) {g : Nat}
    (hu : Undef s0 g) (hg : g ∈ dom) (hb : Below inst lvl s0 g) :
    LoopSt inst P dom lvl fx s0 g (pushed inst g s0) := by
  have hgr : (pushed inst g s0).graph = s0.graph ++ [headNode s0 g (topOf inst g)] := by
    simp only [pushed, headNode, topOf]
  have hst : (pushed inst g s0).stack = s0.stack ++ [⟨inst.coind g, false⟩] := by
    simp only [pushed]
  have LF := LoopFrame.pushed inst g s0
  have hlen : (pushed inst g s0).stack.length = s0.stack.length + 1 := LF.slen
  have hflag : ∀ d, flagAt s0.stack d → flagAt (pushed inst g s0).stack d := fun _ hd => LF.sext.flag hd
  have hnode : ∀ {i : Nat} {n : Node}, (pushed inst g s0).graph[i]? = some n →
      (i < s0.graph.length ∧ s0.graph[i]? = some n) ∨
      (i = s0.graph.length ∧ n = headNode s0 g (topOf inst g)) := by
    intro i n hn
    rw [hgr] at hn
    exact single_cases _ _ i n hn
  have hhead : (pushed inst g s0).graph[s0.graph.length]? = some (headNode s0 g (topOf inst g)) := by
    rw [hgr]; exact mid_at _ _ _
  have hinv : Inv inst P dom lvl fx (pushed inst g s0) := by
    refine ⟨i0.fixes, ?_, i0.cacheOK, ?_, ?_, ?_, ?_, ?_, ?_, ?_, ?_, ?_, ?_, ?_, ?_⟩
    · intro i n hn ha
      cases hnode hn with
      | inl h => exact i0.amb i n h.2 ha
      | inr h =>
        rw [h.2] at ha
        have e : topOf inst g = .ambig := ha
        exact absurd e (topOf_ne_ambig inst g)
    · intro d e he
      rw [hst] at he
      rcases Nat.lt_or_ge d s0.stack.length with hlt | hge
      · rw [List.getElem?_append_left hlt] at he
        obtain ⟨i, n, hn, hd, hc⟩ := i0.stackNode d e he
        exact ⟨i, n, by rw [hgr]; exact getElem?_prefix hn, hd, hc⟩
      · have hd : d = s0.stack.length := by
          have := getElem?_lt_length he
          simp only [List.length_append, List.length_singleton] at this
          omega
        subst hd
        rw [List.getElem?_append_right (Nat.le_refl _), Nat.sub_self] at he
        cases he
        exact ⟨_, _, hhead, rfl, rfl⟩
    · intro i n d i' n' d' hn hd hn' hd' hle
      cases hnode hn with
      | inl h =>
        cases hnode hn' with
        | inl h' => exact i0.chain i n d i' n' d' h.2 hd h'.2 hd' hle
        | inr h' => rw [h'.2]; exact hb i n d h.2 hd
      | inr h =>
        rw [h.2] at hd
        simp only [headNode, Option.some.injEq] at hd
        cases hnode hn' with
        | inl h' =>
          have := (i0.stk i' n' d' h'.2 hd').1
          omega
        | inr h' => rw [h.2, h'.2]; exact ⟨Nat.le_refl _, fun _ => rfl⟩
    · rw [hgr, List.map_append, List.nodup_append]
      refine ⟨i0.nodup, by simp, ?_⟩
      intro a ha b hb' hab
      simp only [List.map_cons, List.map_nil, List.mem_singleton, headNode] at hb'
      obtain ⟨n, hn, hgo⟩ := List.mem_map.mp ha
      obtain ⟨i, hi⟩ := List.getElem?_of_mem hn
      exact hu n.solution (Or.inr ⟨i, n, hi, by rw [hgo, hab, hb'], rfl⟩)
    · intro i n hn v hc
      cases hnode hn with
      | inl h => exact i0.disj i n h.2 v hc
      | inr h => rw [h.2] at hc; exact hu v (Or.inl hc)
    · intro i n hn
      cases hnode hn with
      | inl h => exact i0.inDom i n h.2
      | inr h => rw [h.2]; exact hg
    · intro i n hn
      cases hnode hn with
      | inl h => exact i0.val i n h.2
      | inr h => rw [h.2]; exact Or.inl rfl
    · intro i n hn hb'
      cases hnode hn with
      | inl h => exact i0.approx i n h.2 hb'
      | inr h =>
        rw [h.2] at hb'
        exact absurd hb' (topOf_ne_botOf inst g)
    · intro i n d hn hd
      cases hnode hn with
      | inl h =>
        have := i0.stk i n d h.2 hd
        exact ⟨by rw [hlen]; exact Nat.lt_succ_of_lt this.1, this.2⟩
      | inr h =>
        rw [h.2] at hd ⊢
        simp only [headNode, Option.some.injEq] at hd
        subst hd
        exact ⟨by rw [hlen]; exact Nat.lt_succ_self _, by rw [h.1]; rfl⟩
    · intro i n hn hd
      cases hnode hn with
      | inl h => exact i0.nonstk i n h.2 hd
      | inr h => rw [h.2] at hd; cases hd
    · rw [hgr, stackGoals_append, List.length_append, i0.cnt, hlen]
      rfl
    · intro i n hn hd htop
      cases hnode hn with
      | inl h => exact JV.mono (fun j hj => hj.from0 ⟨_, hgr⟩ hflag) (i0.just i n h.2 hd htop)
      | inr h => rw [h.2] at hd; cases hd
    · intro i n l hn hd hlk
      cases hnode hn with
      | inl h =>
        obtain ⟨n', hn', hle⟩ := i0.lvlLinks i n l h.2 hd hlk
        exact ⟨n', by rw [hgr]; exact getElem?_prefix hn', hle⟩
      | inr h => rw [h.2] at hd; cases hd
  refine ⟨LF, hyp.strat, i0, hu, hg, hb, hinv, ?_⟩
  intro k hu' hd
  exfalso
  cases hd with
  | inl h => exact hu' _ (Or.inl h)
  | inr h =>
    obtain ⟨i, n, hn, hgo, hv⟩ := h
    cases hnode hn with
    | inl h1 => exact hu' _ (Or.inr ⟨i, n, h1.2, hgo, hv⟩)
    | inr h1 =>
      rw [h1.2] at hv hgo
      have e : g = k := hgo
      subst e
      exact topOf_ne_botOf inst g hv

theorem LoopSt.work {s0 st : St} {g : Nat} (L : LoopSt inst P dom lvl fx s0 g st) (w : Nat) :
    LoopSt inst P dom lvl fx s0 g { st with work := w } :=
  ⟨L.toLoopFrame.work w, L.hP, L.i0, L.u0, L.gdom, L.below, L.inv.work w, L.low⟩

end

end Chalk.FixedPoint.Mix
