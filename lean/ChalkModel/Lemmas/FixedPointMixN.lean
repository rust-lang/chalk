/-
  FixedPointMixN.lean — `solve_root_goal` on stratified instances (coinductive and inductive goals,
  no mixed cycle) meets the contract `RootSpec` with `Holds P` as the right answer
  (`FixedPointHistory.lean` draws the consequences for calls and histories).
-/
import ChalkModel.Lemmas.FixedPointMixJ
import ChalkModel.Lemmas.FixedPointHistory

namespace Chalk.FixedPoint.Mix
open Chalk.FixedPoint.Cyc (InCache QuietSt graph_nil)

section
variable {inst : Instance} {P : Nat → Prop} {dom : List Nat} {lvl : Nat → Nat} {fx : Bool} {cfg : Cfg}

theorem cacheOK_of_none {s : St} (h : s.cache = none) : CacheOK P s :=
  CacheAll.of_none h

/-- `solve_root_goal` of the repaired code (the repairs `fixF10` and `fixF16` are needed only if the oracle can say
    "stop": `fx`) meets its contract -/
theorem solveRootGoal_general (hyp : MHyp inst P dom lvl) (h3 : cfg.fixF3 = true) (h7 : cfg.fixF7 = true)
    (h10 : fx = true → cfg.fixF10 = true) (h16 : fx = true → cfg.fixF16 = true)
    (hov : dom.length ≤ cfg.overflowDepth) (hr : 2 ≤ cfg.rounds) :
    RootSpec (fun k v => Holds P v k) inst cfg dom fx := by
  intro s hfx hok g hg
  have i1 : Inv inst P dom lvl fx { s with stack := [], graph := [], interrupted := false } := by
    refine ⟨hfx.imp id (fun q => ⟨q, rfl⟩), ?_, hok, ?_, ?_, List.nodup_nil, ?_, ?_, ?_, ?_, ?_, ?_, rfl, ?_, ?_⟩
    · intro i n hn; exact absurd hn (by simp)
    · intro d e he; exact absurd he (by simp)
    · intro i n d i' n' d' hn; exact absurd hn (by simp)
    all_goals first
      | (intro i n d hn; exact absurd hn (by simp))
      | (intro i n hn; exact absurd hn (by simp))
  have hbel : Below inst lvl { s with stack := [], graph := [], interrupted := false } g := by
    intro i n d hn
    exact absurd hn (by simp)
  have h := solveGoal_spec hyp h3 h10 h16 hov hr (cfg.overflowDepth + 1) g none _ i1 hg hbel
    (by show cfg.overflowDepth < cfg.overflowDepth + 1 + 0; omega)
  cases hrun : solveGoal inst cfg (cfg.overflowDepth + 1) g none
      { s with stack := [], graph := [], interrupted := false } with
  | panic site s' =>
    rw [hrun] at h
    obtain ⟨rfl, h2⟩ := h
    exact Or.inr ⟨s', solveRootGoal_panic h3 h7 hrun, h2⟩
  | ok r s' =>
  obtain ⟨v, m'⟩ := r
  rw [hrun] at h
  obtain ⟨i', hs', _, hf', _⟩ := h
  left
  have hstack : s'.stack = [] := List.eq_nil_of_length_eq_zero hs'.stack.1
  have hgraph : s'.graph = [] := graph_nil hstack i'.stk i'.nonstk
  refine ⟨v, s', ?_, ?_, hstack, hgraph, i'.cacheOK, hs'.cacheMode, fun q => (hs'.quiet q).2 rfl⟩
  · exact solveRootGoal_ok h3 h7 hrun
  · rcases hf' with h | h | h
    · left
      cases h.2 with
      | inl ht => exact ht
      | inr hw =>
        obtain ⟨i, n, hn, _⟩ := hw
        rw [hgraph] at hn
        simp at hn
    · exact Or.inl h.2.1
    · exact Or.inr h

theorem history_correct (hyp : MHyp inst P dom lvl) (h3 : cfg.fixF3 = true) (h7 : cfg.fixF7 = true)
    (hov : dom.length ≤ cfg.overflowDepth) (hr : 2 ≤ cfg.rounds) (b : Bool)
    (gs : List Nat) (hd : ∀ g, g ∈ gs → g ∈ dom) (g : Nat) (hg : g ∈ dom) :
    ∃ v, solveOn inst cfg g (runHistory inst cfg (gs.map Call.plain) (St.fresh b)) = .value v ∧
      Holds P v g :=
  RootSpec.plain_history (fun _ => solveRootGoal_general (fx := false) hyp h3 h7 nofun nofun hov hr) b gs hd g hg

end

end Chalk.FixedPoint.Mix
