/-
  C22, layer "items", part 1: binder declarations, fields, variants, attributes, bounds lists.
-/
import ChalkModel.Lemmas.DisplayWhere

namespace Chalk.Display.Parse
open Chalk.Display

theorem angle_binders_length (s : St) (ks : List VK) (i : Nat) : ks.length ≤ (angle (s.binderNamesFrom i ks)).length := by
  cases ks with
  | nil => exact Nat.zero_le _
  | cons k ks =>
      have := sepBy_binders_length s (k :: ks) i
      rw [binderNamesFrom_cons] at this ⊢
      simp only [angle, List.isEmpty_cons, Bool.false_eq_true, if_false, List.length_cons, List.length_append]
      exact Nat.le_succ_of_le (Nat.le_succ_of_le this)

theorem parseAngleBinders_print (s : St) (ks : List VK) (i fuel : Nat) (rest : List Tok)
    (hf : FreshFrom s i) (hfuel : (angle (s.binderNamesFrom i ks)).length ≤ fuel) (hr : ∀ r, rest ≠ .kw "<" :: r) :
    parseAngleBinders fuel (angle (s.binderNamesFrom i ks) ++ rest) = some (ks, rest) := by
  cases ks with
  | nil =>
      simp only [St.binderNamesFrom, angle, List.isEmpty_nil, if_true, List.nil_append]
      unfold parseAngleBinders
      split
      · exact absurd rfl (hr _)
      · rfl
  | cons k ks =>
      have h := parseBinders_print s (k :: ks) i fuel (.kw ">" :: rest) (by simp) hf
        (Nat.le_trans (angle_binders_length s _ i) hfuel) (by simp)
      rw [binderNamesFrom_cons] at h ⊢
      simp only [angle, List.isEmpty_cons, Bool.false_eq_true, if_false, List.cons_append,
        List.append_assoc, List.nil_append, parseAngleBinders, h]

theorem binderNamesFrom_append (s : St) : ∀ (ks1 ks2 : List VK) (i : Nat),
    s.binderNamesFrom i (ks1 ++ ks2) = s.binderNamesFrom i ks1 ++ s.binderNamesFrom (i + ks1.length) ks2
  | [], ks2, i => rfl
  | k :: ks1, ks2, i => by
      rw [List.cons_append, binderNamesFrom_cons, binderNamesFrom_cons, binderNamesFrom_append s ks1 ks2 (i + 1),
        List.cons_append, List.length_cons, Nat.add_assoc, Nat.add_comm 1]

theorem binderNames_drop (s : St) (ks1 ks2 : List VK) :
    (s.binderNames (ks1 ++ ks2)).drop ks1.length = s.binderNamesFrom ks1.length ks2 := by
  have := List.drop_left (l₁ := s.binderNamesFrom 0 ks1) (l₂ := s.binderNamesFrom (0 + ks1.length) ks2)
  rw [binderNamesFrom_length] at this
  rw [St.binderNames, binderNamesFrom_append, this, Nat.zero_add]

theorem parseFields_nil {f : Nat} {p : PSt} {rest : List Tok}
    (h : ∀ j r, rest ≠ .idx "field" j :: .kw ":" :: r) : parseFields (f + 1) p rest = some ([], rest) := by
  rw [parseFields]
  exact h

theorem parseFields_one {f : Nat} {p : PSt} {i : Nat} {toks rest : List Tok} {t : Ty}
    (ht : parseTy f p toks = some (t, rest)) (h : ∀ r, rest ≠ .kw "," :: r) :
    parseFields (f + 1) p (.idx "field" i :: .kw ":" :: toks) = some ([t], rest) := by
  rw [parseFields, ht]
  simp only

theorem parseFields_more {f : Nat} {p : PSt} {i : Nat} {toks rest rest' : List Tok} {t : Ty} {ts : List Ty}
    (ht : parseTy f p toks = some (t, .kw "," :: rest)) (hts : parseFields f p rest = some (ts, rest')) :
    parseFields (f + 1) p (.idx "field" i :: .kw ":" :: toks) = some (t :: ts, rest') := by
  rw [parseFields, ht]
  simp only [hts]

theorem printFieldsFrom_cons (s : St) (i : Nat) (t : Ty) (ts : List Ty) :
    printFieldsFrom s i (t :: ts) = (.idx "field" i :: .kw ":" :: printTy s t) :: printFieldsFrom s (i + 1) ts := rfl

theorem parseFields_print {p : PSt} (hp : Faithful p) : ∀ (fs : List Ty) (i fuel : Nat) (rest : List Tok),
    fs.all (wfTy p.env) = true → 8 * (sepBy comma (printFieldsFrom p.st i fs)).length + 1 ≤ fuel →
    (∀ j r, rest ≠ .idx "field" j :: .kw ":" :: r) → (∀ r, rest ≠ .kw "<" :: r) → (∀ r, rest ≠ .kw "," :: r) →
    parseFields fuel p (sepBy comma (printFieldsFrom p.st i fs) ++ rest) = some (fs, rest)
  | [], i, fuel, rest, _, hsz, h0, _, _ => by
      obtain ⟨f, rfl⟩ := Nat.exists_eq_add_of_le' (Nat.le_trans (Nat.le_add_left 1 _) hsz)
      exact parseFields_nil h0
  | [t], i, fuel, rest, hwf, hsz, h0, h1, h2 => by
      obtain ⟨f, rfl⟩ := Nat.exists_eq_add_of_le' (Nat.le_trans (Nat.le_add_left 1 _) hsz)
      have hsz := Nat.le_of_add_le_add_right hsz
      simp only [List.all_cons, List.all_nil, Bool.and_true] at hwf
      simp only [printFieldsFrom, sepBy, List.length_cons] at hsz
      simp only [printFieldsFrom, sepBy, List.cons_append]
      exact parseFields_one (parseTy_print_len hp hwf (Nat.le_trans (by simp +arith only) hsz) h1) h2
  | t :: t' :: ts, i, fuel, rest, hwf, hsz, h0, h1, h2 => by
      obtain ⟨f, rfl⟩ := Nat.exists_eq_add_of_le' (Nat.le_trans (Nat.le_add_left 1 _) hsz)
      have hsz := Nat.le_of_add_le_add_right hsz
      rw [List.all_cons, Bool.and_eq_true] at hwf
      rw [printFieldsFrom_cons, printFieldsFrom_cons, sepBy_cons_cons, ← printFieldsFrom_cons] at hsz ⊢
      simp only [List.length_append, List.length_cons, comma, List.length_nil] at hsz
      simp only [List.append_assoc, comma, List.cons_append, List.nil_append]
      exact parseFields_more (parseTy_print_len hp hwf.1 (Nat.le_trans (by simp +arith only) hsz) (by simp))
        (parseFields_print hp (t' :: ts) (i + 1) f rest hwf.2 (Nat.le_trans (by simp +arith only [comma]) hsz) h0 h1 h2)

theorem parseVariants_nil {f : Nat} {p : PSt} {rest : List Tok}
    (h : ∀ j r, rest ≠ .idx "variant" j :: .kw "{" :: r) : parseVariants (f + 1) p rest = some ([], rest) := by
  rw [parseVariants]
  exact h

theorem parseVariants_cons {f : Nat} {p : PSt} {i : Nat} {toks rest rest' : List Tok} {fs : List Ty} {vs : List (List Ty)}
    (hf : parseFields f p toks = some (fs, .kw "}" :: .kw "," :: rest))
    (hvs : parseVariants f p rest = some (vs, rest')) :
    parseVariants (f + 1) p (.idx "variant" i :: .kw "{" :: toks) = some (fs :: vs, rest') := by
  rw [parseVariants, hf]
  simp only [hvs]

theorem parseVariants_print {p : PSt} (hp : Faithful p) : ∀ (vs : List (List Ty)) (i fuel : Nat) (rest : List Tok),
    vs.all (fun v => v.all (wfTy p.env)) = true → 8 * (printVariantsFrom p.st i vs).length + 1 ≤ fuel →
    (∀ j r, rest ≠ .idx "variant" j :: .kw "{" :: r) →
    parseVariants fuel p (printVariantsFrom p.st i vs ++ rest) = some (vs, rest)
  | [], i, fuel, rest, _, hsz, h0 => by
      obtain ⟨f, rfl⟩ := Nat.exists_eq_add_of_le' (Nat.le_trans (Nat.le_add_left 1 _) hsz)
      exact parseVariants_nil h0
  | v :: vs, i, fuel, rest, hwf, hsz, h0 => by
      obtain ⟨f, rfl⟩ := Nat.exists_eq_add_of_le' (Nat.le_trans (Nat.le_add_left 1 _) hsz)
      have hsz := Nat.le_of_add_le_add_right hsz
      rw [List.all_cons, Bool.and_eq_true] at hwf
      simp only [printVariantsFrom, printFields, List.length_append, List.length_cons] at hsz
      simp only [printVariantsFrom, printFields, List.append_assoc, List.cons_append]
      exact parseVariants_cons
        (parseFields_print hp v 0 f _ hwf.1 (Nat.le_trans (by simp +arith only) hsz) (by simp) (by simp) (by simp))
        (parseVariants_print hp vs (i + 1) f rest hwf.2 (Nat.le_trans (by simp +arith only) hsz) h0)

def renderAttr : String × Option String → List Tok
  | (w, none) => attr w
  | (w, some a) => attr1 w a

theorem parseAttrs_print : ∀ (as : List (String × Option String)) (fuel : Nat) (rest : List Tok),
    ((as.map renderAttr).flatten).length + 1 ≤ fuel → (∀ r, rest ≠ .kw "#" :: r) →
    parseAttrs fuel ((as.map renderAttr).flatten ++ rest) = some (as, rest)
  | [], fuel, rest, hf, h => by
      obtain ⟨f, rfl⟩ := Nat.exists_eq_add_of_le' (Nat.le_trans (Nat.le_add_left 1 _) hf)
      show parseAttrs (f + 1) rest = some ([], rest)
      rw [parseAttrs] <;> intros <;> exact h _ ‹_›
  | (w, none) :: as, fuel, rest, hf, h => by
      obtain ⟨f, rfl⟩ := Nat.exists_eq_add_of_le' (Nat.le_trans (Nat.le_add_left 1 _) hf)
      simp only [List.map_cons, List.flatten_cons, renderAttr, attr, List.cons_append, List.nil_append,
        List.length_cons] at hf ⊢
      rw [parseAttrs, parseAttrs_print as f rest (Nat.le_trans (by simp +arith only) (Nat.le_of_add_le_add_right hf)) h]
  | (w, some a) :: as, fuel, rest, hf, h => by
      obtain ⟨f, rfl⟩ := Nat.exists_eq_add_of_le' (Nat.le_trans (Nat.le_add_left 1 _) hf)
      simp only [List.map_cons, List.flatten_cons, renderAttr, attr1, List.cons_append, List.nil_append,
        List.length_cons] at hf ⊢
      rw [parseAttrs, parseAttrs_print as f rest (Nat.le_trans (by simp +arith only) (Nat.le_of_add_le_add_right hf)) h]

theorem printBounds_ofList (s : St) : ∀ (bs : List Bound),
    sepBy [.kw "+"] (bs.map (printBound s)) = printBounds s (Bounds.ofList bs)
  | [] => by simp [sepBy, Bounds.ofList, printBounds]
  | [b] => by simp [sepBy, Bounds.ofList, printBounds, printBoundsTail]
  | b :: b' :: bs => by
      have ih := printBounds_ofList s (b' :: bs)
      rw [List.map_cons, List.map_cons, sepBy_cons_cons, ← List.map_cons, ih]
      simp only [Bounds.ofList, printBounds, printBoundsTail, List.append_assoc, List.cons_append, List.nil_append]

theorem toList_ofList : ∀ (bs : List Bound), (Bounds.ofList bs).toList = bs
  | [] => rfl
  | b :: bs => by simp [Bounds.ofList, Bounds.toList, toList_ofList bs]

theorem wfBounds_ofList (env : List (List VK)) : ∀ (bs : List Bound),
    wfBounds env (Bounds.ofList bs) = bs.all (wfBound env)
  | [] => rfl
  | b :: bs => by simp [Bounds.ofList, wfBounds, wfBounds_ofList env bs]

theorem printWhere_head (s : St) (ws : List QWC) :
    printWhere s ws = [] ∨ ∃ tl, printWhere s ws = .kw "where" :: tl := by
  cases ws with
  | nil => exact Or.inl rfl
  | cons q qs => exact Or.inr ⟨sepBy comma ((q :: qs).map (printQWC s)), by simp [printWhere]⟩

theorem printWhere_follow (s : St) (ws : List QWC) (w k : String) (rest : List Tok)
    (hk : k ≠ w) (hw : w ≠ "where") : ∀ r, printWhere s ws ++ .kw k :: rest ≠ .kw w :: r := by
  intro r h
  rcases printWhere_head s ws with e | ⟨tl, e⟩
  · rw [e] at h; simp at h; exact hk h.1
  · rw [e] at h; simp at h; exact hw h.1.symm

end Chalk.Display.Parse
