/-
  Lemmas for C08: the clause model derives exactly the spec; `clausesFor` enumerates exactly the
  clause instances (under E0207), so `GroundRes.Derivable` over it is `Holds` (`derivable_iff_holds`).
-/
import ChalkModel.Builtin
import ChalkModel.Lemmas.GroundResLemmas
import ChalkModel.Lemmas.MatchLemmas

namespace Chalk.Builtin
open Chalk.Sem

theorem holds_iff (P : Program) (g : Goal) :
    Holds P g ↔ ∃ body, ClauseInst P g body ∧ ∀ b ∈ body, Holds P b := by
  constructor
  · intro h
    cases h with
    | step hc hall => exact ⟨_, hc, hall⟩
  · rintro ⟨body, hc, hall⟩
    exact .step hc hall

theorem builtinClauses_of_copyLike (P : Program) {tr : Trait} (hc : tr.copyLike = true) (k : Ctor)
    (args : Tms) : builtinClauses P tr k args = copyClauses tr k args := by
  cases tr <;> first | rfl | cases hc

theorem spec_of_sized (P : Program) (c : String) (args : Tms) (body : List Goal)
    (hb : body ∈ sizedClauses P (P.ctor c) args)
    (ih : ∀ b ∈ body, BuiltinHolds P b.tr b.ty) : BuiltinHolds P .sized (.app c args) := by
  cases hk : P.ctor c with
  | adt id =>
      simp only [hk, sizedClauses, List.mem_singleton] at hb
      subst hb
      cases hd : P.adt id with
      | struct fields =>
          cases hl : fields.getLast? with
          | none =>
              have : fields = [] := by simpa using hl
              subst this
              exact .sized_struct_empty hk hd
          | some last =>
              exact .sized_struct hk hd hl (ih ⟨.sized, substArgs args last⟩
                (by simp [needsImplForTys, lastFieldOfStruct, hd, hl]))
      | enum vs => exact .sized_enum hk hd
      | union fs => exact .sized_union hk hd
  | tuple =>
      simp only [hk, sizedClauses] at hb
      cases hl : (Tms.toList args).getLast? with
      | none =>
          have : args = .nil := by
            cases args with
            | nil => rfl
            | cons t ts => simp [Tms.toList] at hl
          subst this
          exact .sized_unit hk
      | some last =>
          simp only [hl, List.mem_singleton] at hb
          subst hb
          exact .sized_tuple hk hl (ih ⟨.sized, last⟩ (by simp [needsImplForTys]))
  | scalar => exact .sized_scalar hk
  | array => exact .sized_array hk
  | ref => exact .sized_ref hk
  | raw => exact .sized_raw hk
  | fnPtr => exact .sized_fnPtr hk
  | fnDef => exact .sized_fnDef hk
  | never => exact .sized_never hk
  | slice | str | dyn | other => simp [hk, sizedClauses] at hb

/-- `Copy` and `Clone` have the same structural rules -/
theorem spec_of_copy (P : Program) {tr : Trait} (hc : tr.copyLike = true) (c : String) (args : Tms)
    (body : List Goal) (hb : body ∈ copyClauses tr (P.ctor c) args)
    (ih : ∀ b ∈ body, BuiltinHolds P b.tr b.ty) : BuiltinHolds P tr (.app c args) := by
  cases hk : P.ctor c with
  | tuple =>
      refine .copy_tuple hc hk ?_
      cases args with
      | nil => simp [Tms.toList]
      | cons t ts =>
          simp only [hk, copyClauses, List.mem_singleton] at hb
          subst hb
          exact fun u hu => ih ⟨tr, u⟩ (by simpa [needsImplForTys] using hu)
  | array =>
      cases args with
      | nil => simp [hk, copyClauses] at hb
      | cons elem rest =>
          simp only [hk, copyClauses, List.mem_singleton] at hb
          subst hb
          exact .copy_array hc hk (ih ⟨tr, elem⟩ (by simp [needsImplForTys]))
  | fnPtr => exact .copy_fnPtr hc hk
  | fnDef => exact .copy_fnDef hc hk
  | adt | scalar | slice | ref | raw | str | never | dyn | other => simp [hk, copyClauses] at hb

theorem ctor_of_mem_tupleClauses {P : Program} {k : Ctor} {args : Tms} {body : List Goal}
    (h : body ∈ builtinClauses P .tuple k args) : k = .tuple := by
  simp only [builtinClauses] at h
  split at h
  · rfl
  · cases h

theorem ctor_of_mem_fnPtrClauses {P : Program} {k : Ctor} {args : Tms} {body : List Goal}
    (h : body ∈ builtinClauses P .fnPtr k args) : k = .fnPtr := by
  simp only [builtinClauses] at h
  split at h
  · rfl
  · cases h

theorem spec_of_builtin (P : Program) (tr : Trait) (c : String) (args : Tms) (body : List Goal)
    (hb : body ∈ builtinClauses P tr (P.ctor c) args)
    (ih : ∀ b ∈ body, BuiltinHolds P b.tr b.ty) : BuiltinHolds P tr (.app c args) := by
  cases tr with
  | sized => exact spec_of_sized P c args body hb ih
  | copy => exact spec_of_copy P rfl c args body hb ih
  | clone => exact spec_of_copy P rfl c args body hb ih
  | tuple => exact .tuple_tuple (ctor_of_mem_tupleClauses hb)
  | fnPtr => exact .fnPtr_fnPtr (ctor_of_mem_fnPtrClauses hb)

theorem spec_of_holds (P : Program) {g : Goal} (h : Holds P g) : BuiltinHolds P g.tr g.ty := by
  induction h with
  | step hc _ ih =>
      cases hc with
      | builtin hb => exact spec_of_builtin P _ _ _ _ hb ih
      | impl him =>
          refine .explicit him rfl ?_
          intro wc hwc
          exact ih ⟨wc.1, wc.2.inst _⟩ (by simp only [implBody, List.mem_map]; exact ⟨wc, hwc, rfl⟩)

theorem holds_fact (P : Program) {tr : Trait} {c : String} {args : Tms}
    (h : [] ∈ builtinClauses P tr (P.ctor c) args) : Holds P ⟨tr, .app c args⟩ :=
  .step (.builtin h) (by simp)

theorem holds_of_spec (P : Program) {tr : Trait} {ty : Tm} (h : BuiltinHolds P tr ty) : Holds P ⟨tr, ty⟩ := by
  induction h with
  | sized_scalar hk | sized_ref hk | sized_raw hk | sized_array hk | sized_fnPtr hk | sized_fnDef hk
  | sized_never hk => exact holds_fact P (by simp [builtinClauses, sizedClauses, hk])
  | sized_unit hk => exact holds_fact P (by simp [builtinClauses, sizedClauses, hk, Tms.toList])
  | @sized_tuple c args last hk hl _ ih =>
      refine .step (.builtin (body := [⟨.sized, last⟩]) ?_) (List.forall_mem_singleton.mpr ih)
      simp [builtinClauses, sizedClauses, hk, hl, needsImplForTys]
  | sized_struct_empty hk hd | sized_enum hk hd | sized_union hk hd =>
      exact holds_fact P (by simp [builtinClauses, sizedClauses, hk, hd, lastFieldOfStruct, needsImplForTys])
  | @sized_struct c args id fields last hk hd hl _ ih =>
      refine .step (.builtin (body := [⟨.sized, substArgs args last⟩]) ?_) (List.forall_mem_singleton.mpr ih)
      simp [builtinClauses, sizedClauses, hk, hd, hl, lastFieldOfStruct, needsImplForTys]
  | @copy_tuple tr c args hc hk _ ih =>
      refine .step (.builtin (body := needsImplForTys tr (Tms.toList args)) ?_) ?_
      · rw [builtinClauses_of_copyLike P hc]
        cases args <;> simp [copyClauses, hk, needsImplForTys, Tms.toList]
      · exact List.forall_mem_map.mpr ih
  | @copy_array tr c elem rest hc hk _ ih =>
      refine .step (.builtin (body := [⟨tr, elem⟩]) ?_) (List.forall_mem_singleton.mpr ih)
      rw [builtinClauses_of_copyLike P hc]
      simp [copyClauses, hk, needsImplForTys]
  | copy_fnPtr hc hk | copy_fnDef hc hk =>
      exact holds_fact P (by rw [builtinClauses_of_copyLike P hc]; simp [copyClauses, hk])
  | tuple_tuple hk | fnPtr_fnPtr hk => exact holds_fact P (by simp [builtinClauses, hk])
  | @explicit im σ ty him hty _ ih =>
      subst hty
      exact .step (.impl (σ := σ) him) (List.forall_mem_map.mpr ih)

theorem holds_iff_spec (P : Program) (tr : Trait) (ty : Tm) : Holds P ⟨tr, ty⟩ ↔ BuiltinHolds P tr ty :=
  ⟨fun h => spec_of_holds P h, fun h => holds_of_spec P h⟩

theorem spec_inv (P : Program) {tr : Trait} {ty : Tm} (h : BuiltinHolds P tr ty) :
    (∃ c args body, ty = .app c args ∧ body ∈ builtinClauses P tr (P.ctor c) args ∧
        ∀ b ∈ body, BuiltinHolds P b.tr b.ty) ∨
    (∃ im ∈ P.impls, ∃ σ : Nat → Tm, im.trait = tr ∧ im.self.inst σ = ty ∧
        ∀ wc ∈ im.wcs, BuiltinHolds P wc.1 (wc.2.inst σ)) := by
  have hh := (holds_iff_spec P tr ty).2 h
  obtain ⟨body, hc, hall⟩ := (holds_iff P _).1 hh
  generalize hg : Goal.mk tr ty = g at hc
  cases hc with
  | @builtin tr' c args body hb =>
      cases hg
      exact Or.inl ⟨c, args, body, rfl, hb, fun b hbb => (holds_iff_spec P b.tr b.ty).1 (hall b hbb)⟩
  | @impl im σ him =>
      cases hg
      refine Or.inr ⟨im, him, σ, rfl, rfl, ?_⟩
      intro wc hwc
      exact (holds_iff_spec P wc.1 (wc.2.inst σ)).1
        (hall ⟨wc.1, wc.2.inst σ⟩ (by simp only [implBody, List.mem_map]; exact ⟨wc, hwc, rfl⟩))

theorem spec_inv_builtin (P : Program) {tr : Trait} {c : String} {args : Tms}
    (hno : ∀ im ∈ P.impls, im.trait ≠ tr) (h : BuiltinHolds P tr (.app c args)) :
    ∃ body ∈ builtinClauses P tr (P.ctor c) args, ∀ b ∈ body, BuiltinHolds P b.tr b.ty := by
  rcases spec_inv P h with ⟨c', args', body, hty, hb, hall⟩ | ⟨im, him, _, htr, _⟩
  · cases hty
    exact ⟨body, hb, hall⟩
  · exact absurd htr (hno im him)

mutual
  theorem varsIn_iff_vars (σ : Asg) : (t : Tm) →
      (t.varsIn σ = true ↔ ∀ i ∈ Tm.vars t, (σ.get i).isSome = true)
    | .var i => by simp [Sem.Tm.varsIn, Tm.vars]
    | .app c args => by simpa [Sem.Tm.varsIn, Tm.vars] using varsIn_iff_vars_tms σ args
  theorem varsIn_iff_vars_tms (σ : Asg) : (ts : Tms) →
      (ts.varsIn σ = true ↔ ∀ i ∈ Tms.vars ts, (σ.get i).isSome = true)
    | .nil => by simp [Sem.Tms.varsIn, Tms.vars]
    | .cons t ts => by
        simp [Sem.Tms.varsIn, Tms.vars, varsIn_iff_vars σ t, varsIn_iff_vars_tms σ ts, or_imp, forall_and]
end

theorem varsIn_of_vars_tms (σ : Asg) : (ts : Tms) → (∀ i ∈ Tms.vars ts, (σ.get i).isSome = true) →
    ts.varsIn σ = true :=
  fun ts => (varsIn_iff_vars_tms σ ts).mpr

theorem clausesFor_sound (P : Program) (g : Goal) (body : List Goal) (h : body ∈ clausesFor P g) :
    ClauseInst P g body := by
  obtain ⟨tr, ty⟩ := g
  simp only [clausesFor, List.mem_append] at h
  rcases h with h | h
  · cases ty with
    | var i => simp at h
    | app c args => exact .builtin h
  · simp only [implClauses, List.mem_filterMap] at h
    obtain ⟨im, him, hf⟩ := h
    split at hf
    · rename_i htr
      cases hm : matchTm im.self ty [] with
      | none => simp [hm] at hf
      | some σ =>
          simp only [hm, Option.some.injEq] at hf
          subst hf
          obtain ⟨_, _, hi⟩ := matchTm_sound im.self ty [] σ hm
          subst htr
          rw [← hi]
          exact .impl him
    · cases hf

theorem clausesFor_complete (P : Program) (hp : P.implParamsInHeader = true) (g : Goal) (body : List Goal)
    (h : ClauseInst P g body) : body ∈ clausesFor P g := by
  cases h with
  | builtin hb => simp only [clausesFor, List.mem_append]; exact Or.inl hb
  | @impl im τ him =>
      simp only [clausesFor, List.mem_append]
      right
      simp only [implClauses, List.mem_filterMap]
      refine ⟨im, him, ?_⟩
      obtain ⟨σ, hm, hag⟩ := matchTm_complete τ im.self (im.self.inst τ) [] (agrees_nil τ) rfl
      simp only [if_true, hm, Option.some.injEq]
      obtain ⟨_, hv, _⟩ := matchTm_sound im.self _ [] σ hm
      have hvars := (varsIn_iff_vars σ im.self).mp hv
      simp only [Program.implParamsInHeader, List.all_eq_true] at hp
      have him' := hp im him
      simp only [Impl.paramsInHeader, List.all_eq_true, List.contains_iff_mem] at him'
      simp only [implBody]
      apply List.map_congr_left
      intro wc hwc
      have hwv : wc.2.varsIn σ = true :=
        (varsIn_iff_vars σ wc.2).mpr (fun i hi => hvars i (by simpa using him' wc hwc i hi))
      rw [Tm.inst_congr σ.toFun τ σ (agrees_toFun σ) hag wc.2 hwv]

theorem holds_of_derivable (P : Program) (g : Goal) (h : GroundRes.Derivable (clausesFor P) g) : Holds P g := by
  induction h with
  | step hb _ ih => exact .step (clausesFor_sound P _ _ hb) ih

theorem derivable_iff_holds (P : Program) (hp : P.implParamsInHeader = true) (g : Goal) :
    GroundRes.Derivable (clausesFor P) g ↔ Holds P g := by
  refine ⟨holds_of_derivable P g, fun h => ?_⟩
  induction h with
  | step hc _ ih => exact .step (clausesFor_complete P hp _ _ hc) ih

end Chalk.Builtin
