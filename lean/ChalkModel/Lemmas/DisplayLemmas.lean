/-
  C22, layer "types": the parser inverts the writer on well-formed types
  (`parseTy_print`, `parseBounds_of_all`; continuation form, fuel measured by `szTy` …).
-/
import ChalkModel.Lemmas.DisplaySteps

namespace Chalk.Display.Parse
open Chalk.Display

theorem printArgsTail_cons (s : St) (a : GArg) (as : Args) :
    printArgsTail s (.cons a as) = .kw "," :: printArgs s (.cons a as) := by
  simp [printArgsTail, printArgs]

theorem printTysTail_cons (s : St) (t : Ty) (ts : Tys) :
    printTysTail s (.cons t ts) = .kw "," :: printTys s (.cons t ts) := by
  simp [printTysTail, printTys]

theorem printBoundsTail_cons (s : St) (b : Bound) (bs : Bounds) :
    printBoundsTail s (.cons b bs) = .kw "+" :: printBounds s (.cons b bs) := by
  simp [printBoundsTail, printBounds]

theorem printArgsTail_snoc (s : St) : (as : Args) → (x : GArg) →
    printArgsTail s (snocArgs as x) = printArgsTail s as ++ .kw "," :: printGArg s x
  | .nil, x => by simp [snocArgs, printArgsTail]
  | .cons a as, x => by simp [snocArgs, printArgsTail, printArgsTail_snoc s as x]

theorem printArgs_snoc (s : St) (as : Args) (x : GArg) :
    printArgs s (snocArgs as x) = printArgsThenComma s as ++ printGArg s x := by
  cases as with
  | nil => simp [snocArgs, printArgs, printArgsThenComma, printArgsTail]
  | cons a as => simp [snocArgs, printArgs, printArgsThenComma, printArgsTail_snoc]

theorem unsnoc_snoc : (as : Args) → (x : GArg) → unsnocArgs (snocArgs as x) = some (as, x)
  | .nil, x => by simp [snocArgs, unsnocArgs]
  | .cons a .nil, x => by simp [snocArgs, unsnocArgs]
  | .cons a (.cons a' as), x => by
      have ih := unsnoc_snoc (.cons a' as) x
      simp only [snocArgs] at ih ⊢
      simp [unsnocArgs, ih]

theorem wfArgs_snoc (env : List (List VK)) : (as : Args) → (x : GArg) →
    wfArgs env (snocArgs as x) = (wfArgs env as && wfGArg env x)
  | .nil, x => by simp [snocArgs, wfArgs]
  | .cons a as, x => by simp [snocArgs, wfArgs, wfArgs_snoc env as x, Bool.and_assoc]

theorem szArgs_snoc : (as : Args) → (x : GArg) → szArgs (snocArgs as x) = szArgs as + 1 + szGArg x
  | .nil, x => by simp [snocArgs, szArgs]
  | .cons a as, x => by simp [snocArgs, szArgs, szArgs_snoc as x]; omega

theorem snocArgs_ne_nil (as : Args) (x : GArg) : snocArgs as x ≠ .nil := by
  cases as <;> simp [snocArgs]

def TyOK (t : Ty) : Prop :=
  ∀ (p : PSt) (fuel : Nat) (rest : List Tok), Faithful p → wfTy p.env t = true → szTy t ≤ fuel →
    (∀ r, rest ≠ .kw "<" :: r) → parseTy fuel p (printTy p.st t ++ rest) = some (t, rest)

def GArgOK (a : GArg) : Prop :=
  ∀ (p : PSt) (fuel : Nat) (rest : List Tok), Faithful p → wfGArg p.env a = true → szGArg a ≤ fuel →
    (∀ r, rest ≠ .kw "<" :: r) → parseGArg fuel p (printGArg p.st a ++ rest) = some (a, rest)

def BoundOK (b : Bound) : Prop :=
  ∀ (p : PSt) (fuel : Nat) (rest : List Tok), Faithful p → wfBound p.env b = true → szBound b ≤ fuel →
    (∀ r, rest ≠ .kw "<" :: r) → parseBound fuel p (printBound p.st b ++ rest) = some (b, rest)

def ArgsAllOK : Args → Prop
  | .nil => True
  | .cons a as => GArgOK a ∧ ArgsAllOK as

def TysAllOK : Tys → Prop
  | .nil => True
  | .cons t ts => TyOK t ∧ TysAllOK ts

def BoundsAllOK : Bounds → Prop
  | .nil => True
  | .cons b bs => BoundOK b ∧ BoundsAllOK bs

/-- a budget that covers `k` units for the parser's own steps and `a` for a sub-term leaves `≥ a`
    once the `k` are spent -/
theorem exists_fuel {k a fuel : Nat} (h : k + a ≤ fuel) : ∃ f, fuel = f + k ∧ a ≤ f := by
  obtain ⟨f, rfl⟩ := Nat.exists_eq_add_of_le' (Nat.le_trans (Nat.le_add_right k a) h)
  exact ⟨f, rfl, by omega⟩

theorem exists_fuel₂ {k a b fuel : Nat} (h : k + a + b ≤ fuel) : ∃ f, fuel = f + k ∧ a ≤ f ∧ b ≤ f := by
  obtain ⟨f, rfl, hf⟩ := exists_fuel (k := k) (a := a + b) (by rwa [Nat.add_assoc] at h)
  exact ⟨f, rfl, Nat.le_trans (Nat.le_add_right a b) hf, Nat.le_trans (Nat.le_add_left b a) hf⟩

theorem exists_fuel₃ {k a b c fuel : Nat} (h : k + a + b + c ≤ fuel) :
    ∃ f, fuel = f + k ∧ a ≤ f ∧ b ≤ f ∧ c ≤ f := by
  obtain ⟨f, rfl, hf, hc⟩ := exists_fuel₂ (k := k) (a := a + b) (by rwa [Nat.add_assoc k a b] at h)
  exact ⟨f, rfl, Nat.le_trans (Nat.le_add_right a b) hf, Nat.le_trans (Nat.le_add_left b a) hf, hc⟩

theorem parseTys_of_all : (ts : Tys) → TysAllOK ts → ∀ (p : PSt) (fuel : Nat) (rest : List Tok), Faithful p →
    ts ≠ .nil → wfTys p.env ts = true → szTys ts ≤ fuel →
    (∀ r, rest ≠ .kw "<" :: r) → (∀ r, rest ≠ .kw "," :: r) →
    parseTys fuel p (printTys p.st ts ++ rest) = some (ts, rest)
  | .nil, _, _, _, _, _, h, _, _, _, _ => absurd rfl h
  | .cons t .nil, hall, p, fuel, rest, hp, _, hwf, hsz, h1, h2 => by
      obtain ⟨f, rfl, hf, -⟩ := exists_fuel₂ hsz
      simp only [wfTys, Bool.and_eq_true] at hwf
      simp only [printTys, printTysTail, List.append_nil]
      exact parseTys_one f p (hall.1 p f rest hp hwf.1 hf h1) h2
  | .cons t (.cons t' ts), hall, p, fuel, rest, hp, _, hwf, hsz, h1, h2 => by
      obtain ⟨f, rfl, hf, hfs⟩ := exists_fuel₂ hsz
      rw [wfTys, Bool.and_eq_true] at hwf
      rw [printTys, printTysTail_cons, List.append_assoc, List.cons_append]
      exact parseTys_more f p (hall.1 p f _ hp hwf.1 hf (by simp))
        (parseTys_of_all (.cons t' ts) hall.2 p f rest hp (by simp) hwf.2 hfs h1 h2)

theorem parseArgs_of_all : (as : Args) → ArgsAllOK as → ∀ (p : PSt) (fuel : Nat) (rest : List Tok), Faithful p →
    as ≠ .nil → wfArgs p.env as = true → szArgs as ≤ fuel →
    (∀ r, rest ≠ .kw "<" :: r) → (∀ r, rest ≠ .kw "," :: r) →
    parseArgs fuel p (printArgs p.st as ++ rest) = some (as, rest)
  | .nil, _, _, _, _, _, h, _, _, _, _ => absurd rfl h
  | .cons a .nil, hall, p, fuel, rest, hp, _, hwf, hsz, h1, h2 => by
      obtain ⟨f, rfl, hf, -⟩ := exists_fuel₂ hsz
      simp only [wfArgs, Bool.and_eq_true] at hwf
      simp only [printArgs, printArgsTail, List.append_nil]
      exact parseArgs_one f p (hall.1 p f rest hp hwf.1 hf h1) h2
  | .cons a (.cons a' as), hall, p, fuel, rest, hp, _, hwf, hsz, h1, h2 => by
      obtain ⟨f, rfl, hf, hfs⟩ := exists_fuel₂ hsz
      rw [wfArgs, Bool.and_eq_true] at hwf
      rw [printArgs, printArgsTail_cons, List.append_assoc, List.cons_append]
      exact parseArgs_more f p (hall.1 p f _ hp hwf.1 hf (by simp))
        (parseArgs_of_all (.cons a' as) hall.2 p f rest hp (by simp) hwf.2 hfs h1 h2)

theorem argsAllOK_snoc : (as : Args) → (x : GArg) → ArgsAllOK as → GArgOK x → ArgsAllOK (snocArgs as x)
  | .nil, _, _, hx => ⟨hx, trivial⟩
  | .cons _ as, x, h, hx => ⟨h.1, argsAllOK_snoc as x h.2 hx⟩

theorem angleOK {args : Args} (hall : ArgsAllOK args) {p : PSt} (hp : Faithful p) {f : Nat} {rest : List Tok}
    (hwf : wfArgs p.env args = true) (hsz : szArgs args ≤ f) (hr : ∀ r, rest ≠ .kw "<" :: r) :
    parseAngleArgs (f + 1) p (printAngleArgs p.st args ++ rest) = some (args, rest) := by
  cases args with
  | nil => exact parseAngleArgs_nil f p hr
  | cons a as =>
      have := parseArgs_of_all (.cons a as) hall p f (.kw ">" :: rest) hp (by simp) hwf hsz (by simp) (by simp)
      simp only [printArgs, List.append_assoc] at this
      simp only [printAngleArgs, List.cons_append, List.append_assoc, List.nil_append]
      exact parseAngleArgs_cons f p this

theorem parseTraitTail_of_angleArgs {f : Nat} {p : PSt} {toks rest : List Tok} {args : Args}
    (h : parseAngleArgs (f + 1) p toks = some (args, rest)) :
    parseTraitTail (f + 1) p toks = some (.plain args, rest) := by
  by_cases hlt : ∃ r, toks = .kw "<" :: r
  · obtain ⟨r, rfl⟩ := hlt
    rw [parseAngleArgs] at h
    split at h
    · rename_i e
      cases h
      exact parseTraitTail_plain f p e
    · cases h
  · have hlt' : ∀ r, toks ≠ .kw "<" :: r := fun r e => hlt ⟨r, e⟩
    rw [parseAngleArgs_nil f p hlt'] at h
    cases h
    exact parseTraitTail_nil f p hlt'

theorem tyOK_adt (id : String) {args : Args} (h : ArgsAllOK args) : TyOK (.adt id args) := by
  intro p fuel rest hp hwf hsz hr
  obtain ⟨f, rfl, hf⟩ := exists_fuel (k := 2) hsz
  exact parseTy_adt _ _ (angleOK h hp hwf hf hr)

theorem tyOK_token {t : Ty} {tok : St → Tok} (hsz : szTy t = 1) (hpr : ∀ s, printTy s t = [tok s])
    (h : ∀ f p rest, Faithful p → wfTy p.env t = true → parseTy (f + 1) p (tok p.st :: rest) = some (t, rest)) :
    TyOK t := by
  intro p fuel rest hp hwf hfuel _
  rw [hsz] at hfuel
  obtain ⟨f, rfl⟩ := Nat.exists_eq_add_of_le' hfuel
  rw [hpr]
  exact h f p rest hp hwf

theorem tyOK_scalar (sc : Scalar) : TyOK (.scalar sc) :=
  tyOK_token rfl (fun _ => rfl) fun f p rest _ _ => parseTy_scalar f p sc rest

theorem tyOK_never : TyOK .never :=
  tyOK_token rfl (fun _ => rfl) fun f p rest _ _ => parseTy_never f p rest

theorem tyOK_str : TyOK .str :=
  tyOK_token rfl (fun _ => rfl) fun f p rest _ _ => parseTy_str f p rest

theorem tyOK_bound (d i : Nat) : TyOK (.bound d i) :=
  tyOK_token rfl (fun _ => rfl) fun f p rest hp hwf =>
    parseTy_var f p _ _ rest (hp.var d i .ty ((hasKind_iff ..).1 hwf) (by decide))

theorem tyOK_tuple {ts : Tys} (h : TysAllOK ts) : TyOK (.tuple ts) := by
  intro p fuel rest hp hwf hsz hr
  obtain ⟨f, rfl, hf⟩ := exists_fuel (k := 1) hsz
  simp only [wfTy] at hwf
  cases ts with
  | nil => exact parseTy_unit _ _ _
  | cons t ts =>
      obtain ⟨f, rfl, hft, hfts⟩ := exists_fuel₂ hf
      simp only [wfTys, Bool.and_eq_true] at hwf
      cases ts with
      | nil =>
          have ht := h.1 p (f + 1) (.kw "," :: .kw ")" :: rest) hp hwf.1 (Nat.le_succ_of_le hft) (by simp)
          simp only [printTy, printTys, printTysTail, Tys.length, List.cons_append, List.nil_append,
            List.append_nil, List.append_assoc, if_true]
          exact parseTy_tuple1 _ _ (printTy_not_rparen _ _ _) ht
      | cons t' ts =>
          have hts := parseTys_of_all (.cons t' ts) h.2 p (f + 1) (.kw ")" :: rest) hp (by simp) hwf.2
            (Nat.le_succ_of_le hfts) (by simp) (by simp)
          have ht := h.1 p (f + 1) (.kw "," :: (printTys p.st (.cons t' ts) ++ .kw ")" :: rest)) hp hwf.1
            (Nat.le_succ_of_le hft) (by simp)
          have hlen : (Tys.cons t (Tys.cons t' ts)).length ≠ 1 := by simp [Tys.length]
          rw [printTy, printTys, printTysTail_cons]
          simp only [hlen, if_false, List.cons_append, List.nil_append, List.append_nil, List.append_assoc]
          refine parseTy_tuple2 _ _ (printTy_not_rparen _ _ _) ht ?_ hts
          rw [printTys, List.append_assoc]
          exact printTy_not_rparen _ _ _

theorem tyOK_ref (m : Bool) (l : Lt) {t : Ty} (h : TyOK t) : TyOK (.ref m l t) := by
  intro p fuel rest hp hwf hsz hr
  obtain ⟨f, rfl, hf⟩ := exists_fuel (k := 1) hsz
  simp only [wfTy, Bool.and_eq_true] at hwf
  have ht := h p f rest hp hwf.2 hf hr
  cases m with
  | true =>
      simp only [printTy, if_true, List.cons_append, List.nil_append, List.append_assoc]
      exact parseTy_ref_mut _ _ (parseLt_print hp hwf.1 _) ht
  | false =>
      simp only [printTy, Bool.false_eq_true, if_false, List.cons_append, List.nil_append, List.append_assoc]
      exact parseTy_ref _ _ (parseLt_print hp hwf.1 _) (printTy_not_mut _ _ _) ht

theorem tyOK_raw (m : Bool) {t : Ty} (h : TyOK t) : TyOK (.raw m t) := by
  intro p fuel rest hp hwf hsz hr
  obtain ⟨f, rfl, hf⟩ := exists_fuel (k := 1) hsz
  have ht := h p f rest hp hwf hf hr
  cases m with
  | true => exact parseTy_raw_mut _ _ ht
  | false => exact parseTy_raw_const _ _ ht

theorem tyOK_slice {t : Ty} (h : TyOK t) : TyOK (.slice t) := by
  intro p fuel rest hp hwf hsz hr
  obtain ⟨f, rfl, hf⟩ := exists_fuel (k := 1) hsz
  have ht := h p f (.kw "]" :: rest) hp hwf hf (by simp)
  simp only [printTy, List.cons_append, List.nil_append, List.append_assoc]
  exact parseTy_slice _ _ ht

theorem tyOK_array {t : Ty} (c : Ct) (h : TyOK t) : TyOK (.array t c) := by
  intro p fuel rest hp hwf hsz hr
  obtain ⟨f, rfl, hf⟩ := exists_fuel (k := 1) hsz
  simp only [wfTy, Bool.and_eq_true] at hwf
  have ht := h p f (.kw ";" :: (printCt p.st c ++ .kw "]" :: rest)) hp hwf.1 hf (by simp)
  simp only [printTy, List.cons_append, List.nil_append, List.append_assoc]
  exact parseTy_array _ _ ht (parseCt_print hp hwf.2 _)

theorem fnRestOK {nb : Nat} {args : Tys} {ret : Ty} (ha : TysAllOK args) (hr : TyOK ret)
    {p : PSt} (hp : Faithful p) {f : Nat} {rest : List Tok}
    (hwa : wfTys (List.replicate nb .lt :: p.env) args = true)
    (hwr : wfTy (List.replicate nb .lt :: p.env) ret = true)
    (hsa : szTys args ≤ f) (hsr : szTy ret ≤ f) (hrest : ∀ r, rest ≠ .kw "<" :: r) :
    parseFnRest (f + 1) p nb
      (printTys (p.st.deeper none) args ++ .kw ")" :: .kw "->" :: (printTy (p.st.deeper none) ret ++ rest))
      = some (.fnPtr nb args ret, rest) := by
  have hp' : Faithful (p.deeper (List.replicate nb .lt) none) := hp.deeper _
  have hret := hr (p.deeper (List.replicate nb .lt) none) f rest hp' hwr hsr hrest
  cases args with
  | nil => exact parseFnRest_nil _ _ hret
  | cons t ts =>
      have hargs := parseTys_of_all (.cons t ts) ha (p.deeper (List.replicate nb .lt) none) f
        (.kw ")" :: .kw "->" :: (printTy (p.st.deeper none) ret ++ rest)) hp' (by simp) hwa hsa
        (by simp) (by simp)
      refine parseFnRest_cons _ _ ?_ hargs hret
      rw [printTys, List.append_assoc]
      exact fun r e => printTy_not_rparen _ _ _ _ e

theorem tyOK_fnPtr (nb : Nat) {args : Tys} {ret : Ty} (ha : TysAllOK args) (hr : TyOK ret) :
    TyOK (.fnPtr nb args ret) := by
  intro p fuel rest hp hwf hsz hrest
  obtain ⟨f, rfl, hnb, hfa, hfr⟩ := exists_fuel₃ (k := 2) hsz
  simp only [wfTy, Bool.and_eq_true] at hwf
  have hfn := fnRestOK (nb := nb) ha hr hp (f := f) hwf.1 hwf.2 hfa hfr hrest
  by_cases h0 : nb = 0
  · subst h0
    simp only [printTy, if_true, List.cons_append, List.nil_append, List.append_assoc]
    rw [parseTy_fn]
    exact hfn
  · have hb := parseBinders_print (p.st.deeper none) (List.replicate nb .lt) 0 (f + 1)
      (.kw ">" :: .kw "fn" :: .kw "(" :: (printTys (p.st.deeper none) args ++ .kw ")" :: .kw "->" ::
        (printTy (p.st.deeper none) ret ++ rest)))
      (by cases nb with | zero => exact absurd rfl h0 | succ n => simp [List.replicate_succ])
      hp.fresh_deeper (by rw [List.length_replicate]; exact Nat.le_succ_of_le hnb) (by simp)
    rw [← fnBinderNames_eq] at hb
    simp only [printTy, h0, if_false, List.cons_append, List.nil_append, List.append_assoc]
    rw [parseTy_for _ _ hb, List.length_replicate]
    exact hfn

theorem tyOK_proj (tr assoc : String) {self : Ty} {targs aargs : Args}
    (hs : TyOK self) (ht : ArgsAllOK targs) (ha : ArgsAllOK aargs) : TyOK (.proj tr assoc self targs aargs) := by
  intro p fuel rest hp hwf hsz hrest
  obtain ⟨f, rfl, hfs, hft, hfa⟩ := exists_fuel₃ (k := 2) hsz
  simp only [wfTy, Bool.and_eq_true] at hwf
  have h3 := angleOK ha hp (f := f) (rest := rest) hwf.2 hfa hrest
  have h2 := angleOK ht hp (f := f) (rest := .kw ">" :: .kw "::" :: .name assoc :: (printAngleArgs p.st aargs ++ rest))
    hwf.1.2 hft (by simp)
  have h1 := hs p (f + 1) (.kw "as" :: .name tr :: (printAngleArgs p.st targs ++
    .kw ">" :: .kw "::" :: .name assoc :: (printAngleArgs p.st aargs ++ rest))) hp hwf.1.1 (Nat.le_succ_of_le hfs) (by simp)
  simp only [printTy, List.cons_append, List.append_assoc]
  exact parseTy_proj _ _ h1 h2 h3

theorem gargOK_ty {t : Ty} (h : TyOK t) : GArgOK (.ty t) := by
  intro p fuel rest hp hwf hsz hrest
  obtain ⟨f, rfl, hf⟩ := exists_fuel (k := 1) hsz
  simp only [wfGArg] at hwf
  simp only [printGArg]
  rcases printTy_head p.st t with ⟨d, i, rfl⟩ | ⟨tok, tl, e, hh⟩
  · simp only [wfTy, hasKind_iff] at hwf
    exact parseGArg_var_ty _ _ _ _ _ (hp.var d i .ty hwf (by decide)) hwf
  · have ht := h p f rest hp hwf hf hrest
    have hl := printTy_not_ltStart p.st t rest
    rw [e] at ht hl ⊢
    exact parseGArg_ty _ _ hh hl ht

theorem gargOK_lt (l : Lt) : GArgOK (.lt l) := by
  intro p fuel rest hp hwf hsz hrest
  obtain ⟨f, rfl⟩ := Nat.exists_eq_add_of_le' hsz
  exact parseGArg_lt _ _ (isLtStart_printLt hp hwf _) (parseLt_print hp hwf _)

theorem gargOK_ct (c : Ct) : GArgOK (.ct c) := by
  intro p fuel rest hp hwf hsz hrest
  obtain ⟨f, rfl⟩ := Nat.exists_eq_add_of_le' hsz
  cases c with
  | val n => exact parseGArg_num _ _ _ _
  | bound d i =>
      simp only [wfGArg, wfCt, hasKind_iff] at hwf
      exact parseGArg_var_ct _ _ _ _ _ (hp.var d i .ct hwf (by decide)) hwf

theorem forallToks_head (s : St) (ks : List VK) :
    forallToks s ks = [] ∨ ∃ tl, forallToks s ks = .kw "forall" :: tl := by
  cases ks with
  | nil => exact Or.inl rfl
  | cons k ks => exact Or.inr ⟨_, rfl⟩

theorem printBound_head (s : St) (b : Bound) :
    ∃ tok tl, printBound s b = tok :: tl ∧ (tok = .kw "forall" ∨ ∃ n, tok = .name n) := by
  cases b with
  | trait ks tr args =>
      rcases forallToks_head (s.deeper none) ks with e | ⟨tl, e⟩
      · exact ⟨_, _, by rw [printBound, e]; rfl, Or.inr ⟨_, rfl⟩⟩
      · exact ⟨_, _, by rw [printBound, e]; rfl, Or.inl rfl⟩
  | aliasEq ks tr assoc targs aargs v =>
      rcases forallToks_head (s.deeper none) ks with e | ⟨tl, e⟩
      · exact ⟨_, _, by rw [printBound, e]; rfl, Or.inr ⟨_, rfl⟩⟩
      · exact ⟨_, _, by rw [printBound, e]; rfl, Or.inl rfl⟩

theorem printBound_not_ltStart (s : St) (b : Bound) (rest : List Tok) :
    isLtStart (printBound s b ++ rest) = false := by
  obtain ⟨tok, tl, e, h⟩ := printBound_head s b
  rw [e]
  rcases h with rfl | ⟨n, rfl⟩ <;> rfl

theorem boundOK_trait (ks : List VK) (tr : String) {args : Args} (h : ArgsAllOK args) : BoundOK (.trait ks tr args) := by
  intro p fuel rest hp hwf hsz hrest
  obtain ⟨f, rfl, hks, hfa⟩ := exists_fuel₂ (k := 2) hsz
  have h1 := parseForall_print hp ks (f + 1) (.name tr :: (printAngleArgs (p.st.deeper none) args ++ rest))
    (Nat.le_succ_of_le hks) (by simp)
  have h2 := parseTraitTail_of_angleArgs (angleOK h (hp.deeper ks) (f := f) (rest := rest) hwf hfa hrest)
  simp only [printBound, List.cons_append, List.append_assoc]
  exact parseBound_trait _ _ h1 h2

theorem traitTailOK_assoc {targs aargs : Args} {v : Ty} (assoc : String)
    (ht : ArgsAllOK targs) (ha : ArgsAllOK aargs) (hv : TyOK v)
    {p : PSt} (hp : Faithful p) {f : Nat} (rest : List Tok)
    (hwt : wfArgs p.env targs = true) (hwa : wfArgs p.env aargs = true) (hwv : wfTy p.env v = true)
    (hsz : 5 + szArgs targs + szArgs aargs + szTy v ≤ f) :
    parseTraitTail (f + 1) p (.kw "<" :: (printArgsThenComma p.st targs ++ .name assoc ::
        (printAngleArgs p.st aargs ++ .kw "=" :: (printTy p.st v ++ .kw ">" :: rest))))
      = some (.assoc targs assoc aargs v, rest) := by
  have hx : GArgOK (.ty (.adt assoc aargs)) := gargOK_ty (tyOK_adt assoc ha)
  have hall := argsAllOK_snoc targs _ ht hx
  have hargs := parseArgs_of_all _ hall p f (.kw "=" :: (printTy p.st v ++ .kw ">" :: rest)) hp
    (snocArgs_ne_nil _ _) (by simp only [wfArgs_snoc, hwt, wfGArg, wfTy, hwa, Bool.and_self])
    (by rw [szArgs_snoc]; simp only [szGArg, szTy]; omega) (by simp) (by simp)
  rw [printArgs_snoc] at hargs
  simp only [printGArg, printTy, List.cons_append, List.append_assoc] at hargs
  have hvv := hv p f (.kw ">" :: rest) hp hwv (by omega) (by simp)
  exact parseTraitTail_assoc _ _ hargs (unsnoc_snoc _ _) hvv

theorem boundOK_aliasEq (ks : List VK) (tr assoc : String) {targs aargs : Args} {v : Ty}
    (ht : ArgsAllOK targs) (ha : ArgsAllOK aargs) (hv : TyOK v) : BoundOK (.aliasEq ks tr assoc targs aargs v) := by
  intro p fuel rest hp hwf hsz hrest
  simp only [szBound] at hsz
  simp only [wfBound, Bool.and_eq_true] at hwf
  obtain ⟨f, rfl⟩ : ∃ f, fuel = f + 2 := ⟨fuel - 2, by omega⟩
  have h2 := traitTailOK_assoc assoc ht ha hv (hp.deeper ks) (f := f) rest hwf.1.1 hwf.1.2 hwf.2 (by omega)
  have h1 := parseForall_print hp ks (f + 1) (.name tr :: .kw "<" :: (printArgsThenComma (p.st.deeper none) targs ++ .name assoc ::
        (printAngleArgs (p.st.deeper none) aargs ++ .kw "=" :: (printTy (p.st.deeper none) v ++ .kw ">" :: rest))))
    (by omega) (by simp)
  simp only [printBound, List.cons_append, List.nil_append, List.append_assoc]
  exact parseBound_aliasEq _ _ h1 h2

theorem parseBounds_of_all : (bs : Bounds) → BoundsAllOK bs → ∀ (p : PSt) (fuel : Nat) (rest : List Tok), Faithful p →
    bs ≠ .nil → wfBounds p.env bs = true → szBounds bs ≤ fuel →
    (∀ r, rest ≠ .kw "<" :: r) → (∀ r, rest = .kw "+" :: r → isLtStart r = true) →
    parseBounds fuel p (printBounds p.st bs ++ rest) = some (bs, rest)
  | .nil, _, _, _, _, _, h, _, _, _, _ => absurd rfl h
  | .cons b .nil, hall, p, fuel, rest, hp, _, hwf, hsz, h1, h2 => by
      obtain ⟨f, rfl, hf, -⟩ := exists_fuel₂ hsz
      simp only [wfBounds, Bool.and_eq_true] at hwf
      simp only [printBounds, printBoundsTail, List.append_nil]
      exact parseBounds_last f p (hall.1 p f rest hp hwf.1 hf h1) h2
  | .cons b (.cons b' bs), hall, p, fuel, rest, hp, _, hwf, hsz, h1, h2 => by
      obtain ⟨f, rfl, hf, hfs⟩ := exists_fuel₂ hsz
      rw [wfBounds, Bool.and_eq_true] at hwf
      rw [printBounds, printBoundsTail_cons, List.append_assoc, List.cons_append]
      refine parseBounds_more f p (hall.1 p f _ hp hwf.1 hf (by simp)) ?_
        (parseBounds_of_all (.cons b' bs) hall.2 p f rest hp (by simp) hwf.2 hfs h1 h2)
      rw [printBounds, List.append_assoc]
      exact printBound_not_ltStart _ _ _

theorem wfBoundsNe_iff (env : List (List VK)) (bs : Bounds) :
    wfBoundsNe env bs = true ↔ bs ≠ .nil ∧ wfBounds env bs = true := by
  cases bs <;> simp [wfBoundsNe, wfBounds]

theorem tyOK_dyn {bs : Bounds} (l : Lt) (h : BoundsAllOK bs) : TyOK (.dyn bs l) := by
  intro p fuel rest hp hwf hsz hrest
  obtain ⟨f, rfl, hf⟩ := exists_fuel (k := 1) hsz
  simp only [wfTy, Bool.and_eq_true, wfBoundsNe_iff] at hwf
  have hb := parseBounds_of_all bs h (p.deeper [.ty] none) f (.kw "+" :: (printLt p.st l ++ rest)) (hp.deeper _)
    hwf.1.1 hwf.1.2 hf (by simp)
    (by intro r e; cases e; exact isLtStart_printLt hp hwf.2 _)
  simp only [printTy, List.cons_append, List.append_assoc]
  exact parseTy_dyn _ _ hb (parseLt_print hp hwf.2 _)

mutual
  theorem tyOK : (t : Ty) → TyOK t
    | .adt id args => tyOK_adt id (argsOK args)
    | .scalar sc => tyOK_scalar sc
    | .tuple ts => tyOK_tuple (tysOK ts)
    | .ref m l t => tyOK_ref m l (tyOK t)
    | .raw m t => tyOK_raw m (tyOK t)
    | .slice t => tyOK_slice (tyOK t)
    | .array t c => tyOK_array c (tyOK t)
    | .fnPtr nb args ret => tyOK_fnPtr nb (tysOK args) (tyOK ret)
    | .proj tr assoc self targs aargs => tyOK_proj tr assoc (tyOK self) (argsOK targs) (argsOK aargs)
    | .dyn bs l => tyOK_dyn l (boundsOK bs)
    | .never => tyOK_never
    | .str => tyOK_str
    | .bound d i => tyOK_bound d i
  theorem gargOK : (a : GArg) → GArgOK a
    | .ty t => gargOK_ty (tyOK t)
    | .lt l => gargOK_lt l
    | .ct c => gargOK_ct c
  theorem argsOK : (as : Args) → ArgsAllOK as
    | .nil => trivial
    | .cons a as => ⟨gargOK a, argsOK as⟩
  theorem tysOK : (ts : Tys) → TysAllOK ts
    | .nil => trivial
    | .cons t ts => ⟨tyOK t, tysOK ts⟩
  theorem boundOK : (b : Bound) → BoundOK b
    | .trait ks tr args => boundOK_trait ks tr (argsOK args)
    | .aliasEq ks tr assoc targs aargs v => boundOK_aliasEq ks tr assoc (argsOK targs) (argsOK aargs) (tyOK v)
  theorem boundsOK : (bs : Bounds) → BoundsAllOK bs
    | .nil => trivial
    | .cons b bs => ⟨boundOK b, boundsOK bs⟩
end

/-- a printed well-formed type is read back, whatever follows it; any fuel `≥ szTy t` -/
theorem parseTy_print {p : PSt} (hp : Faithful p) {t : Ty} (hwf : wfTy p.env t = true) {fuel : Nat}
    (hsz : szTy t ≤ fuel) {rest : List Tok} (hrest : ∀ r, rest ≠ .kw "<" :: r) :
    parseTy fuel p (printTy p.st t ++ rest) = some (t, rest) :=
  tyOK t p fuel rest hp hwf hsz hrest

end Chalk.Display.Parse
