/-
  FixedPointSemN.lean — one polarity: `solve_root_goal` meets the contract `RootSpec` with `Corr c inst` as the right
  answer (`solveRootGoal_general`; `FixedPointHistory.lean` draws the consequences for calls and histories); the
  forms with the cache known to be on / off.
-/
import ChalkModel.Lemmas.FixedPointSemJ
import ChalkModel.Lemmas.FixedPointHistory

namespace Chalk.FixedPoint.Cyc

section
variable {c : Bool} {inst : Instance} {dom : List Nat} {fx : Bool} {cfg : Cfg}

def GoodCache (c : Bool) (inst : Instance) (s : St) : Prop :=
  (∃ cc, s.cache = some cc) ∧ ∀ k v, InCache s k v → Corr c inst k v

theorem goodCache_fresh (c : Bool) (inst : Instance) : GoodCache c inst (St.fresh true) :=
  ⟨⟨[], rfl⟩, CacheAll.fresh _ true⟩

/-- `solve_root_goal` of the repaired code (the repairs `fixF10` and `fixF16` are needed only if the oracle can say
    "stop": `fx`) meets its contract -/
theorem solveRootGoal_general (hyp : Hyp c inst dom) (h3 : cfg.fixF3 = true) (h7 : cfg.fixF7 = true)
    (h10 : fx = true → cfg.fixF10 = true) (h16 : fx = true → cfg.fixF16 = true)
    (hov : dom.length ≤ cfg.overflowDepth) (hr : 2 ≤ cfg.rounds) : RootSpec (Corr c inst) inst cfg dom fx := by
  intro s hfx hok g hg
  have i1 : Inv c inst dom fx { s with stack := [], graph := [], interrupted := false } := by
    refine ⟨hfx.imp id (fun q => ⟨q, rfl⟩), ?_, hok, ?_, List.nodup_nil, ?_, ?_, ?_, ?_, ?_, ?_, rfl, ?_⟩
    · intro i n hn; exact absurd hn (by simp)
    · intro e he; cases he
    all_goals first
      | (intro i n d hn; exact absurd hn (by simp))
      | (intro i n hn; exact absurd hn (by simp))
  have h := solveGoal_spec hyp h3 h10 h16 hov hr (cfg.overflowDepth + 1) g none _ i1 hg
    (by show cfg.overflowDepth < cfg.overflowDepth + 1 + 0; omega)
  cases hrun : solveGoal inst cfg (cfg.overflowDepth + 1) g none
      { s with stack := [], graph := [], interrupted := false } with
  | panic site s' =>
    rw [hrun] at h
    obtain ⟨rfl, h2⟩ := h
    exact Or.inr ⟨s', solveRootGoal_panic h3 h7 hrun, h2⟩
  | ok r s' =>
  obtain ⟨v, m'⟩ := r
  rw [hrun] at h
  obtain ⟨i', hs', _, hf'⟩ := h
  left
  have hstack : s'.stack = [] := List.eq_nil_of_length_eq_zero hs'.stack.1
  have hgraph : s'.graph = [] := graph_nil hstack i'.stk i'.nonstk
  refine ⟨v, s', ?_, ?_, hstack, hgraph, i'.cacheOK, hs'.cacheMode, fun q => (hs'.quiet q).2 rfl⟩
  · exact solveRootGoal_ok h3 h7 hrun
  · rcases hf' with h | h | h
    · refine Or.inl (Or.inl ⟨h.1, ?_⟩)
      cases h.2 with
      | inl ht => exact ht
      | inr hw =>
        obtain ⟨i, n, hn, _⟩ := hw
        rw [hgraph] at hn
        simp at hn
    · exact Or.inl (Or.inr ⟨h.1, h.2.1⟩)
    · exact Or.inr h

theorem solveRootGoal_correct (hyp : Hyp c inst dom) (h3 : cfg.fixF3 = true) (h7 : cfg.fixF7 = true)
    (hb : cfg.budget = none) (hov : dom.length ≤ cfg.overflowDepth) (hr : 2 ≤ cfg.rounds)
    (s : St) (hq : s.oracle = [] ∧ s.oracleDefault = true) (hgc : GoodCache c inst s)
    (g : Nat) (hg : g ∈ dom) :
    ∃ v s', solveRootGoal inst cfg g s = .ok v s' ∧ Corr c inst g v ∧
      s'.stack = [] ∧ s'.graph = [] ∧ GoodCache c inst s' := by
  obtain ⟨v, s', h1, h2, h3', h4, h5, h6⟩ :=
    (solveRootGoal_general (fx := false) hyp h3 h7 nofun nofun hov hr).total hb s hq hgc.2 g hg
  refine ⟨v, s', h1, h2, h3', h4, Option.isSome_iff_exists.mp ?_, h5⟩
  rw [h6]
  exact Option.isSome_iff_exists.mpr hgc.1

theorem solveRootGoal_correct_nocache (hyp : Hyp c inst dom) (h3 : cfg.fixF3 = true) (h7 : cfg.fixF7 = true)
    (hb : cfg.budget = none) (hov : dom.length ≤ cfg.overflowDepth) (hr : 2 ≤ cfg.rounds)
    (s : St) (hq : s.oracle = [] ∧ s.oracleDefault = true) (hnc : s.cache = none)
    (g : Nat) (hg : g ∈ dom) :
    ∃ v s', solveRootGoal inst cfg g s = .ok v s' ∧ Corr c inst g v ∧
      s'.stack = [] ∧ s'.graph = [] ∧ s'.cache = none := by
  obtain ⟨v, s', h1, h2, h3', h4, _, h6⟩ :=
    (solveRootGoal_general (fx := false) hyp h3 h7 nofun nofun hov hr).total hb s hq (CacheAll.of_none hnc) g hg
  refine ⟨v, s', h1, h2, h3', h4, Option.not_isSome_iff_eq_none.mp ?_⟩
  rw [h6, hnc]
  exact Bool.false_ne_true

theorem history_correct (hyp : Hyp c inst dom) (h3 : cfg.fixF3 = true) (h7 : cfg.fixF7 = true)
    (hov : dom.length ≤ cfg.overflowDepth) (hr : 2 ≤ cfg.rounds) (b : Bool)
    (gs : List Nat) (hd : ∀ g, g ∈ gs → g ∈ dom) (g : Nat) (hg : g ∈ dom) :
    ∃ v, solveOn inst cfg g (runHistory inst cfg (gs.map Call.plain) (St.fresh b)) = .value v ∧
      Corr c inst g v :=
  RootSpec.plain_history (fun _ => solveRootGoal_general (fx := false) hyp h3 h7 nofun nofun hov hr) b gs hd g hg

end

end Chalk.FixedPoint.Cyc
