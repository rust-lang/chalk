/-
  FixedPointHistory.lean — from `solve_root_goal` to sequences of calls on one solver instance, for any notion
  `Ok g v` of "`v` is the right answer for goal `g`": the contract `RootSpec`, what it gives for a single root call
  and for a history of calls.  `FixedPointSemN.lean` and `FixedPointMixN.lean` prove the contract for their instances.
-/
import ChalkModel.Lemmas.FixedPointBook

namespace Chalk.FixedPoint
open Cyc (InCache QuietSt)

/-- along a history an invariant of single calls is kept, and every outcome is what its call promises -/
theorem history_lift {inst : Instance} {cfg : Cfg} {I : St → Prop} {Q : Call → Prop} {R : Call → Outcome → Prop}
    (step : ∀ s k, I s → Q k → I (runCall inst cfg k s).state ∧ R k (runCall inst cfg k s).outcome) :
    ∀ (ks : List Call), (∀ k, k ∈ ks → Q k) → ∀ s, I s →
      I (runHistory inst cfg ks s) ∧
      ∀ (i : Nat) (k : Call), ks[i]? = some k → ∃ o, (outcomes inst cfg ks s)[i]? = some o ∧ R k o
  | [], _, _, h => ⟨h, fun i k hi => by cases hi⟩
  | k0 :: ks, hd, s, h => by
    obtain ⟨h1, r1⟩ := step s k0 h (hd k0 (List.mem_cons_self ..))
    obtain ⟨h2, r2⟩ := history_lift step ks (fun x hx => hd x (List.mem_cons_of_mem _ hx)) _ h1
    refine ⟨h2, fun i k hi => ?_⟩
    cases i with
    | zero => cases hi; exact ⟨_, rfl, r1⟩
    | succ i => exact r2 i k hi

theorem definite_iff {X : Prop} {v : V} (h : (v = .unique ∧ X) ∨ (v = .noSolution ∧ ¬ X)) :
    (v = .unique ↔ X) ∧ (v = .noSolution ↔ ¬ X) ∧ v ≠ .ambig := by
  rcases h with ⟨rfl, hx⟩ | ⟨rfl, hx⟩
  · exact ⟨⟨fun _ => hx, fun _ => rfl⟩, ⟨nofun, fun hn => absurd hx hn⟩, nofun⟩
  · exact ⟨⟨nofun, fun h => absurd h hx⟩, ⟨fun _ => hx, fun _ => rfl⟩, nofun⟩

/-- every cache entry is a right answer (vacuous when caching is disabled) -/
def CacheAll (Ok : Nat → V → Prop) (s : St) : Prop := ∀ k v, InCache s k v → Ok k v

theorem CacheAll.of_none {Ok : Nat → V → Prop} {s : St} (h : s.cache = none) : CacheAll Ok s := by
  rintro k v ⟨cc, e, _⟩
  rw [h] at e
  cases e

theorem CacheAll.fresh (Ok : Nat → V → Prop) (b : Bool) : CacheAll Ok (St.fresh b) := by
  rintro k v ⟨cc, e, hk⟩
  cases b with
  | false => cases e
  | true => cases e; cases hk

/-- the one panic that may end a solve: the hook's work budget (only if a budget is set); the cache it leaves
    is right -/
def BudgetPanic (Ok : Nat → V → Prop) (cfg : Cfg) (site : Site) (s : St) : Prop :=
  site = .budget ∧ cfg.budget ≠ none ∧ CacheAll Ok s

/-- the callback of this call never says "stop"; its work budget is arbitrary -/
def QuietCall (k : Call) : Prop := k.oracle = [] ∧ k.dflt = true

theorem quiet_plain {dom : List Nat} {gs : List Nat} (hd : ∀ g, g ∈ gs → g ∈ dom) :
    ∀ k, k ∈ gs.map Call.plain → QuietCall k ∧ k.goal ∈ dom := by
  intro k hk
  obtain ⟨g, hg, rfl⟩ := List.mem_map.mp hk
  exact ⟨⟨rfl, rfl⟩, hd g hg⟩

/-- The contract of `solve_root_goal` on the goals of `dom`, with ANY work budget and (if `fx`) ANY
    `should_continue` oracle, caching enabled or disabled, from a state whose cache entries are right:
    it returns the right answer — or `ambig`, and then solving was interrupted —, stack and graph
    empty, or it ends in the budget panic; the cache it leaves is right in all cases. -/
def RootSpec (Ok : Nat → V → Prop) (inst : Instance) (cfg : Cfg) (dom : List Nat) (fx : Bool) : Prop :=
  ∀ (s : St), fx = true ∨ QuietSt s → CacheAll Ok s → ∀ g, g ∈ dom →
    (∃ v s', solveRootGoal inst cfg g s = .ok v s' ∧ (Ok g v ∨ (v = .ambig ∧ s'.interrupted = true)) ∧
      s'.stack = [] ∧ s'.graph = [] ∧ CacheAll Ok s' ∧ s'.cache.isSome = s.cache.isSome ∧
      (QuietSt s → s'.interrupted = false)) ∨
    (∃ s', solveRootGoal inst cfg g s = .panic .budget s' ∧ cfg.budget ≠ none ∧ CacheAll Ok s')

section
variable {Ok : Nat → V → Prop} {inst : Instance} {cfg : Cfg} {dom : List Nat} {fx : Bool}

theorem RootSpec.quiet (h : RootSpec Ok inst cfg dom fx) (s : St) (hq : QuietSt s) (hok : CacheAll Ok s)
    (g : Nat) (hg : g ∈ dom) :
    (∃ v s', solveRootGoal inst cfg g s = .ok v s' ∧ Ok g v ∧
      s'.stack = [] ∧ s'.graph = [] ∧ CacheAll Ok s' ∧ s'.cache.isSome = s.cache.isSome) ∨
    (∃ s', solveRootGoal inst cfg g s = .panic .budget s' ∧ cfg.budget ≠ none ∧ CacheAll Ok s') := by
  rcases h s (Or.inr hq) hok g hg with ⟨v, s', e, hv, h1, h2, h3, h4, h5⟩ | hp
  · exact Or.inl ⟨v, s', e, hv.resolve_right (fun a => Bool.false_ne_true ((h5 hq).symm.trans a.2)), h1, h2, h3, h4⟩
  · exact Or.inr hp

/-- no interruption, no work budget: TOTAL CORRECTNESS -/
theorem RootSpec.total (h : RootSpec Ok inst cfg dom fx) (hb : cfg.budget = none) (s : St) (hq : QuietSt s)
    (hok : CacheAll Ok s) (g : Nat) (hg : g ∈ dom) :
    ∃ v s', solveRootGoal inst cfg g s = .ok v s' ∧ Ok g v ∧
      s'.stack = [] ∧ s'.graph = [] ∧ CacheAll Ok s' ∧ s'.cache.isSome = s.cache.isSome :=
  (h.quiet s hq hok g hg).resolve_right (fun ⟨_, _, hne, _⟩ => hne hb)

/-- any oracle, no work budget: interrupted solving is a safe approximation (`Ok` never accepts `ambig`) -/
theorem RootSpec.approx (h : RootSpec Ok inst cfg dom true) (hb : cfg.budget = none) (hamb : ∀ g, ¬ Ok g .ambig)
    (s : St) (hok : CacheAll Ok s) (g : Nat) (hg : g ∈ dom) :
    ∃ v s', solveRootGoal inst cfg g s = .ok v s' ∧
      (Ok g v ∨ v = .ambig) ∧ (v = .ambig → s'.interrupted = true) ∧ (QuietSt s → Ok g v) ∧
      s'.stack = [] ∧ s'.graph = [] ∧ s'.cache.isSome = s.cache.isSome ∧ CacheAll Ok s' := by
  rcases h s (Or.inl rfl) hok g hg with ⟨v, s', e, hv, h1, h2, h3, h4, h5⟩ | ⟨_, _, hne, _⟩
  · refine ⟨v, s', e, hv.imp id (fun a => a.1), fun ea => ?_, fun hq => ?_, h1, h2, h4, h3⟩
    · exact hv.elim (fun a => absurd (ea ▸ a) (hamb g)) (fun a => a.2)
    · exact hv.resolve_right (fun a => Bool.false_ne_true ((h5 hq).symm.trans a.2))
  · exact absurd hb hne

def CallOk (Ok : Nat → V → Prop) (k : Call) (o : Outcome) : Prop :=
  o = .panic .budget ∧ k.budget ≠ none ∨ ∃ v, o = .value v ∧ (Ok k.goal v ∨ (v = .ambig ∧ ¬ QuietCall k))

/-- one call of the solver (the contract for every budget a call may carry) -/
theorem RootSpec.call (h : ∀ b, RootSpec Ok inst { cfg with budget := b } dom fx) (s : St) (k : Call)
    (hok : CacheAll Ok s) (hk : (fx = true ∨ QuietCall k) ∧ k.goal ∈ dom) :
    CacheAll Ok (runCall inst cfg k s).state ∧ CallOk Ok k (runCall inst cfg k s).outcome := by
  unfold runCall
  rcases h k.budget { s with oracle := k.oracle, oracleDefault := k.dflt, work := 0 } hk.1 hok k.goal hk.2 with
    ⟨v, s', e, hv, _, _, hok', _, hq⟩ | ⟨s', e, hb, hok'⟩
  · rw [e]
    exact ⟨hok', Or.inr ⟨v, rfl,
      hv.imp id (fun a => ⟨a.1, fun q => Bool.false_ne_true ((hq q).symm.trans a.2)⟩)⟩⟩
  · rw [e]
    exact ⟨hok', Or.inl ⟨rfl, hb⟩⟩

theorem RootSpec.plain (h : ∀ b, RootSpec Ok inst { cfg with budget := b } dom fx) (s : St)
    (hok : CacheAll Ok s) (g : Nat) (hg : g ∈ dom) : ∃ v, solveOn inst cfg g s = .value v ∧ Ok g v := by
  rcases (RootSpec.call h s (Call.plain g) hok ⟨Or.inr ⟨rfl, rfl⟩, hg⟩).2 with ⟨_, hne⟩ | ⟨v, e, hv⟩
  · exact absurd rfl hne
  · exact ⟨v, e, hv.resolve_right (fun a => a.2 ⟨rfl, rfl⟩)⟩

/-- a history of calls — arbitrary ones if `fx`, uninterrupted ones otherwise — on a solver whose cache is
    right: the outcomes, the cache afterwards, and the next plain call -/
theorem RootSpec.history (h : ∀ b, RootSpec Ok inst { cfg with budget := b } dom fx) (ks : List Call)
    (hd : ∀ k, k ∈ ks → (fx = true ∨ QuietCall k) ∧ k.goal ∈ dom) (s : St) (hok : CacheAll Ok s)
    (g : Nat) (hg : g ∈ dom) :
    (∀ (i : Nat) (k : Call), ks[i]? = some k →
      (outcomes inst cfg ks s)[i]? = some (.panic .budget) ∧ k.budget ≠ none ∨
      ∃ v, (outcomes inst cfg ks s)[i]? = some (.value v) ∧ (Ok k.goal v ∨ (v = .ambig ∧ ¬ QuietCall k))) ∧
    CacheAll Ok (runHistory inst cfg ks s) ∧
    ∃ v, solveOn inst cfg g (runHistory inst cfg ks s) = .value v ∧ Ok g v := by
  obtain ⟨hc, ho⟩ := history_lift (RootSpec.call h) ks hd s hok
  refine ⟨fun i k hi => ?_, hc, RootSpec.plain h _ hc g hg⟩
  obtain ⟨o, eo, ⟨rfl, hb⟩ | ⟨v, rfl, hv⟩⟩ := ho i k hi
  · exact Or.inl ⟨eo, hb⟩
  · exact Or.inr ⟨v, eo, hv⟩

/-- … of uninterrupted calls: no `ambig` -/
theorem RootSpec.history_quiet (h : ∀ b, RootSpec Ok inst { cfg with budget := b } dom fx) (ks : List Call)
    (hd : ∀ k, k ∈ ks → QuietCall k ∧ k.goal ∈ dom) (s : St) (hok : CacheAll Ok s) (g : Nat) (hg : g ∈ dom) :
    (∀ (i : Nat) (k : Call), ks[i]? = some k →
      (outcomes inst cfg ks s)[i]? = some (.panic .budget) ∧ k.budget ≠ none ∨
      ∃ v, (outcomes inst cfg ks s)[i]? = some (.value v) ∧ Ok k.goal v) ∧
    CacheAll Ok (runHistory inst cfg ks s) ∧
    ∃ v, solveOn inst cfg g (runHistory inst cfg ks s) = .value v ∧ Ok g v := by
  obtain ⟨ho, hrest⟩ := RootSpec.history h ks (fun k hk => ⟨Or.inr (hd k hk).1, (hd k hk).2⟩) s hok g hg
  refine ⟨fun i k hi => (ho i k hi).imp id (fun ⟨v, e, hv⟩ => ⟨v, e, ?_⟩), hrest⟩
  exact hv.resolve_right (fun a => a.2 (hd k (List.mem_of_getElem? hi)).1)

/-- the answer of a plain call after any history of plain calls on a fresh solver, cache on or off -/
theorem RootSpec.plain_history (h : ∀ b, RootSpec Ok inst { cfg with budget := b } dom fx) (b : Bool)
    (gs : List Nat) (hd : ∀ g, g ∈ gs → g ∈ dom) (g : Nat) (hg : g ∈ dom) :
    ∃ v, solveOn inst cfg g (runHistory inst cfg (gs.map Call.plain) (St.fresh b)) = .value v ∧ Ok g v :=
  (RootSpec.history_quiet h _ (quiet_plain hd) _ (CacheAll.fresh Ok b) g hg).2.2

end

end Chalk.FixedPoint
