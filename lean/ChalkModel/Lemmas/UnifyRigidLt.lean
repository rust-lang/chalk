/-
  The STRUCTURE half of the rigid theorem for types whose lifetimes may be inference variables:
  on types without type/const inference variables (no bound variables, aliases, `dyn`, error type;
  fn pointers without binders) `relateTy` succeeds iff the lifetime-erased types are equal, and
  otherwise answers `NoSolution`; it never panics. The table changes (lifetime variables are unified
  or bound), the invariant "every lifetime variable in `S` is in range and unbound or bound to a
  rigid lifetime" is preserved, no variable or universe is created, only outlives goals are pushed.

  The traversal is that of `UnifyRigid.lean` (`relateTy_relOK`); what is proved here is the step on
  two lifetimes (`relateLifetime_T`), which makes the fragment an instance of `Frag`.
-/
import ChalkModel.Lemmas.UnifyRigid
import ChalkModel.Lemmas.UnifyTable

namespace Chalk

def LtVarOk (t : Table) (x : Nat) : Prop :=
  x < t.numVars ∧ (t.probeVar x = none ∨ ∃ l, t.probeVar x = some (.lt l) ∧ l.rigid = true)

def LtVarsOk (S : Nat → Prop) (st : UState) : Prop :=
  st.table.WF ∧ ∀ x, S x → LtVarOk st.table x

/-- what one successful relation does to the state -/
structure LtStep (S : Nat → Prop) (st st' : UState) : Prop where
  good : LtVarsOk S st'
  numVars : st'.table.numVars = st.table.numVars
  maxU : st'.table.maxUniverse = st.table.maxUniverse
  goals : ∃ l, st'.goals = st.goals ++ outlivesGoals l

theorem LtStep.refl {S : Nat → Prop} {st : UState} (h : LtVarsOk S st) : LtStep S st st :=
  ⟨h, rfl, rfl, [], by simp⟩

theorem LtStep.trans {S : Nat → Prop} {st1 st2 st3 : UState} (h12 : LtStep S st1 st2) (h23 : LtStep S st2 st3) :
    LtStep S st1 st3 := by
  obtain ⟨l1, e1⟩ := h12.goals
  obtain ⟨l2, e2⟩ := h23.goals
  exact ⟨h23.good, by rw [h23.numVars, h12.numVars], by rw [h23.maxU, h12.maxU], l1 ++ l2,
    by rw [e2, e1]; simp [List.append_assoc]⟩

theorem LtVarOk.of_probe {t t' : Table} {x : Nat} (hn : t'.numVars = t.numVars)
    (hp : t'.probeVar x = t.probeVar x ∨ t'.probeVar x = none ∨
      ∃ l, t'.probeVar x = some (.lt l) ∧ l.rigid = true)
    (h : LtVarOk t x) : LtVarOk t' x := by
  refine ⟨by rw [hn]; exact h.1, ?_⟩
  rcases hp with hp | hp | hp
  · rw [hp]; exact h.2
  · exact .inl hp
  · exact .inr hp

theorem unifyVarVar_unbound_ok (t : Table) (a b : Nat) (ha : t.probeVar a = none) (hb : t.probeVar b = none) :
    ∃ t', t.unifyVarVar a b = .ok t' := by
  obtain ⟨ua, hua⟩ := t.probeValue_of_probeVar_none a ha
  obtain ⟨ub, hub⟩ := t.probeValue_of_probeVar_none b hb
  unfold Table.probeValue at hua hub
  unfold Table.unifyVarVar
  simp only [hua, hub, unifyValues, ← apply_ite (Except.ok (ε := Err))]
  exact ⟨_, rfl⟩

/-- a lifetime after shallow normalization: rigid, or an unbound variable of `S` -/
def LtResolved (S : Nat → Prop) (t : Table) (l : Lifetime) : Prop :=
  l.rigid = true ∨ ∃ x, l = .infer x ∧ S x ∧ t.probeVar x = none

theorem LtResolved.kindOk {S : Nat → Prop} {t : Table} {l : Lifetime} (h : LtResolved S t l) :
    t.ltKindOk l = true ∧ t.normalizeLifetimeShallow l = none := by
  rcases h with h | ⟨x, rfl, _, hp⟩
  · exact ⟨ltKindOk_rigid t l h, normalizeLifetimeShallow_rigid t l h⟩
  · simp [Table.ltKindOk, Table.normalizeLifetimeShallow, hp]

theorem resolved_normalize {S : Nat → Prop} {st : UState} (hg : LtVarsOk S st) (l : Lifetime)
    (hr : l.rigidT = true) (hS : ∀ x ∈ l.ltVars, S x) :
    st.table.ltKindOk l = true ∧ LtResolved S st.table ((st.table.normalizeLifetimeShallow l).getD l) := by
  cases l <;> simp [Lifetime.rigidT] at hr
  case infer x =>
    have hSx : S x := hS x (by simp [Lifetime.ltVars])
    rcases (hg.2 x hSx).2 with hp | ⟨l', hp, hl'⟩
    · simp [Table.ltKindOk, Table.normalizeLifetimeShallow, hp]
      exact .inr ⟨x, rfl, hSx, hp⟩
    · simp [Table.ltKindOk, Table.normalizeLifetimeShallow, hp]
      exact .inl hl'
  all_goals
    simp [Table.ltKindOk, Table.normalizeLifetimeShallow]
    exact .inl rfl

theorem relateLifetime_normalize (v : Variance) (a0 b0 : Lifetime) (st : UState)
    (ha0 : st.table.ltKindOk a0 = true) (hb0 : st.table.ltKindOk b0 = true)
    (ha : st.table.ltKindOk ((st.table.normalizeLifetimeShallow a0).getD a0) = true)
    (hb : st.table.ltKindOk ((st.table.normalizeLifetimeShallow b0).getD b0) = true)
    (hna : st.table.normalizeLifetimeShallow ((st.table.normalizeLifetimeShallow a0).getD a0) = none)
    (hnb : st.table.normalizeLifetimeShallow ((st.table.normalizeLifetimeShallow b0).getD b0) = none) :
    relateLifetime v a0 b0 st =
      relateLifetime v ((st.table.normalizeLifetimeShallow a0).getD a0)
        ((st.table.normalizeLifetimeShallow b0).getD b0) st := by
  simp only [relateLifetime, ha0, hb0, ha, hb, hna, hnb, Option.getD_none]

theorem pushOutlives_step {S : Nat → Prop} {st : UState} (hg : LtVarsOk S st) (v : Variance) (a b : Lifetime) :
    LtStep S st (pushOutlives v a b st) := by
  refine ⟨hg, rfl, rfl, ?_⟩
  cases v
  · exact ⟨[(b, a)], by simp [pushOutlives, outlivesGoals]⟩
  · exact ⟨[(a, b), (b, a)], by simp [pushOutlives, outlivesGoals]⟩
  · exact ⟨[(a, b)], by simp [pushOutlives, outlivesGoals]⟩

theorem unifyLifetimeVar_ok {S : Nat → Prop} {st : UState} (hg : LtVarsOk S st) (v : Variance) (x : Nat)
    (l : Lifetime) (ui : Nat) (hp : st.table.probeVar x = none) (hl : l.rigid = true) :
    ∃ st', unifyLifetimeVar v x l ui st = .ok st' ∧ LtStep S st st' := by
  obtain ⟨u, hu⟩ := st.table.probeValue_of_probeVar_none x hp
  simp only [unifyLifetimeVar, Table.universeOfUnbound, hu, liftRes]
  split
  · rw [(st.table.unifyVarValue_bound x (.lt l) _).mpr ⟨hp, rfl⟩]
    refine ⟨_, rfl, ⟨Table.setValue_WF _ hg.1 _ _, ?_⟩, rfl, rfl, [], by simp⟩
    intro y hy
    have hyok := hg.2 y hy
    refine LtVarOk.of_probe (t := st.table) rfl ?_ hyok
    show Table.probeVar { st.table with value := _ } y = _ ∨ _
    rw [Table.setValue_probeVar _ hg.1 _ _ y hyok.1]
    by_cases hf : st.table.find y = st.table.find x
    · rw [if_pos hf]; exact .inr (.inr ⟨l, rfl, hl⟩)
    · rw [if_neg hf]; exact .inl rfl
  · exact ⟨_, rfl, pushOutlives_step hg _ _ _⟩

theorem relateLifetime_resolved {S : Nat → Prop} {st : UState} (hg : LtVarsOk S st) (v : Variance)
    (a b : Lifetime) (ra : LtResolved S st.table a) (rb : LtResolved S st.table b) :
    ∃ st', relateLifetime v a b st = .ok st' ∧ LtStep S st st' := by
  rcases ra with hra | ⟨x, rfl, hSx, hpx⟩ <;> rcases rb with hrb | ⟨y, rfl, hSy, hpy⟩
  · rw [relateLifetime_rigid v a b st hra hrb]
    exact ⟨_, rfl, hg, rfl, rfl, _, rfl⟩
  · cases a <;> simp [Lifetime.rigid] at hra <;>
      simp only [relateLifetime, Table.ltKindOk, Table.normalizeLifetimeShallow, hpy, Option.getD_none,
        Bool.and_self, Bool.not_true, Bool.false_eq_true, if_false] <;>
      exact unifyLifetimeVar_ok hg _ y _ _ hpy (by simp [Lifetime.rigid])
  · cases b <;> simp [Lifetime.rigid] at hrb <;>
      simp only [relateLifetime, Table.ltKindOk, Table.normalizeLifetimeShallow, hpx, Option.getD_none,
        Bool.and_self, Bool.not_true, Bool.false_eq_true, if_false] <;>
      exact unifyLifetimeVar_ok hg _ x _ _ hpx (by simp [Lifetime.rigid])
  · simp only [relateLifetime, Table.ltKindOk, Table.normalizeLifetimeShallow, hpx, hpy, Option.getD_none,
      Bool.and_self, Bool.not_true, Bool.false_eq_true, if_false]
    obtain ⟨t', ht'⟩ := unifyVarVar_unbound_ok st.table x y hpx hpy
    have hx := hg.2 x hSx
    have hy := hg.2 y hSy
    obtain ⟨hwf', hn, hmu, hpr, _⟩ := st.table.unifyVarVar_unbound x y t' hg.1 hx.1 hy.1 hpx hpy ht'
    rw [ht']
    refine ⟨_, rfl, ⟨hwf', ?_⟩, hn, hmu, [], by simp⟩
    intro z hz
    have hzok := hg.2 z hz
    exact LtVarOk.of_probe (t := st.table) hn (.inl (hpr z hzok.1)) hzok

theorem relateLifetime_T {S : Nat → Prop} {st : UState} (hg : LtVarsOk S st) (v : Variance) (la lb : Lifetime)
    (hra : la.rigidT = true) (hrb : lb.rigidT = true)
    (hSa : ∀ x ∈ la.ltVars, S x) (hSb : ∀ x ∈ lb.ltVars, S x) :
    ∃ st', relateLifetime v la lb st = .ok st' ∧ LtStep S st st' := by
  obtain ⟨ka, ra⟩ := resolved_normalize hg la hra hSa
  obtain ⟨kb, rb⟩ := resolved_normalize hg lb hrb hSb
  rw [relateLifetime_normalize v la lb st ka kb ra.kindOk.1 rb.kindOk.1 ra.kindOk.2 rb.kindOk.2]
  exact relateLifetime_resolved hg v _ _ ra rb

/-- with lifetime variables in `S`: the table changes, `LtVarsOk S` is kept -/
theorem Frag.ltVars (S : Nat → Prop) : Frag S (LtVarsOk S) (fun st _ st' => LtStep S st st') where
  refl := LtStep.refl
  trans := LtStep.trans
  pre h := h.good
  lifetime v la lb hg ha hb := relateLifetime_T hg v la lb ha.1 hb.1 ha.2 hb.2

theorem relateTy_rigidT (db : UDb) (ar : TyName → Nat) (hdb : db.arityOk ar) (jf : Nat) (S : Nat → Prop) :
    ∀ (fuel : Nat) (v : Variance) (a b : Ty) (st : UState),
      st.table.WF → (∀ x, S x → LtVarOk st.table x) →
      a.rigidT = true → b.rigidT = true → (∀ x ∈ a.ltVars, S x) → (∀ x ∈ b.ltVars, S x) →
      a.arityOk ar = true → b.arityOk ar = true → a.depth ≤ fuel →
      (a.eraseLt = b.eraseLt →
        ∃ st', relateTy db jf fuel v a b st = .ok st' ∧ st'.table.WF ∧ (∀ x, S x → LtVarOk st'.table x) ∧
          st'.table.numVars = st.table.numVars ∧ st'.table.maxUniverse = st.table.maxUniverse ∧
          (∃ l, st'.goals = st.goals ++ outlivesGoals l)) ∧
      (a.eraseLt ≠ b.eraseLt → relateTy db jf fuel v a b st = .error .noSolution) := by
  intro fuel v a b st hwf hS har hbr hSa hSb haa hab hd
  have h := relateTy_relOK (Frag.ltVars S) hdb jf fuel v a b st ⟨hwf, hS⟩ ⟨har, hSa, haa⟩ ⟨hbr, hSb, hab⟩ hd
  refine ⟨fun he => ?_, h.2⟩
  obtain ⟨st', hr, hs⟩ := h.1 he
  exact ⟨st', hr, hs.good.1, hs.good.2, hs.numVars, hs.maxU, hs.goals⟩

theorem relate_rigidT (db : UDb) (ar : TyName → Nat) (hdb : db.arityOk ar) (jf fuel : Nat) (S : Nat → Prop)
    (t : Table) (v : Variance) (a b : Ty)
    (hwf : t.WF) (hS : ∀ x, S x → LtVarOk t x)
    (har : a.rigidT = true) (hbr : b.rigidT = true) (hSa : ∀ x ∈ a.ltVars, S x) (hSb : ∀ x ∈ b.ltVars, S x)
    (haa : a.arityOk ar = true) (hab : b.arityOk ar = true) (hd : a.depth ≤ fuel) :
    (Succeeds (relate db jf fuel t v a b) ↔ a.eraseLt = b.eraseLt) ∧
    (a.eraseLt ≠ b.eraseLt → relate db jf fuel t v a b = (t, .noSolution)) := by
  have h := relateTy_rigidT db ar hdb jf S fuel v a b { table := t, goals := [] } hwf hS har hbr hSa hSb
    haa hab hd
  refine Succeeds.iff_of (fun he => ?_) (fun he => ?_)
  · obtain ⟨st', hr, _⟩ := h.1 he
    simp only [relate, hr]; exact ⟨_, rfl⟩
  · simp only [relate, h.2 he]; rfl

theorem relate_rigidT_swap (db : UDb) (ar : TyName → Nat) (hdb : db.arityOk ar) (jf fuel : Nat) (S : Nat → Prop)
    (t : Table) (v v' : Variance) (a b : Ty)
    (hwf : t.WF) (hS : ∀ x, S x → LtVarOk t x)
    (har : a.rigidT = true) (hbr : b.rigidT = true) (hSa : ∀ x ∈ a.ltVars, S x) (hSb : ∀ x ∈ b.ltVars, S x)
    (haa : a.arityOk ar = true) (hab : b.arityOk ar = true) (hda : a.depth ≤ fuel) (hdb' : b.depth ≤ fuel) :
    Succeeds (relate db jf fuel t v a b) ↔ Succeeds (relate db jf fuel t v' b a) := by
  rw [(relate_rigidT db ar hdb jf fuel S t v a b hwf hS har hbr hSa hSb haa hab hda).1,
    (relate_rigidT db ar hdb jf fuel S t v' b a hwf hS hbr har hSb hSa hab haa hdb').1]
  exact ⟨Eq.symm, Eq.symm⟩

#print axioms Chalk.relateTy_rigidT
#print axioms Chalk.relate_rigidT
#print axioms Chalk.relate_rigidT_swap

end Chalk
