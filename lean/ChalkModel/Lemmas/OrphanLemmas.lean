/-
  Lemmas for C20: what the orphan clauses derive, predicate by predicate, and the agreement of
  the resolution procedure `provable` with the least fixed point `Derivable`.
-/
import ChalkModel.Orphan

namespace Chalk.Orphan

theorem derivable_iff (fixed : Bool) (P : Program) (g : DG) :
    Derivable fixed P g ↔ ∃ body ∈ clausesFor fixed P g, ∀ b ∈ body, Derivable fixed P b :=
  ⟨fun ⟨hb, hall⟩ => ⟨_, hb, hall⟩, fun ⟨_, hb, hall⟩ => .step hb hall⟩

section
variable {D : DG → Prop}

theorem bodies_nil : ¬ ∃ body ∈ ([] : List (List DG)), ∀ x ∈ body, D x :=
  fun ⟨_, h, _⟩ => nomatch h

theorem bodies_single (b : List DG) : (∃ body ∈ [b], ∀ x ∈ body, D x) ↔ ∀ x ∈ b, D x := by
  simp only [List.mem_singleton, exists_eq_left]

theorem bodies_fact : ∃ body ∈ [([] : List DG)], ∀ x ∈ body, D x :=
  (bodies_single []).2 (fun _ h => nomatch h)

theorem bodies_each (f : Ty → DG) (l : List Ty) :
    (∃ body ∈ l.map (fun a => [f a]), ∀ x ∈ body, D x) ↔ ∃ a ∈ l, D (f a) := by
  constructor
  · rintro ⟨_, hb, h⟩
    obtain ⟨a, ha, rfl⟩ := List.mem_map.1 hb
    exact ⟨a, ha, h _ (List.mem_singleton_self _)⟩
  · rintro ⟨a, ha, h⟩
    exact ⟨_, List.mem_map_of_mem ha, List.forall_mem_singleton.2 h⟩

theorem adt_isFullyVisible (f : AdtFlags) (args : List Ty) :
    (∃ body ∈ adtClauses f args .isFullyVisible, ∀ x ∈ body, D x) ↔
      ∀ a ∈ args, D (.ty .isFullyVisible a) := by
  rw [adtClauses, bodies_single, List.forall_mem_map]

theorem adt_isLocal (f : AdtFlags) (args : List Ty) :
    (∃ body ∈ adtClauses f args .isLocal, ∀ x ∈ body, D x) ↔
      (f.upstream = false ∨ f.fundamental = true ∧ ∃ a ∈ args, D (.ty .isLocal a)) := by
  rw [adtClauses]
  cases hu : f.upstream
  · exact iff_of_true bodies_fact (.inl rfl)
  · cases hf : f.fundamental
    · exact iff_of_false bodies_nil (fun h => h.elim (nomatch ·) (fun h => nomatch h.1))
    · exact (bodies_each ..).trans ⟨fun h => .inr ⟨rfl, h⟩, fun h => h.elim (nomatch ·) (·.2)⟩

theorem adt_isUpstream (f : AdtFlags) (args : List Ty) :
    (∃ body ∈ adtClauses f args .isUpstream, ∀ x ∈ body, D x) ↔
      (f.upstream = true ∧ (f.fundamental = false ∨ ∀ a ∈ args, D (.ty .isUpstream a))) := by
  rw [adtClauses]
  cases hu : f.upstream
  · exact iff_of_false bodies_nil (fun h => nomatch h.1)
  · cases hf : f.fundamental
    · exact iff_of_true bodies_fact ⟨rfl, .inl rfl⟩
    · exact (bodies_single _).trans <| List.forall_mem_map.trans
        ⟨fun h => ⟨rfl, .inr h⟩, fun h => h.2.elim (nomatch ·) _root_.id⟩

theorem adt_downstreamType (f : AdtFlags) (args : List Ty) :
    (∃ body ∈ adtClauses f args .downstreamType, ∀ x ∈ body, D x) ↔
      (f.fundamental = true ∧ ∃ a ∈ args, D (.ty .downstreamType a)) := by
  rw [adtClauses]
  cases hf : f.fundamental
  · exact iff_of_false bodies_nil (fun h => nomatch h.1)
  · exact (bodies_each ..).trans ⟨fun h => ⟨rfl, h⟩, (·.2)⟩

end

theorem derivable_adt (fixed : Bool) (P : Program) (p : Pred) (id : Nat) (args : Tys) :
    Derivable fixed P (.ty p (.adt id args)) ↔
      ∃ body ∈ adtClauses (P.adt id) args.toList p, ∀ b ∈ body, Derivable fixed P b :=
  derivable_iff ..

theorem derivable_scalar (fixed : Bool) (P : Program) (p : Pred) (s : Nat) :
    Derivable fixed P (.ty p (.scalar s)) ↔
      ∃ body ∈ scalarClauses fixed p, ∀ b ∈ body, Derivable fixed P b :=
  derivable_iff ..

theorem derivable_tuple (fixed : Bool) (P : Program) (p : Pred) (args : Tys) :
    Derivable fixed P (.ty p (.tuple args)) ↔
      ∃ body ∈ tupleClauses fixed args.toList p, ∀ b ∈ body, Derivable fixed P b :=
  derivable_iff ..

theorem not_derivable_param (fixed : Bool) (P : Program) (p : Pred) (i : Nat) :
    ¬ Derivable fixed P (.ty p (.param i)) :=
  fun h => bodies_nil ((derivable_iff ..).1 h)

theorem Ty.ind {M : Ty → Prop}
    (adt : ∀ id args, (∀ a ∈ args.toList, M a) → M (.adt id args))
    (scalar : ∀ s, M (.scalar s))
    (tuple : ∀ args, (∀ a ∈ args.toList, M a) → M (.tuple args))
    (param : ∀ i, M (.param i)) (t : Ty) : M t :=
  Ty.rec (motive_2 := fun ts => ∀ a ∈ ts.toList, M a) adt scalar tuple param
    (fun _ h => nomatch h)
    (fun _ _ ht hts a ha => (List.mem_cons.mp ha).elim (· ▸ ht) (hts a)) t

theorem provable_unfold (fixed : Bool) (P : Program) (g : DG) :
    provable fixed P g = (clausesFor fixed P g).any fun body => body.all fun b => provable fixed P b := by
  rw [provable]
  simp

theorem provable_iff_aux (fixed : Bool) (P : Program) : (n : Nat) → (g : DG) → g.size < n →
    (provable fixed P g = true ↔ Derivable fixed P g)
  | 0, _, h => by omega
  | n + 1, g, h => by
      rw [provable_unfold, derivable_iff]
      simp only [List.any_eq_true, List.all_eq_true]
      constructor
      · rintro ⟨body, hb, hall⟩
        refine ⟨body, hb, fun b hbb => ?_⟩
        have hlt := clausesFor_lt fixed P g body b hb hbb
        exact (provable_iff_aux fixed P n b (by omega)).1 (hall b hbb)
      · rintro ⟨body, hb, hall⟩
        refine ⟨body, hb, fun b hbb => ?_⟩
        have hlt := clausesFor_lt fixed P g body b hb hbb
        exact (provable_iff_aux fixed P n b (by omega)).2 (hall b hbb)

theorem provable_iff_derivable (fixed : Bool) (P : Program) (g : DG) :
    provable fixed P g = true ↔ Derivable fixed P g :=
  provable_iff_aux fixed P (g.size + 1) g (by omega)

theorem Tys.mentionsParam_false_iff : (ts : Tys) →
    (ts.mentionsParam = false ↔ ∀ a ∈ ts.toList, a.mentionsParam = false)
  | .nil => by simp [Tys.mentionsParam, Tys.toList]
  | .cons t ts => by
      simp only [Tys.mentionsParam, Tys.toList, Bool.or_eq_false_iff, List.forall_mem_cons,
        Tys.mentionsParam_false_iff ts]

theorem Tys.anyLocal_iff (P : Program) : (ts : Tys) →
    (ts.anyLocal P = true ↔ ∃ a ∈ ts.toList, a.isLocal P = true)
  | .nil => by simp [Tys.anyLocal, Tys.toList]
  | .cons t ts => by
      simp only [Tys.anyLocal, Tys.toList, Bool.or_eq_true, List.mem_cons, exists_eq_or_imp, Tys.anyLocal_iff P ts]

mutual
  /-- what the `IsUpstream` clauses derive: an `#[upstream]` struct (all arguments upstream if it
      is also `#[fundamental]`); NOT scalars and tuples — `match_ty` has no `IsUpstream` clause for
      built-in types (finding F5b, open: it matters to the overlap check, not to the orphan check) -/
  def Ty.isUpstream (P : Program) : Ty → Bool
    | .adt id args => (P.adt id).upstream && (!(P.adt id).fundamental || args.allUpstream P)
    | .scalar _ => false
    | .tuple _ => false
    | .param _ => false
  def Tys.allUpstream (P : Program) : Tys → Bool
    | .nil => true
    | .cons t ts => t.isUpstream P && ts.allUpstream P
end

theorem Tys.allUpstream_iff (P : Program) : (ts : Tys) →
    (ts.allUpstream P = true ↔ ∀ a ∈ ts.toList, a.isUpstream P = true)
  | .nil => by simp [Tys.allUpstream, Tys.toList]
  | .cons t ts => by
      simp only [Tys.allUpstream, Tys.toList, Bool.and_eq_true, List.forall_mem_cons, Tys.allUpstream_iff P ts]

mutual
  /-- built from struct applications and impl parameters only -/
  def Ty.structOnly : Ty → Bool
    | .adt _ args => args.structOnly
    | .scalar _ => false
    | .tuple _ => false
    | .param _ => true
  def Tys.structOnly : Tys → Bool
    | .nil => true
    | .cons t ts => t.structOnly && ts.structOnly
end

theorem Tys.structOnly_mem : (ts : Tys) → ts.structOnly = true → ∀ a ∈ ts.toList, a.structOnly = true
  | .nil, _ => fun _ h => nomatch h
  | .cons t ts, h => by
      simp only [Tys.structOnly, Bool.and_eq_true] at h
      exact List.forall_mem_cons.2 ⟨h.1, Tys.structOnly_mem ts h.2⟩

theorem fullyVisible_of (fixed : Bool) (P : Program) (t : Ty) :
    fixed = true ∨ t.structOnly = true →
      (Derivable fixed P (.ty .isFullyVisible t) ↔ t.mentionsParam = false) := by
  induction t using Ty.ind with
  | adt id args ih =>
      intro h
      have hargs : ∀ a ∈ args.toList, fixed = true ∨ a.structOnly = true :=
        fun a ha => h.imp _root_.id (fun h => Tys.structOnly_mem args h a ha)
      rw [derivable_adt, adt_isFullyVisible, Ty.mentionsParam, Tys.mentionsParam_false_iff]
      exact forall_congr' fun a => imp_congr_right fun ha => ih a ha (hargs a ha)
  | scalar s =>
      rintro (rfl | h)
      · exact iff_of_true ((derivable_scalar ..).2 bodies_fact) rfl
      · cases h
  | tuple args ih =>
      rintro (rfl | h)
      · rw [derivable_tuple, tupleClauses, if_pos rfl, bodies_single, List.forall_mem_map, Ty.mentionsParam,
          Tys.mentionsParam_false_iff]
        exact forall_congr' fun a => imp_congr_right fun ha => ih a ha (.inl rfl)
      · cases h
  | param i => exact fun _ => iff_of_false (not_derivable_param _ _ _ _) (by simp [Ty.mentionsParam])

theorem fullyVisible_ty (P : Program) (t : Ty) :
    Derivable true P (.ty .isFullyVisible t) ↔ t.mentionsParam = false :=
  fullyVisible_of true P t (.inl rfl)

theorem fullyVisible_tys (P : Program) : (ts : Tys) →
    ((∀ a ∈ ts.toList, Derivable true P (.ty .isFullyVisible a)) ↔ ts.mentionsParam = false) :=
  fun ts => (forall_congr' fun a => imp_congr_right fun _ => fullyVisible_ty P a).trans
    (Tys.mentionsParam_false_iff ts).symm

theorem legacy_fullyVisible_ty (P : Program) (t : Ty) (h : t.structOnly = true) :
    Derivable false P (.ty .isFullyVisible t) ↔ t.mentionsParam = false :=
  fullyVisible_of false P t (.inr h)

theorem legacy_fullyVisible_tys (P : Program) : (ts : Tys) → ts.structOnly = true →
    ((∀ a ∈ ts.toList, Derivable false P (.ty .isFullyVisible a)) ↔ ts.mentionsParam = false) :=
  fun ts h => (forall_congr' fun a => imp_congr_right fun ha =>
    legacy_fullyVisible_ty P a (Tys.structOnly_mem ts h a ha)).trans (Tys.mentionsParam_false_iff ts).symm

theorem isLocal_ty (fixed : Bool) (P : Program) (t : Ty) :
    Derivable fixed P (.ty .isLocal t) ↔ t.isLocal P = true := by
  induction t using Ty.ind with
  | adt id args ih =>
      rw [derivable_adt, adt_isLocal, Ty.isLocal, Bool.or_eq_true, Bool.and_eq_true, Bool.not_eq_true',
        Tys.anyLocal_iff]
      exact or_congr_right (and_congr_right fun _ => exists_congr fun a => and_congr_right (ih a))
  | scalar s => exact iff_of_false (fun h => bodies_nil ((derivable_scalar ..).1 h)) (by simp [Ty.isLocal])
  | tuple args _ => exact iff_of_false (fun h => bodies_nil ((derivable_tuple ..).1 h)) (by simp [Ty.isLocal])
  | param i => exact iff_of_false (not_derivable_param _ _ _ _) (by simp [Ty.isLocal])

theorem isLocal_tys (fixed : Bool) (P : Program) : (ts : Tys) →
    ((∃ a ∈ ts.toList, Derivable fixed P (.ty .isLocal a)) ↔ ts.anyLocal P = true) :=
  fun ts => (exists_congr fun a => and_congr_right fun _ => isLocal_ty fixed P a).trans
    (Tys.anyLocal_iff P ts).symm

theorem isUpstream_ty (fixed : Bool) (P : Program) (t : Ty) :
    Derivable fixed P (.ty .isUpstream t) ↔ t.isUpstream P = true := by
  induction t using Ty.ind with
  | adt id args ih =>
      rw [derivable_adt, adt_isUpstream, Ty.isUpstream, Bool.and_eq_true, Bool.or_eq_true, Bool.not_eq_true',
        Tys.allUpstream_iff]
      exact and_congr_right fun _ => or_congr_right (forall_congr' fun a => imp_congr_right (ih a))
  | scalar s => exact iff_of_false (fun h => bodies_nil ((derivable_scalar ..).1 h)) (by simp [Ty.isUpstream])
  | tuple args _ => exact iff_of_false (fun h => bodies_nil ((derivable_tuple ..).1 h)) (by simp [Ty.isUpstream])
  | param i => exact iff_of_false (not_derivable_param _ _ _ _) (by simp [Ty.isUpstream])

theorem isUpstream_tys (fixed : Bool) (P : Program) : (ts : Tys) →
    ((∀ a ∈ ts.toList, Derivable fixed P (.ty .isUpstream a)) ↔ ts.allUpstream P = true) :=
  fun ts => (forall_congr' fun a => imp_congr_right fun _ => isUpstream_ty fixed P a).trans
    (Tys.allUpstream_iff P ts).symm

theorem downstream_ty (fixed : Bool) (P : Program) (t : Ty) :
    ¬ Derivable fixed P (.ty .downstreamType t) := by
  induction t using Ty.ind with
  | adt id args ih =>
      rw [derivable_adt, adt_downstreamType]
      exact fun ⟨_, a, ha, h⟩ => ih a ha h
  | scalar s => exact fun h => bodies_nil ((derivable_scalar ..).1 h)
  | tuple args _ => exact fun h => bodies_nil ((derivable_tuple ..).1 h)
  | param i => exact not_derivable_param _ _ _ _

/-- `pre`: the `IsFullyVisible` conditions accumulated so far -/
theorem liaBodies_iff {D : DG → Prop} {P : Program} (ts : List Ty) (pre : List DG)
    (hl : ∀ t ∈ ts, (D (.ty .isLocal t) ↔ t.isLocal P = true))
    (hfv : ∀ t ∈ ts, (D (.ty .isFullyVisible t) ↔ t.mentionsParam = false)) :
    (∃ body ∈ liaBodies pre ts, ∀ b ∈ body, D b) ↔ (∀ b ∈ pre, D b) ∧ firstLocalOk P ts = true := by
  induction ts generalizing pre with
  | nil => exact iff_of_false bodies_nil (fun h => nomatch h.2)
  | cons t ts ih =>
      have ⟨hlt, hl⟩ := List.forall_mem_cons.1 hl
      have ⟨hfvt, hfv⟩ := List.forall_mem_cons.1 hfv
      simp only [liaBodies, List.mem_cons, exists_eq_or_imp]
      simp only [ih _ hl hfv, List.forall_mem_append, List.forall_mem_singleton, hlt, hfvt, firstLocalOk, Bool.or_eq_true, Bool.and_eq_true,
        Bool.not_eq_true', and_assoc, and_or_left]

theorem localImplAllowed_of (fixed : Bool) (P : Program) (tr : Nat) (args : Tys)
    (h : fixed = true ∨ args.structOnly = true) :
    Derivable fixed P (.localImplAllowed tr args) ↔
      (P.traitUpstream tr = false ∨ firstLocalOk P args.toList = true) := by
  rw [derivable_iff, clausesFor]
  cases hu : P.traitUpstream tr
  · exact iff_of_true bodies_fact (.inl rfl)
  · rw [if_pos rfl, liaBodies_iff (P := P) args.toList [] (fun t _ => isLocal_ty fixed P t)
      (fun t ht => fullyVisible_of fixed P t (h.imp _root_.id fun h => Tys.structOnly_mem args h t ht))]
    simp only [List.not_mem_nil, false_imp_iff, implies_true, true_and, Bool.true_eq_false, false_or]

theorem localImplAllowed_iff (P : Program) (tr : Nat) (args : Tys) :
    Derivable true P (.localImplAllowed tr args) ↔
      (P.traitUpstream tr = false ∨ firstLocalOk P args.toList = true) :=
  localImplAllowed_of true P tr args (.inl rfl)

theorem legacy_localImplAllowed_iff (P : Program) (tr : Nat) (args : Tys) (h : args.structOnly = true) :
    Derivable false P (.localImplAllowed tr args) ↔
      (P.traitUpstream tr = false ∨ firstLocalOk P args.toList = true) :=
  localImplAllowed_of false P tr args (.inr h)

theorem firstLocalOk_iff (P : Program) (ts : List Ty) :
    firstLocalOk P ts = true ↔
      ∃ (i : Nat) (t : Ty), ts[i]? = some t ∧ t.isLocal P = true ∧
        ∀ (j : Nat) (u : Ty), j < i → ts[j]? = some u → u.mentionsParam = false := by
  induction ts with
  | nil => exact iff_of_false (fun h => nomatch h) (fun ⟨_, _, h, _⟩ => nomatch h)
  | cons t ts ih =>
      simp only [firstLocalOk, Bool.or_eq_true, Bool.and_eq_true, Bool.not_eq_true', ih]
      constructor
      · rintro (h | ⟨hm, i, u, hi, hl, hall⟩)
        · exact ⟨0, t, rfl, h, fun j _ hj => absurd hj (Nat.not_lt_zero j)⟩
        · refine ⟨i + 1, u, hi, hl, fun j v hj hv => ?_⟩
          cases j with
          | zero => cases hv; exact hm
          | succ j => exact hall j v (Nat.lt_of_succ_lt_succ hj) hv
      · rintro ⟨i, u, hi, hl, hall⟩
        cases i with
        | zero => cases hi; exact .inl hl
        | succ i =>
            exact .inr ⟨hall 0 t (Nat.succ_pos i) rfl, i, u, hi, hl,
              fun j v hj hv => hall (j + 1) v (Nat.succ_lt_succ hj) hv⟩

theorem orphanOkB_iff (P : Program) (im : Impl) : orphanOkB P im = true ↔ OrphanOk P im := by
  simp only [orphanOkB, OrphanOk, Bool.or_eq_true, Bool.not_eq_true', firstLocalOk_iff]

end Chalk.Orphan
