import ChalkModel.Contract
import ChalkModel.Lemmas.EvalLemmas

namespace Chalk.Sem

theorem tmsOfList_map_inst (τ : Nat → Tm) : (σ : List Tm) → tmsOfList (σ.map (Tm.inst τ)) = (tmsOfList σ).inst τ
  | [] => by simp [tmsOfList, Tms.inst]
  | t :: ts => by simp [tmsOfList, Tms.inst, tmsOfList_map_inst τ ts]

theorem tmsOfList_inj : (a b : List Tm) → tmsOfList a = tmsOfList b → a = b
  | [], [], _ => rfl
  | [], _ :: _, h => by simp [tmsOfList] at h
  | _ :: _, [], h => by simp [tmsOfList] at h
  | x :: xs, y :: ys, h => by
      simp only [tmsOfList] at h
      injection h with h1 h2
      rw [h1, tmsOfList_inj xs ys h2]

theorem not_instance_of_isInstance_false {σ θ : List Tm} (h : isInstance σ θ = false) :
    ∀ τ : Nat → Tm, σ.map (Tm.inst τ) ≠ θ := by
  intro τ heq
  have h2 : (tmsOfList σ).inst τ = tmsOfList θ := by rw [← tmsOfList_map_inst, heq]
  obtain ⟨σ', hm, _⟩ := matchTms_complete τ (tmsOfList σ) (tmsOfList θ) [] (agrees_nil τ) h2
  simp [isInstance, hm] at h

theorem mem_solutionsAmong {P : Program} {fuel : Nat} {g : Goal} {cands : List (List Tm)} {θ : List Tm}
    (h : θ ∈ solutionsAmong P fuel g cands) : GHolds P [] (g.inst (listSubst θ)) := by
  simp only [solutionsAmong, List.mem_filter, decide_eq_true_eq] at h
  exact (evalGoal_sound P fuel _ []).1 h.2

end Chalk.Sem
