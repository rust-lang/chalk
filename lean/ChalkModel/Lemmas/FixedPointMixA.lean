/-
  FixedPointMixA.lean — both polarities: what `Inv` says about the valuation of a state, the relative fixed point
  `InG`, reflexivity / transitivity of `Step`, witnesses, facts and `LinkOK` along a `Step`.
-/
import ChalkModel.Lemmas.FixedPointMix

namespace Chalk.FixedPoint.Mix
open Chalk.FixedPoint.Cyc (JE JA MinLe InCache InGraph Def Undef flagAt StackExt stackGoals nodup_index def_unique
  def_or_undef getElem?_lt_length getElem?_prefix QuietSt Frame)

section
variable {inst : Instance} {P : Nat → Prop} {dom : List Nat} {lvl : Nat → Nat} {fx : Bool}

theorem Inv.index_inj {s : St} (hi : Inv inst P dom lvl fx s) {i j : Nat} {a b : Node}
    (h1 : s.graph[i]? = some a) (h2 : s.graph[j]? = some b) (h : a.goal = b.goal) : i = j :=
  nodup_index (·.goal) s.graph i j a b hi.nodup h1 h2 h

theorem Inv.defFun {s : St} (hi : Inv inst P dom lvl fx s) {k : Nat} {v v' : V}
    (h1 : Def s k v) (h2 : Def s k v') : v = v' :=
  def_unique hi.nodup hi.disj h1 h2

theorem Inv.defVal {s : St} (hi : Inv inst P dom lvl fx s) {k : Nat} {v : V} (h : Def s k v) :
    v = topOf inst k ∨ v = botOf inst k ∨ v = .ambig := by
  cases h with
  | inl hc =>
    have hh := hi.cacheOK k v hc
    unfold topOf initialValue botOf
    cases v <;> cases hcx : inst.coind k <;> simp_all [Holds]
  | inr hg =>
    obtain ⟨i, n, hn, hgo, hvn⟩ := hg
    subst hgo; subst hvn
    exact hi.val i n hn

theorem Inv.defHolds {s : St} (hi : Inv inst P dom lvl fx s) {k : Nat} (h : Def s k (botOf inst k)) :
    Holds P (botOf inst k) k := by
  cases h with
  | inl h => exact hi.cacheOK k _ h
  | inr h =>
    obtain ⟨i, n, hn, hg, hv⟩ := h
    subst hg
    rw [← hv]
    exact hi.approx i n hn hv

theorem Inv.defTop {s : St} (hi : Inv inst P dom lvl fx s) {k : Nat} {v : V} (h : Def s k v)
    (ht : Holds P (topOf inst k) k) : v = topOf inst k ∨ v = .ambig := by
  rcases hi.defVal h with e | e | e
  · exact Or.inl e
  · rw [e] at h
    have := hi.defHolds h
    exact absurd (this.unique ht) (topOf_ne_botOf inst k).symm
  · exact Or.inr e

def DefOpt (inst : Instance) (s : St) (x : Nat) : Prop := Def s x (topOf inst x) ∨ Def s x .ambig

theorem Inv.defOpt_of_ne_bot {s : St} (hi : Inv inst P dom lvl fx s) {k : Nat} {v : V} (h : Def s k v)
    (hne : v ≠ botOf inst k) : DefOpt inst s k := by
  rcases hi.defVal h with e | e | e
  · rw [e] at h; exact Or.inl h
  · exact absurd e hne
  · rw [e] at h; exact Or.inr h

theorem InG.unfold {s : St} {x : Nat} (h : InG inst P s x) :
    DefOpt inst s x ∨
      (Undef s x ∧ JV inst (topOf inst x) (Opt inst P (InG inst P s) (topOf inst x)) x) := by
  obtain ⟨S, hS, hx⟩ := h
  cases hS x hx with
  | inl h => exact Or.inl h
  | inr h => exact Or.inr ⟨h.1, JV.mono (fun j hj => hj.mono (fun j' hj' => ⟨S, hS, hj'⟩)) h.2⟩

theorem InG.coind {s : St} (S : Nat → Prop)
    (hS : ∀ x, S x → DefOpt inst s x ∨
      (Undef s x ∧ JV inst (topOf inst x) (Opt inst P (fun j => S j ∨ InG inst P s j) (topOf inst x)) x)) :
    ∀ k, S k → InG inst P s k := by
  intro k hk
  refine ⟨fun j => S j ∨ InG inst P s j, ?_, Or.inl hk⟩
  intro x hx
  cases hx with
  | inl h => exact hS x h
  | inr h =>
    cases h.unfold with
    | inl h => exact Or.inl h
    | inr h => exact Or.inr ⟨h.1, JV.mono (fun j hj => hj.mono (fun j' hj' => Or.inr hj')) h.2⟩

theorem InG.of_def_top {s : St} {j : Nat} (h : Def s j (topOf inst j)) : InG inst P s j :=
  ⟨fun x => Def s x (topOf inst x), fun _ hx => Or.inl (Or.inl hx), h⟩

/-- the true optimistic answers lie inside every relative fixed point -/
theorem Inv.tgt_sub_InG (hP : Strat inst P) {s : St} (hi : Inv inst P dom lvl fx s) {k : Nat}
    (h : Holds P (topOf inst k) k) : InG inst P s k := by
  refine InG.coind (fun x => Holds P (topOf inst x) x) ?_ k h
  intro x hx
  cases def_or_undef s x with
  | inl hd =>
    obtain ⟨v, hv⟩ := hd
    left
    cases hi.defTop hv hx with
    | inl e => rw [e] at hv; exact Or.inl hv
    | inr e => rw [e] at hv; exact Or.inr hv
  | inr hu => exact Or.inr ⟨hu, JV.mono (fun j hj => Or.inr hj) (hP.unfold hx)⟩

theorem InG.mono {s s' : St} (hi' : Inv inst P dom lvl fx s') (hext : ∀ k v, Def s k v → Def s' k v)
    (hlow : ∀ k, Undef s k → Def s' k (botOf inst k) → ¬ InG inst P s k) {k : Nat} (h : InG inst P s k) :
    InG inst P s' k := by
  refine InG.coind (InG inst P s) ?_ k h
  intro x hx
  cases hx.unfold with
  | inl hd => exact Or.inl (hd.imp (hext x _) (hext x _))
  | inr hu =>
    cases def_or_undef s' x with
    | inl hd =>
      obtain ⟨v, hv⟩ := hd
      by_cases e : v = botOf inst x
      · rw [e] at hv; exact absurd hx (hlow x hu.1 hv)
      · exact Or.inl (hi'.defOpt_of_ne_bot hv e)
    | inr hu' => exact Or.inr ⟨hu', JV.mono (fun j hj => hj.mono (fun j' hj' => Or.inl hj')) hu.2⟩

theorem Inv.work {s : St} (h : Inv inst P dom lvl fx s) (w : Nat) : Inv inst P dom lvl fx { s with work := w } :=
  ⟨h.fixes, h.amb, h.cacheOK, h.stackNode, h.chain, h.nodup, h.disj, h.inDom, h.val, h.approx, h.stk, h.nonstk,
   h.cnt, h.just, h.lvlLinks⟩

theorem Step.refl (s : St) (lb : Min) : Step inst P s s lb :=
  ⟨Frame.refl s lb, fun _ hu hd => absurd hd (hu _)⟩

theorem Step.work (s : St) (w : Nat) (lb : Min) : Step inst P s { s with work := w } lb :=
  ⟨Frame.work s w lb, fun _ hu hd => absurd hd (hu _)⟩

theorem Step.of_work {s s' : St} {w : Nat} {lb : Min} (h : Step inst P { s with work := w } s' lb) :
    Step inst P s s' lb :=
  ⟨h.toFrame.of_work, h.low⟩

theorem Step.weaken {s s' : St} {lb lb' : Min} (h : Step inst P s s' lb) (hle : MinLe lb' lb) :
    Step inst P s s' lb' :=
  ⟨h.toFrame.weaken hle, h.low⟩

theorem Step.inG {s s' : St} {lb : Min} (h : Step inst P s s' lb) (hi' : Inv inst P dom lvl fx s') {k : Nat}
    (hk : InG inst P s k) : InG inst P s' k :=
  InG.mono hi' h.ext h.low hk

theorem Step.trans {s s' s'' : St} {m1 m2 : Min} (h1 : Step inst P s s' m1) (h2 : Step inst P s' s'' m2)
    (hle : MinLe m2 m1) (hi' : Inv inst P dom lvl fx s') (hi'' : Inv inst P dom lvl fx s'') :
    Step inst P s s'' m2 := by
  refine ⟨h1.toFrame.trans h2.toFrame hle, fun k hu hd hin => ?_⟩
  cases def_or_undef s' k with
  | inl hd' =>
    obtain ⟨v, hv⟩ := hd'
    have : v = botOf inst k := hi''.defFun (h2.ext k v hv) hd
    rw [this] at hv
    exact h1.low k hu hv hin
  | inr hu' => exact h2.low k hu' hd (h1.inG hi' hin)

theorem Wit.step {s s' : St} {lb lb' m : Min} {v : V} {j : Nat} (h : Wit inst P s lb v j)
    (hs : Step inst P s s' m) (hle : MinLe lb' lb) : Wit inst P s' lb' v j := by
  cases h with
  | inl h => exact Or.inl h
  | inr h =>
    obtain ⟨i, n, hn, hg, hv, ht, hl, hf⟩ := h
    obtain ⟨new, hgr, _⟩ := hs.graph
    exact Or.inr ⟨i, n, by rw [hgr]; exact getElem?_prefix hn, hg, hv, ht, hle.trans hl,
      fun d hd => hs.stack.flag (hf d hd)⟩

theorem Fact.pre {s0 s1 s' : St} {m0 m' : Min} {g : Nat} {v : V} (h : Fact inst P s1 s' m' g v)
    (h0 : Step inst P s0 s1 m0) (hi1 : Inv inst P dom lvl fx s1) : Fact inst P s0 s' m' g v :=
  h.imp id (Or.imp (fun h => ⟨h.1, h.2.1, fun hin => h.2.2 (h0.inG hi1 hin)⟩) id)

theorem Fact.post {s0 s' s'' : St} {m' m'' : Min} {g : Nat} {v : V} (h : Fact inst P s0 s' m' g v)
    (hs : Step inst P s' s'' m'') (hle : MinLe m'' m') : Fact inst P s0 s'' m'' g v :=
  h.imp (fun h => ⟨h.1, h.2.step hs hle⟩) (Or.imp id (fun h => ⟨h.1, hs.intr h.2⟩))

theorem Fact.ambig {s0 s' : St} {m' : Min} {g : Nat} (h : Fact inst P s0 s' m' g .ambig) :
    s'.interrupted = true := by
  rcases h with h | h | h
  · exact absurd h.1.symm (topOf_ne_ambig inst g)
  · exact absurd h.1.symm (botOf_ne_ambig inst g)
  · exact h.2

theorem LinkOK.step {s' s'' : St} {m2 : Min} {L B : Nat} {m m' : Min} (h : LinkOK lvl s' L B m m')
    (hs : Step inst P s' s'' m2) : LinkOK lvl s'' L B m m' := by
  cases h with
  | inl h => exact Or.inl h
  | inr h =>
    obtain ⟨l, e, hex⟩ := h
    obtain ⟨new, hgr, _⟩ := hs.graph
    refine Or.inr ⟨l, e, fun hlt => ?_⟩
    obtain ⟨n', hn', hl⟩ := hex hlt
    exact ⟨n', by rw [hgr]; exact getElem?_prefix hn', hl⟩

theorem LinkOK.trans {s' : St} {L B : Nat} {m m1 m2 : Min} (h1 : LinkOK lvl s' L B m m1)
    (h2 : LinkOK lvl s' L B m1 m2) : LinkOK lvl s' L B m m2 := by
  cases h2 with
  | inl h => rw [h]; exact h1
  | inr h => exact Or.inr h

theorem LinkOK.mono {s' : St} {L L' B B' : Nat} {m m' : Min} (h : LinkOK lvl s' L B m m') (hl : L ≤ L')
    (hb : B' ≤ B) : LinkOK lvl s' L' B' m m' := by
  cases h with
  | inl h => exact Or.inl h
  | inr h =>
    obtain ⟨l, e, hex⟩ := h
    refine Or.inr ⟨l, e, fun hlt => ?_⟩
    obtain ⟨n', hn', hl'⟩ := hex (Nat.lt_of_lt_of_le hlt hb)
    exact ⟨n', hn', Nat.le_trans hl' hl⟩

end

end Chalk.FixedPoint.Mix
