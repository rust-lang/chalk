import ChalkModel.Lemmas.FoldLemmas

/-! A pure description of what `Shifter` computes (it never fails), used to state and prove
    commutation laws as plain equations. -/
namespace Chalk

def Lifetime.shift (k c : Nat) : Lifetime → Lifetime
  | .bound db idx => if c ≤ db then .bound (db + k) idx else .bound db idx
  | l => l

mutual
  def Ty.shift (k c : Nat) : Ty → Ty
    | .app n args => .app n (args.shift k c)
    | .scalar s => .scalar s | .str => .str | .never => .never | .foreign id => .foreign id | .error => .error
    | .array t cn => .array (t.shift k c) (cn.shift k c)
    | .slice t => .slice (t.shift k c)
    | .raw m t => .raw m (t.shift k c)
    | .ref m l t => .ref m (l.shift k c) (t.shift k c)
    | .placeholder ui idx => .placeholder ui idx
    | .dyn ks bounds l => .dyn ks (bounds.shift k (c + 1)) (l.shift k c)
    | .proj id args => .proj id (args.shift k c)
    | .opaque id args => .opaque id (args.shift k c)
    | .function nb sig args => .function nb sig (args.shift k (c + 1))
    | .bound db idx => if c ≤ db then .bound (db + k) idx else .bound db idx
    | .infer v kd => .infer v kd
  def Const.shift (k c : Nat) : Const → Const
    | .mk ty (.bound db idx) => if c ≤ db then .mk ty (.bound (db + k) idx) else .mk ty (.bound db idx)
    | .mk ty v => .mk (ty.shift k c) v
  def GArg.shift (k c : Nat) : GArg → GArg
    | .ty t => .ty (t.shift k c)
    | .lt l => .lt (l.shift k c)
    | .ct cn => .ct (cn.shift k c)
  def Args.shift (k c : Nat) : Args → Args
    | .nil => .nil
    | .cons a as => .cons (a.shift k c) (as.shift k c)
  def WC.shift (k c : Nat) : WC → WC
    | .implemented tr args => .implemented tr (args.shift k c)
    | .aliasEqProj id args ty => .aliasEqProj id (args.shift k c) (ty.shift k c)
    | .aliasEqOpaque id args ty => .aliasEqOpaque id (args.shift k c) (ty.shift k c)
    | .ltOutlives a b => .ltOutlives (a.shift k c) (b.shift k c)
    | .tyOutlives t l => .tyOutlives (t.shift k c) (l.shift k c)
  def QWC.shift (k c : Nat) : QWC → QWC
    | .mk ks wc => .mk ks (wc.shift k (c + 1))
  def QWCs.shift (k c : Nat) : QWCs → QWCs
    | .nil => .nil
    | .cons q qs => .cons (q.shift k c) (qs.shift k c)
end

theorem foldLifetime_shifter (k c : Nat) (l : Lifetime) :
    foldLifetime (shifter k) c l = .ok (l.shift k c) := by
  cases l <;> try rfl
  case bound db idx =>
    simp only [foldLifetime, shifter, Lifetime.shift]
    split
    · rw [Nat.add_right_comm, Nat.sub_add_cancel ‹_›]
    · rfl

mutual
  theorem foldTy_shifter (k c : Nat) : (t : Ty) → foldTy (shifter k) c t = .ok (t.shift k c)
    | .app n args => by rw [foldTy_app, foldArgs_shifter k c args]; rfl
    | .scalar s => rfl
    | .str => rfl
    | .never => rfl
    | .foreign id => rfl
    | .error => rfl
    | .array t cn => by rw [foldTy_array, foldTy_shifter k c t, foldConst_shifter k c cn]; rfl
    | .slice t => by rw [foldTy_slice, foldTy_shifter k c t]; rfl
    | .raw m t => by rw [foldTy_raw, foldTy_shifter k c t]; rfl
    | .ref m l t => by rw [foldTy_ref, foldTy_shifter k c t, foldLifetime_shifter]; rfl
    | .placeholder ui idx => rfl
    | .dyn ks bounds l => by rw [foldTy_dyn, foldQWCs_shifter k (c+1) bounds, foldLifetime_shifter]; rfl
    | .proj id args => by rw [foldTy_proj, foldArgs_shifter k c args]; rfl
    | .opaque id args => by rw [foldTy_opaque, foldArgs_shifter k c args]; rfl
    | .function nb sig args => by rw [foldTy_function, foldArgs_shifter k (c+1) args]; rfl
    | .bound db idx => by
        simp only [foldTy, shifter, Ty.shift]
        split
        · rw [Nat.add_right_comm, Nat.sub_add_cancel ‹_›]
        · rfl
    | .infer v kd => rfl
  theorem foldConst_shifter (k c : Nat) : (cn : Const) → foldConst (shifter k) c cn = .ok (cn.shift k c)
    | .mk ty (.bound db idx) => by
        simp only [foldConst, shifter, Const.shift]
        split
        · rw [Nat.add_right_comm, Nat.sub_add_cancel ‹_›]
        · rfl
    | .mk ty (.infer v) => by rw [foldConst_infer_none rfl, foldTy_shifter k c ty]; rfl
    | .mk ty (.placeholder ui idx) => by rw [foldConst_placeholder_none rfl, foldTy_shifter k c ty]; rfl
    | .mk ty (.concrete v) => by rw [foldConst_concrete, foldTy_shifter k c ty]; rfl
  theorem foldGArg_shifter (k c : Nat) : (a : GArg) → foldGArg (shifter k) c a = .ok (a.shift k c)
    | .ty t => by rw [foldGArg_ty, foldTy_shifter k c t]; rfl
    | .lt l => by rw [foldGArg_lt, foldLifetime_shifter]; rfl
    | .ct cn => by rw [foldGArg_ct, foldConst_shifter k c cn]; rfl
  theorem foldArgs_shifter (k c : Nat) : (a : Args) → foldArgs (shifter k) c a = .ok (a.shift k c)
    | .nil => rfl
    | .cons a as => by rw [foldArgs_cons, foldGArg_shifter k c a, foldArgs_shifter k c as]; rfl
  theorem foldWC_shifter (k c : Nat) : (w : WC) → foldWC (shifter k) c w = .ok (w.shift k c)
    | .implemented tr args => by rw [foldWC_implemented, foldArgs_shifter k c args]; rfl
    | .aliasEqProj id args ty => by
        rw [foldWC_aliasEqProj, foldArgs_shifter k c args, foldTy_shifter k c ty]; rfl
    | .aliasEqOpaque id args ty => by
        rw [foldWC_aliasEqOpaque, foldArgs_shifter k c args, foldTy_shifter k c ty]; rfl
    | .ltOutlives a b => by rw [foldWC_ltOutlives, foldLifetime_shifter, foldLifetime_shifter]; rfl
    | .tyOutlives t l => by rw [foldWC_tyOutlives, foldTy_shifter k c t, foldLifetime_shifter]; rfl
  theorem foldQWC_shifter (k c : Nat) : (q : QWC) → foldQWC (shifter k) c q = .ok (q.shift k c)
    | .mk ks wc => by rw [foldQWC_mk, foldWC_shifter k (c+1) wc]; rfl
  theorem foldQWCs_shifter (k c : Nat) : (q : QWCs) → foldQWCs (shifter k) c q = .ok (q.shift k c)
    | .nil => rfl
    | .cons q qs => by rw [foldQWCs_cons, foldQWC_shifter k c q, foldQWCs_shifter k c qs]; rfl
end

/-- the variable case, the same for types, lifetimes and constants -/
theorem shift_shift_var {α : Type} (mk : Nat → α) (sh : Nat → Nat → α → α)
    (hsh : ∀ k c db, sh k c (mk db) = if c ≤ db then mk (db + k) else mk db) (k o c db : Nat) :
    sh k (o + c) (sh o c (mk db)) = sh o c (sh k c (mk db)) := by
  rw [hsh o c db, hsh k c db]
  by_cases h : c ≤ db
  · have h1 : o + c ≤ db + o := by omega
    have h2 : c ≤ db + k := by omega
    rw [if_pos h, if_pos h, hsh, hsh, if_pos h1, if_pos h2, Nat.add_right_comm]
  · have h1 : ¬ (o + c ≤ db) := by omega
    rw [if_neg h, if_neg h, hsh, hsh, if_neg h1, if_neg h]

theorem Lifetime.shift_shift (k o c : Nat) (l : Lifetime) :
    (l.shift o c).shift k (o + c) = (l.shift k c).shift o c := by
  cases l <;> try rfl
  case bound db idx => exact shift_shift_var (.bound · idx) Lifetime.shift (fun _ _ _ => rfl) k o c db

mutual
  theorem Ty.shift_shift (k o c : Nat) : (t : Ty) → (t.shift o c).shift k (o + c) = (t.shift k c).shift o c
    | .app n args => by simp only [Ty.shift, Args.shift_shift k o c args]
    | .scalar s => rfl
    | .str => rfl
    | .never => rfl
    | .foreign id => rfl
    | .error => rfl
    | .array t cn => by simp only [Ty.shift, Ty.shift_shift k o c t, Const.shift_shift k o c cn]
    | .slice t => by simp only [Ty.shift, Ty.shift_shift k o c t]
    | .raw m t => by simp only [Ty.shift, Ty.shift_shift k o c t]
    | .ref m l t => by simp only [Ty.shift, Ty.shift_shift k o c t, Lifetime.shift_shift]
    | .placeholder ui idx => rfl
    | .dyn ks bounds l => by
        simp only [Ty.shift, Lifetime.shift_shift]
        exact congrArg (Ty.dyn ks · _) (QWCs.shift_shift k o (c+1) bounds)
    | .proj id args => by simp only [Ty.shift, Args.shift_shift k o c args]
    | .opaque id args => by simp only [Ty.shift, Args.shift_shift k o c args]
    | .function nb sig args => by
        simp only [Ty.shift]
        exact congrArg (Ty.function nb sig) (Args.shift_shift k o (c+1) args)
    | .bound db idx => shift_shift_var (.bound · idx) Ty.shift (fun _ _ _ => by rw [Ty.shift]) k o c db
    | .infer v kd => rfl
  theorem Const.shift_shift (k o c : Nat) : (cn : Const) → (cn.shift o c).shift k (o + c) = (cn.shift k c).shift o c
    | .mk ty (.bound db idx) =>
        shift_shift_var (.mk ty <| .bound · idx) Const.shift (fun _ _ _ => by rw [Const.shift]) k o c db
    | .mk ty (.infer v) => by simp only [Const.shift, Ty.shift_shift k o c ty]
    | .mk ty (.placeholder ui idx) => by simp only [Const.shift, Ty.shift_shift k o c ty]
    | .mk ty (.concrete v) => by simp only [Const.shift, Ty.shift_shift k o c ty]
  theorem GArg.shift_shift (k o c : Nat) : (a : GArg) → (a.shift o c).shift k (o + c) = (a.shift k c).shift o c
    | .ty t => by simp only [GArg.shift, Ty.shift_shift k o c t]
    | .lt l => by simp only [GArg.shift, Lifetime.shift_shift]
    | .ct cn => by simp only [GArg.shift, Const.shift_shift k o c cn]
  theorem Args.shift_shift (k o c : Nat) : (a : Args) → (a.shift o c).shift k (o + c) = (a.shift k c).shift o c
    | .nil => rfl
    | .cons a as => by simp only [Args.shift, GArg.shift_shift k o c a, Args.shift_shift k o c as]
  theorem WC.shift_shift (k o c : Nat) : (w : WC) → (w.shift o c).shift k (o + c) = (w.shift k c).shift o c
    | .implemented tr args => by simp only [WC.shift, Args.shift_shift k o c args]
    | .aliasEqProj id args ty => by simp only [WC.shift, Args.shift_shift k o c args, Ty.shift_shift k o c ty]
    | .aliasEqOpaque id args ty => by simp only [WC.shift, Args.shift_shift k o c args, Ty.shift_shift k o c ty]
    | .ltOutlives a b => by simp only [WC.shift, Lifetime.shift_shift]
    | .tyOutlives t l => by simp only [WC.shift, Ty.shift_shift k o c t, Lifetime.shift_shift]
  theorem QWC.shift_shift (k o c : Nat) : (q : QWC) → (q.shift o c).shift k (o + c) = (q.shift k c).shift o c
    | .mk ks wc => by
        simp only [QWC.shift]
        exact congrArg (QWC.mk ks) (WC.shift_shift k o (c+1) wc)
  theorem QWCs.shift_shift (k o c : Nat) : (q : QWCs) → (q.shift o c).shift k (o + c) = (q.shift k c).shift o c
    | .nil => rfl
    | .cons q qs => by simp only [QWCs.shift, QWC.shift_shift k o c q, QWCs.shift_shift k o c qs]
end

end Chalk
