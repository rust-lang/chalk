/-
  FixedPointSemH.lean — one polarity: changes of the stack alone keep `Inv` and are a `Step`; the state after the
  push starts the loop (`push_loopSt`).
-/
import ChalkModel.Lemmas.FixedPointSemE
import ChalkModel.Lemmas.FixedPointSemF
import ChalkModel.Lemmas.FixedPointSemG

namespace Chalk.FixedPoint.Cyc

section
variable {c : Bool} {inst : Instance} {dom : List Nat} {fx : Bool}

theorem Inv.stackChange {s s' : St} (h : Inv c inst dom fx s) (hg : s'.graph = s.graph) (R : Rest s s')
    (hext : StackExt s.stack s'.stack) : Inv c inst dom fx s' := by
  have hwit : ∀ {lb : Min} {j : Nat}, Wit c inst s lb j → Wit c inst s' lb j :=
    fun hw => hw.from0 ⟨[], by rw [hg, List.append_nil]⟩ (fun d hd => hext.flag hd)
  refine ⟨fixes_of_eq h.fixes R.oracle R.oracleDefault R.interrupted, ?_,
    fun k v hk => h.cacheOK k v (R.inCache.mp hk), hext.allCo h.stackCo, ?_, ?_, ?_, ?_, ?_, ?_, ?_, ?_, ?_⟩
  · intro i n hn ha
    rw [hg] at hn
    rw [R.interrupted]; exact h.amb i n hn ha
  · rw [hg]; exact h.nodup
  · intro i n hn v hc
    rw [hg] at hn
    exact h.disj i n hn v (R.inCache.mp hc)
  · rw [hg]; exact h.inDom
  · rw [hg]; exact h.val
  · rw [hg]; exact h.approx
  · intro i n d hn hd
    rw [hg] at hn
    have := h.stk i n d hn hd
    exact ⟨by rw [hext.1]; exact this.1, this.2⟩
  · rw [hg]; exact h.nonstk
  · rw [hg, hext.1]; exact h.cnt
  · intro i n hn hd htop
    rw [hg] at hn
    exact J.mono (fun j hj => hwit hj) (h.just i n hn hd htop)

theorem Step.stackOnly {s s' : St} (hg : s'.graph = s.graph) (R : Rest s s')
    (hext : StackExt s.stack s'.stack) (lb : Min) : Step c inst s s' lb :=
  ⟨Frame.stackOnly hg R hext lb, fun _ hu hd => absurd (def_of_eq hg R.cache hd) (hu _)⟩

theorem Inv.not_inG_of_bot {s : St} (h : Inv c inst dom fx s) {k : Nat} (hd : Def s k (bot c)) :
    ¬ InG c inst s k := by
  intro hin
  cases hin.unfold with
  | inl h2 =>
    cases h2 with
    | inl h3 => exact top_ne_bot c (h.defFun h3 hd)
    | inr h3 => exact bot_ne_ambig c (h.defFun hd h3)
  | inr h2 => exact h2.1 _ hd

theorem push_loopSt (hyp : Hyp c inst dom) {s0 : St} (i0 : Inv c inst dom fx s0) {g : Nat} (hu : Undef s0 g)
    (hg : g ∈ dom) : LoopSt c inst dom fx s0 g (pushed inst g s0) := by
  have hco : inst.coind g = c := hyp.coind g hg
  have hgr : (pushed inst g s0).graph = s0.graph ++ [headNode s0 g (top c)] := by
    simp only [pushed, headNode, top, hco]
  have hst : (pushed inst g s0).stack = s0.stack ++ [⟨c, false⟩] := by
    simp only [pushed, hco]
  have LF := LoopFrame.pushed inst g s0
  have hlen : (pushed inst g s0).stack.length = s0.stack.length + 1 := LF.slen
  have hflag : ∀ d, flagAt s0.stack d → flagAt (pushed inst g s0).stack d := fun _ hd => LF.sext.flag hd
  have hnode : ∀ {i : Nat} {n : Node}, (pushed inst g s0).graph[i]? = some n →
      (i < s0.graph.length ∧ s0.graph[i]? = some n) ∨ (i = s0.graph.length ∧ n = headNode s0 g (top c)) := by
    intro i n hn
    rw [hgr] at hn
    exact single_cases _ _ i n hn
  have hinv : Inv c inst dom fx (pushed inst g s0) := by
    refine ⟨i0.fixes, ?_, i0.cacheOK, ?_, ?_, ?_, ?_, ?_, ?_, ?_, ?_, ?_, ?_⟩
    · intro i n hn ha
      cases hnode hn with
      | inl h => exact i0.amb i n h.2 ha
      | inr h => rw [h.2] at ha; exact absurd ha (top_ne_ambig c)
    · intro e he
      rw [hst] at he
      cases List.mem_append.mp he with
      | inl h => exact i0.stackCo e h
      | inr h => rw [List.mem_singleton.mp h]
    · rw [hgr, List.map_append, List.nodup_append]
      refine ⟨i0.nodup, by simp, ?_⟩
      intro a ha b hb hab
      simp only [List.map_cons, List.map_nil, List.mem_singleton, headNode] at hb
      obtain ⟨n, hn, hgo⟩ := List.mem_map.mp ha
      obtain ⟨i, hi⟩ := List.getElem?_of_mem hn
      exact hu n.solution (Or.inr ⟨i, n, hi, by rw [hgo, hab, hb], rfl⟩)
    · intro i n hn v hc
      cases hnode hn with
      | inl h => exact i0.disj i n h.2 v hc
      | inr h => rw [h.2] at hc; exact hu v (Or.inl hc)
    · intro i n hn
      cases hnode hn with
      | inl h => exact i0.inDom i n h.2
      | inr h => rw [h.2]; exact hg
    · intro i n hn
      cases hnode hn with
      | inl h => exact i0.val i n h.2
      | inr h => rw [h.2]; exact Or.inl rfl
    · intro i n hn hb
      cases hnode hn with
      | inl h => exact i0.approx i n h.2 hb
      | inr h => rw [h.2] at hb; exact absurd hb (top_ne_bot c)
    · intro i n d hn hd
      cases hnode hn with
      | inl h =>
        have := i0.stk i n d h.2 hd
        exact ⟨by rw [hlen]; exact Nat.lt_succ_of_lt this.1, this.2⟩
      | inr h =>
        rw [h.2] at hd ⊢
        simp only [headNode, Option.some.injEq] at hd
        subst hd
        exact ⟨by rw [hlen]; exact Nat.lt_succ_self _, by rw [h.1]; rfl⟩
    · intro i n hn hd
      cases hnode hn with
      | inl h => exact i0.nonstk i n h.2 hd
      | inr h => rw [h.2] at hd; cases hd
    · rw [hgr, stackGoals_append, List.length_append, i0.cnt, hlen]
      rfl
    · intro i n hn hd htop
      cases hnode hn with
      | inl h => exact J.mono (fun j hj => hj.from0 ⟨_, hgr⟩ hflag) (i0.just i n h.2 hd htop)
      | inr h => rw [h.2] at hd; cases hd
  refine ⟨LF, i0, hu, hg, hinv, ?_⟩
  intro k hu' hd
  exfalso
  cases hd with
  | inl h => exact hu' _ (Or.inl h)
  | inr h =>
    obtain ⟨i, n, hn, hgo, hv⟩ := h
    cases hnode hn with
    | inl h1 => exact hu' _ (Or.inr ⟨i, n, h1.2, hgo, hv⟩)
    | inr h1 => rw [h1.2] at hv; exact top_ne_bot c hv

theorem LoopSt.work {s0 st : St} {g : Nat} (L : LoopSt c inst dom fx s0 g st) (w : Nat) :
    LoopSt c inst dom fx s0 g { st with work := w } :=
  ⟨L.toLoopFrame.work w, L.i0, L.u0, L.gdom, L.inv.work w, L.low⟩

end

end Chalk.FixedPoint.Cyc
