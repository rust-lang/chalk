/-
  FixedPointMixI.lean — both polarities: the loop of `solve_new_subgoal` stops within two rounds (`After.top_inG`,
  `After.restart_sub`) and returns the situation after its last iteration, or ends in the budget panic (`loop_spec`).
-/
import ChalkModel.Lemmas.FixedPointMixH

namespace Chalk.FixedPoint.Mix
open Chalk.FixedPoint.Cyc (JE JA MinLe InCache InGraph Def Undef flagAt
  getElem?_prefix def_or_undef headNode mid_cases mid_at single_cases Rest RoundEnd solveNewSubgoal_round
  solveNewSubgoal_tick_panic solveNewSubgoal_iter_panic tick_sat fix_of_interrupted)

section
variable {inst : Instance} {P : Nat → Prop} {dom : List Nat} {lvl : Nat → Nat} {fx : Bool} {rec : SubSolver}
  {cfg : Cfg} {D : Nat}

section
variable {s0 st s1 : St} {g : Nat} {old cur : V} {m : Min} {new : List Node}

/-- an optimistic outcome of the iteration is justified relative to the state the iteration
    started from (upper bound) -/
theorem After.top_inG (A : After inst P dom lvl fx s0 st s1 g old cur m new) (hc : cur = topOf inst g) :
    JV inst (topOf inst g) (Opt inst P (InG inst P st) (topOf inst g)) g := by
  have hw : ∀ {lb : Min} {v : V} {j : Nat}, Wit inst P s1 lb v j →
      Opt inst P (fun k => (∃ n : Node, n ∈ new ∧ n.goal = k ∧ n.solution = topOf inst k) ∨ InG inst P st k) v j := by
    intro lb v j hw
    cases hw with
    | inl h => exact Or.inr h
    | inr h =>
      obtain ⟨i, n, hn, hgo, hv, ht, _, _⟩ := h
      left
      refine ⟨ht, ?_⟩
      rw [A.g1] at hn
      rcases mid_cases _ _ _ i n hn with h1 | h1 | h1
      · exact Or.inr (InG.of_def_top (Or.inr ⟨i, n, by rw [A.gt]; exact getElem?_prefix h1.2, hgo,
          by rw [ht]; exact hv⟩))
      · rw [h1.2] at hgo hv
        exact Or.inr (InG.of_def_top (Or.inr ⟨s0.graph.length, _, by rw [A.gt]; exact mid_at _ _ _, hgo,
          by rw [ht]; exact hv⟩))
      · exact Or.inl ⟨n, h1.2.1, hgo, by rw [ht]; exact hv⟩
  have hS : ∀ k, (∃ n : Node, n ∈ new ∧ n.goal = k ∧ n.solution = topOf inst k) → InG inst P st k := by
    refine InG.coind _ ?_
    intro x hx
    obtain ⟨n, hn, hgo, hv⟩ := hx
    obtain ⟨i, hi, hn1⟩ := A.new_index hn
    refine Or.inr ⟨?_, ?_⟩
    · intro v hd
      cases hd with
      | inl hd => exact A.i1.disj i n hn1 v (by rw [hgo]; exact A.step.cacheExt x v hd)
      | inr hd =>
        obtain ⟨i', n', hn', hgo', _⟩ := hd
        obtain ⟨hle, hn1'⟩ := A.st_node hn'
        have : i' = i := A.i1.index_inj hn1' hn1 (hgo'.trans hgo.symm)
        omega
    · rw [← hgo] at hv ⊢
      have := A.i1.just i n hn1 (A.hnew n hn).1 hv
      rw [hv] at this
      exact JV.mono (fun j hj => hw hj) this
  rcases A.fact with h | h | h
  · rw [← hc]
    refine JV.mono (fun j hj => ?_) h.2
    exact (hw hj).mono (fun k hk => hk.elim (hS k) id)
  · rw [hc] at h; exact absurd h.1 (topOf_ne_botOf inst g)
  · rw [hc] at h; exact absurd h.1 (topOf_ne_ambig inst g)

/-- after a pessimistic outcome the next iteration starts from a smaller relative fixed point -/
theorem After.restart_sub (A : After inst P dom lvl fx s0 st s1 g old cur m new) (hb : cur = botOf inst g)
    {s2 : St} (R : Rest s1 s2) (hg2 : s2.graph = s0.graph ++ [headNode s0 g cur]) :
    ∀ k, InG inst P s2 k → InG inst P st k := by
  have hnode2 : ∀ {i : Nat} {n : Node}, s2.graph[i]? = some n →
      (i < s0.graph.length ∧ s0.graph[i]? = some n) ∨ (i = s0.graph.length ∧ n = headNode s0 g cur) := by
    intro i n hn
    rw [hg2] at hn
    exact single_cases _ _ i n hn
  -- the head of `s2` holds the pessimistic value: neither optimistic nor `ambig`
  have hhead : ∀ {n : Node} {x : Nat} {w : V}, n = headNode s0 g cur → n.goal = x →
      (w = topOf inst x ∨ w = .ambig) → n.solution = w → False := by
    intro n x w e hgo hw hv
    rw [e] at hgo hv
    have e1 : g = x := hgo
    subst e1
    have e2 : cur = w := hv
    rw [hb] at e2
    cases hw with
    | inl e3 => rw [e3] at e2; exact topOf_ne_botOf inst g e2.symm
    | inr e3 => rw [e3] at e2; exact botOf_ne_ambig inst g e2
  have hopt21 : ∀ x w, (w = topOf inst x ∨ w = .ambig) → Def s2 x w → Def s1 x w := by
    intro x w hw hd
    cases hd with
    | inl h => exact Or.inl (R.inCache.mp h)
    | inr h =>
      obtain ⟨i, n, hn, hgo, hv⟩ := h
      cases hnode2 hn with
      | inl h1 => exact Or.inr ⟨i, n, A.g0 h1.2, hgo, hv⟩
      | inr h1 => exact (hhead h1.2 hgo hw hv).elim
  have hdef2 : ∀ x v, Def st x v → ∃ v', Def s2 x v' := by
    intro x v hd
    cases hd with
    | inl h => exact ⟨v, Or.inl (R.inCache.mpr (A.step.cacheExt x v h))⟩
    | inr h =>
      obtain ⟨i, n, hn, hgo, hv⟩ := h
      rw [A.gt] at hn
      cases single_cases _ _ i n hn with
      | inl h1 => exact ⟨v, Or.inr ⟨i, n, by rw [hg2]; exact getElem?_prefix h1.2, hgo, hv⟩⟩
      | inr h1 =>
        rw [h1.2] at hgo
        exact ⟨cur, Or.inr ⟨s0.graph.length, headNode s0 g cur, by rw [hg2]; exact mid_at _ _ _, hgo, rfl⟩⟩
  refine InG.coind _ ?_
  intro x hx
  cases def_or_undef st x with
  | inl hd =>
    obtain ⟨v, hv⟩ := hd
    cases hx.unfold with
    | inl h2 =>
      left
      cases h2 with
      | inl h3 =>
        have : v = topOf inst x := A.i1.defFun (A.step.ext x v hv) (hopt21 x _ (Or.inl rfl) h3)
        rw [this] at hv
        exact Or.inl hv
      | inr h3 =>
        have : v = .ambig := A.i1.defFun (A.step.ext x v hv) (hopt21 x _ (Or.inr rfl) h3)
        rw [this] at hv
        exact Or.inr hv
    | inr h2 =>
      obtain ⟨v', hv'⟩ := hdef2 x v hv
      exact absurd hv' (h2.1 v')
  | inr hu =>
    refine Or.inr ⟨hu, ?_⟩
    cases hx.unfold with
    | inl h2 =>
      have hcache : ∀ w, (w = topOf inst x ∨ w = .ambig) → Def s2 x w → Holds P (topOf inst x) x := by
        intro w hw hd
        cases hd with
        | inl hc =>
          have hc1 : InCache s1 x w := R.inCache.mp hc
          have hh := A.i1.cacheOK x _ hc1
          cases hw with
          | inl e => rw [e] at hh; exact hh
          | inr e => rw [e] at hh; exact hh.elim
        | inr hgph =>
          exfalso
          obtain ⟨i, n, hn, hgo, hv⟩ := hgph
          cases hnode2 hn with
          | inl h1 => exact hu _ (Or.inr ⟨i, n, by rw [A.gt]; exact getElem?_prefix h1.2, hgo, hv⟩)
          | inr h1 => exact hhead h1.2 hgo hw hv
      have ht : Holds P (topOf inst x) x := h2.elim (hcache _ (Or.inl rfl)) (hcache _ (Or.inr rfl))
      cases (A.L.inv.tgt_sub_InG A.L.hP ht).unfold with
      | inl h => exact h.elim (fun h' => absurd h' (hu _)) (fun h' => absurd h' (hu _))
      | inr h => exact JV.mono (fun j hj => hj.mono (fun k hk => Or.inr hk)) h.2
    | inr h2 => exact JV.mono (fun j hj => hj.mono (fun k hk => Or.inl hk)) h2.2

end

def LoopPost (inst : Instance) (P : Nat → Prop) (dom : List Nat) (lvl : Nat → Nat) (fx : Bool) (s0 : St) (g : Nat)
    (sub : Min) (s3 : St) : Prop :=
  ∃ st' s1 old cur new new3, After inst P dom lvl fx s0 st' s1 g old cur sub new ∧ RoundEnd s0 g s1 old cur new new3 s3

/-- the loop stops: with the optimistic provisional answer two rounds are left, or the provisional
    answer is already pessimistic and stable -/
def Rounds (inst : Instance) (P : Nat → Prop) (s0 : St) (g : Nat) (r : Nat) (st : St) : Prop :=
  (2 ≤ r ∧ st.graph = s0.graph ++ [headNode s0 g (topOf inst g)]) ∨
  (1 ≤ r ∧ st.graph = s0.graph ++ [headNode s0 g (botOf inst g)] ∧
    ¬ JV inst (topOf inst g) (Opt inst P (InG inst P st) (topOf inst g)) g)

theorem loop_spec (hyp : MHyp inst P dom lvl) (h3 : cfg.fixF3 = true) (h10 : fx = true → cfg.fixF10 = true)
    (h16 : fx = true → cfg.fixF16 = true) (hrec : SubSpec inst P dom lvl fx cfg D rec) {s0 : St} {g : Nat}
    (hres : cfg.overflowDepth < D + (s0.stack.length + 1)) :
    ∀ (r : Nat) (st : St), LoopSt inst P dom lvl fx s0 g st → Rounds inst P s0 g r st →
      (solveNewSubgoal inst cfg rec g s0.stack.length s0.graph.length r st).sat
        (fun sub s3 => LoopPost inst P dom lvl fx s0 g sub s3) (BudgetPanic (fun k v => Holds P v k) cfg)
  | 0, st, _, hr => hr.elim (fun h => absurd h.1 (by omega)) (fun h => absurd h.1 (by omega))
  | r + 1, st, L, hr => by
    have ht := tick_sat cfg (Ok := fun k v => Holds P v k) L.inv.cacheOK
    cases htk : tick cfg st with
    | panic site st0 =>
      rw [solveNewSubgoal_tick_panic _ _ _ _ _ _ _ _ _ _ htk]
      rw [htk] at ht
      exact ht
    | ok u st0 =>
      rw [htk] at ht
      have e0 : st0 = { st with work := st.work + 1 } := ht
      have L0 : LoopSt inst P dom lvl fx s0 g st0 := by rw [e0]; exact L.work _
      have hit := solveIteration_spec hyp h3 h16 hrec g L.gdom none st0 L0.inv L0.gtop (by rw [L0.slen]; exact hres)
      cases hi : solveIteration inst cfg rec g none st0 with
      | panic site s1 =>
        rw [solveNewSubgoal_iter_panic _ _ _ _ _ _ _ _ _ _ _ htk hi]
        rw [hi] at hit
        exact hit
      | ok r1 s1 =>
        obtain ⟨cur, m⟩ := r1
        rw [hi] at hit
        obtain ⟨i1, hs, _, hk, hf⟩ := hit
        obtain ⟨old, new, A⟩ := After.intro L0 i1 hs hf hk
        rcases solveNewSubgoal_round inst cfg rec r htk hi A.g1 A.slen
            (fun e => fix_of_interrupted A.i1.fixes h10 (A.amb e)) with
          ⟨new3, s3, e, hend⟩ | ⟨hoc, hamb, s2, e, R, hst2, hg2⟩
        · rw [e]
          exact ⟨st0, s1, old, cur, new, new3, A, hend⟩
        · rw [e]
          have L2 : LoopSt inst P dom lvl fx s0 g s2 := A.restart R hst2 hg2
          -- the provisional answer was optimistic, the outcome is pessimistic
          have hold : old = topOf inst g ∧ 1 ≤ r := by
            cases hr with
            | inl h =>
              have := List.append_cancel_left (A.gt.symm.trans (by rw [e0]; exact h.2))
              simp only [headNode, List.cons.injEq, Node.mk.injEq, and_true, true_and] at this
              exact ⟨this, by omega⟩
            | inr h =>
              exfalso
              have := List.append_cancel_left (A.gt.symm.trans (by rw [e0]; exact h.2.1))
              simp only [headNode, List.cons.injEq, Node.mk.injEq, and_true, true_and] at this
              rcases A.cur_val with e | e | e
              · exact h.2.2 (by have := A.top_inG e; rw [e0] at this; exact this)
              · exact hoc (this.trans e.symm)
              · exact hamb e
          have hcur : cur = botOf inst g := by
            rcases A.cur_val with e | e | e
            · exact absurd (hold.1.trans e.symm) hoc
            · exact e
            · exact absurd e hamb
          refine loop_spec hyp h3 h10 h16 hrec hres r _ L2 (Or.inr ⟨hold.2, by rw [hg2, hcur], fun hj => ?_⟩)
          exact A.fact.not_opt hcur (JV.mono (fun j hj => hj.mono (fun k hk => A.restart_sub hcur R hg2 k hk)) hj)

end

end Chalk.FixedPoint.Mix
