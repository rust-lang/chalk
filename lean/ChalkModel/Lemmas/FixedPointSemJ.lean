/-
  FixedPointSemJ.lean — one polarity: `solve_goal` meets its specification `SubSpec` (`solveGoal_spec`; the
  bookkeeping after the loop: `finishGoal_spec`); totality without a work budget (`solveGoal_tot`).
-/
import ChalkModel.Lemmas.FixedPointSemI

namespace Chalk.FixedPoint.Cyc

section
variable {c : Bool} {inst : Instance} {dom : List Nat} {fx : Bool} {cfg : Cfg}

def SubTot (c : Bool) (inst : Instance) (dom : List Nat) (fx : Bool) (cfg : Cfg) (D : Nat) (rec : SubSolver) : Prop :=
  ∀ g m s, Inv c inst dom fx s → g ∈ dom → cfg.overflowDepth < D + s.stack.length →
    ∃ v m' s', rec g m s = .ok (v, m') s'

/-- `CacheAll` for the correct answers -/
def CacheOK (c : Bool) (inst : Instance) (s : St) : Prop := ∀ k v, InCache s k v → Corr c inst k v

theorem finishGoal_spec (h3 : cfg.fixF3 = true) {s0 : St} {g : Nat} {sub : Min} {s3 : St}
    (hp : LoopPost c inst dom fx s0 g sub s3) (m : Min) :
    (finishGoal cfg m s0.stack.length s0.graph.length sub s3).sat (fun r s' =>
      Inv c inst dom fx s' ∧ Step c inst s0 s' r.2 ∧ MinLe r.2 m ∧ Fact c inst s0 s' r.2 g r.1)
      (BudgetPanic (Corr c inst) cfg) := by
  obtain ⟨st', s1, old, cur, new, new3, A, hend⟩ := hp
  have hlow : cur = bot c → ¬ InG c inst s0 g :=
    fun hb => loop_low A.L A.i1 A.step A.fact g A.L.u0 (Or.inr ⟨rfl, hb⟩)
  have hle : MinLe (Min.updateFrom m sub) m := updateFrom_le_left m sub
  have hfl' : cur ≠ .ambig → ¬ flagAt s1.stack s0.stack.length ∨ old = cur :=
    fun hne => hend.kind.elim (fun h1 => h1.2) (fun h1 => absurd h1.2 hne)
  -- the reported fact, once the node is gone from the graph
  have hfact : ∀ (sF : St), sF.interrupted = s1.interrupted → (cur ≠ .ambig → Corr c inst g cur) →
      Fact c inst s0 sF (Min.updateFrom m sub) g cur := by
    intro sF hiF hcorr
    rcases A.cur_val with hc | hc | hc
    · have := hcorr (by rw [hc]; exact top_ne_ambig c)
      cases this with
      | inl h1 => exact Or.inl ⟨hc, Or.inl h1.2⟩
      | inr h1 => rw [hc] at h1; exact absurd h1.1 (top_ne_bot c)
    · have := hcorr (by rw [hc]; exact bot_ne_ambig c)
      cases this with
      | inl h1 => rw [hc] at h1; exact absurd h1.1.symm (top_ne_bot c)
      | inr h1 => exact Or.inr (Or.inl ⟨hc, h1.2, hlow hc⟩)
    · exact Or.inr (Or.inr ⟨hc, by rw [hiF]; exact A.amb hc⟩)
  rcases finishGoal_cases h3 hend A.hnew A.amb m with
    ⟨l, hl, hlt, e, P⟩ | ⟨hge, e, P⟩ | ⟨hge, hnew, hne, hni, cc1, cc6, hc1, hdr, e, P⟩
  · rw [e]
    have hkeep : Inv c inst dom fx (keptSt s3 (s0.graph ++ (⟨g, cur, none, sub⟩ : Node) :: new3)) ∧
        Step c inst s0 (keptSt s3 (s0.graph ++ (⟨g, cur, none, sub⟩ : Node) :: new3)) sub := by
      cases hend.kind with
      | inl h1 =>
        obtain ⟨e, hfl⟩ := h1
        subst e
        exact A.finish_keep P hfl l hl hlt rfl
      | inr h1 =>
        obtain ⟨e, hca⟩ := h1
        subst e; subst hca
        exact A.finish_keep_amb rfl P l hl hlt rfl
    obtain ⟨i5, hs5⟩ := hkeep
    refine ⟨i5, hs5.weaken (updateFrom_le_right m sub), hle, ?_⟩
    rcases A.cur_val with hc | hc | hc
    · refine Or.inl ⟨hc, Or.inr ⟨s0.graph.length, _, mid_at _ _ _, rfl, hc, ?_, fun d hd => by cases hd⟩⟩
      refine (updateFrom_le_right m sub).trans ?_
      rw [hl]
      exact Nat.le_of_lt hlt
    · exact Or.inr (Or.inl ⟨hc, A.fact.not_tgt hc, hlow hc⟩)
    · exact Or.inr (Or.inr ⟨hc, by
        show s3.interrupted = true
        rw [hend.rest.interrupted]; exact A.amb hc⟩)
  · -- caching disabled, or interrupted (F3: nothing is cached): `rollback_to(dfn)`
    rw [e]
    obtain ⟨i6, hs6, hcorr⟩ := A.finish_discard P hfl' hge rfl
    exact ⟨i6, hs6 _, hle, hfact _ hend.rest.interrupted hcorr⟩
  · subst hnew
    rw [e]
    obtain ⟨i6, hs6, hcorr⟩ := A.finish_cache (s6 := cachedSt s3 s0.graph cc6) P (hfl' hne) hge rfl cc1 cc6 hc1
      rfl hdr hni
    exact ⟨i6, hs6 _, hle, hfact _ hend.rest.interrupted (fun _ => hcorr)⟩

theorem Step.of_work {s s' : St} {w : Nat} {lb : Min} (h : Step c inst { s with work := w } s' lb) :
    Step c inst s s' lb :=
  ⟨h.toFrame.of_work, h.low⟩

theorem Fact.of_work {s s' : St} {w : Nat} {m' : Min} {g : Nat} {v : V}
    (h : Fact c inst { s with work := w } s' m' g v) : Fact c inst s s' m' g v := h

theorem hit_fact {s : St} (hi : Inv c inst dom fx s) {g dfn : Nat} {node : Node} (hn : s.graph[dfn]? = some node)
    (hgo : node.goal = g) {s' : St} {m' : Min} (hpre : s'.graph = s.graph) (hint : s'.interrupted = s.interrupted)
    (hfl : ∀ d, node.stackDepth = some d → flagAt s'.stack d) (l : Nat) (hlk : node.links = some l)
    (hl : l ≤ dfn) (hm' : MinLe m' node.links) : Fact c inst s s' m' g node.solution := by
  subst hgo
  rcases hi.val dfn node hn with ht' | hb | ha
  · refine Or.inl ⟨ht', Or.inr ⟨dfn, node, by rw [hpre]; exact hn, rfl, ht', ?_, hfl⟩⟩
    refine hm'.trans ?_
    rw [hlk]; exact hl
  · exact Or.inr (Or.inl ⟨hb, hi.approx dfn node hn hb, hi.not_inG_of_bot (Or.inr ⟨dfn, node, hn, rfl, hb⟩)⟩)
  · exact Or.inr (Or.inr ⟨ha, by rw [hint]; exact hi.amb dfn node hn ha⟩)

/-- `solve_goal` meets its specification: it returns with invariant, frame and the fact about its answer,
    or ends in the budget panic with a right cache; no assert of the framework fires, the stack does not
    overflow, the loop stops within two rounds (any `should_continue` oracle) -/
theorem solveGoal_spec (hyp : Hyp c inst dom) (h3 : cfg.fixF3 = true) (h10 : fx = true → cfg.fixF10 = true)
    (h16 : fx = true → cfg.fixF16 = true) (hov : dom.length ≤ cfg.overflowDepth) (hr : 2 ≤ cfg.rounds) :
    ∀ d, SubSpec c inst dom fx cfg d (solveGoal inst cfg d)
  | 0 => by
    intro g m s hi _ hres
    have := stack_length_le hi.nodup hi.inDom hi.cnt
    omega
  | d + 1 => by
    intro g m s hi hg hres
    have i0 : Inv c inst dom fx { s with work := s.work + 1 } := hi.work _
    rcases solveGoal_cases inst cfg d g m hi.cacheOK hi.nodup hi.inDom hi.cnt hi.stk hg hov with
      ⟨s', e, hp⟩ | ⟨w, hin, e⟩ | ⟨dfn, node, hn, hgo, hsd, e⟩ | ⟨dfn, node, depth, hn, hgo, hsd, e⟩ | ⟨hu, hlt, e⟩
    · rw [e]; exact hp
    · rw [e]
      refine ⟨i0, Step.work s _ _, MinLe.refl _, ?_⟩
      cases hi.cacheOK g w hin with
      | inl hk => exact Or.inl ⟨hk.1, Or.inl hk.2⟩
      | inr hk =>
        refine Or.inr (Or.inl ⟨hk.1, hk.2, hi.not_inG_of_bot (Or.inl ?_)⟩)
        rw [← hk.1]; exact hin
    · rw [e]
      obtain ⟨l, hlk, hll⟩ := hi.nonstk dfn node hn hsd
      exact ⟨i0, Step.work s _ _, updateFrom_le_left _ _,
        hit_fact hi hn hgo rfl rfl (fun d' hd' => by rw [hsd] at hd'; cases hd') l hlk (Nat.le_of_lt hll)
          (updateFrom_le_right m node.links)⟩
    · -- a cycle is closed: all goals on the stack have the polarity `c`, it is not mixed
      obtain ⟨hdl, hlk⟩ := hi.stk dfn node depth hn hsd
      have hext := stackExt_setCycle_true depth s.stack
      have R : Rest s { s with work := s.work + 1, stack := setCycle true depth s.stack } := ⟨rfl, rfl, rfl, rfl⟩
      have i1 : Inv c inst dom fx { s with work := s.work + 1, stack := setCycle true depth s.stack } :=
        hi.stackChange rfl R hext
      have hmix : mixedFrom (setCycle true depth s.stack) depth = false :=
        mixedFrom_seg (fun e he => i1.stackCo e (List.mem_of_mem_drop he))
      rw [e, hmix]
      have hst : Step c inst s { s with work := s.work + 1, stack := setCycle true depth s.stack }
          (Min.updateFrom m node.links) :=
        Step.stackOnly (s := s) (s' := { s with work := s.work + 1, stack := setCycle true depth s.stack }) rfl R hext _
      simp only [Bool.false_eq_true, if_false]
      refine ⟨i1, hst, updateFrom_le_left _ _,
        hit_fact hi hn hgo rfl rfl (fun d' hd' => ?_) dfn hlk (Nat.le_refl _) (updateFrom_le_right m node.links)⟩
      rw [hsd] at hd'
      cases hd'
      exact ⟨_, setCycle_getElem?_eq true depth s.stack _ (List.getElem?_eq_getElem hdl), rfl⟩
    · rw [e]
      have hloop := loop_spec hyp h3 h10 h16 (solveGoal_spec hyp h3 h10 h16 hov hr d)
        (s0 := { s with work := s.work + 1 }) (g := g)
        (by show cfg.overflowDepth < d + (s.stack.length + 1); omega) cfg.rounds _
        (push_loopSt hyp i0 hu hg) (Or.inl ⟨hr, by
          have hco : inst.coind g = c := hyp.coind g hg
          simp only [pushed, headNode, top, hco]⟩)
      cases hlp : solveNewSubgoal inst cfg (solveGoal inst cfg d) g s.stack.length s.graph.length
          cfg.rounds (pushed inst g { s with work := s.work + 1 }) with
      | panic site s3 => rw [hlp] at hloop; exact hloop
      | ok sub s3 =>
        rw [hlp] at hloop
        exact (finishGoal_spec h3 hloop m).imp (fun _ _ ⟨i', hs', hle', hf'⟩ =>
          ⟨i', Step.of_work hs', hle', Fact.of_work hf'⟩)

theorem solveGoal_tot (hyp : Hyp c inst dom) (h3 : cfg.fixF3 = true) (h10 : fx = true → cfg.fixF10 = true)
    (h16 : fx = true → cfg.fixF16 = true) (hb : cfg.budget = none)
    (hov : dom.length ≤ cfg.overflowDepth) (hr : 2 ≤ cfg.rounds) :
    ∀ d, SubTot c inst dom fx cfg d (solveGoal inst cfg d) := by
  intro d g m s hi hg hres
  have h := solveGoal_spec hyp h3 h10 h16 hov hr d g m s hi hg hres
  cases hr' : solveGoal inst cfg d g m s with
  | ok r s' => exact ⟨r.1, r.2, s', rfl⟩
  | panic site s' => rw [hr'] at h; exact absurd hb h.2.1

end

end Chalk.FixedPoint.Cyc
