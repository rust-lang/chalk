import ChalkModel.Lemmas.CanonLemmas
import ChalkModel.Lemmas.ShiftPure

/-! First-occurrence numbering: the canonicalizer's `free_vars` is the list of distinct roots of
    the unbound variables it meets, in the order in which it first meets them. -/
namespace Chalk

abbrev OccLog := List (VarKind × Nat)

/-- The canonicalizer's traversal WITHOUT the numbering: same walk (through the values of bound
    variables, with the same shifting and the same panics), but an unbound variable is left in
    place and `(kind of this occurrence, root)` is appended to a log.  The value computed is the
    value with every bound variable replaced by its value (deep resolution). -/
def occStep (t : Table) (inner : Option (SFolder OccLog)) : SFolder OccLog where
  freeVarTy := forbidFreeVarTy
  freeVarLt := forbidFreeVarLt
  freeVarConst := forbidFreeVarConst
  inferTy := fun v k outer log =>
    match t.probeVar v with
    | some g =>
      match inner with
      | none => .error pCyclic
      | some f =>
        match g with
        | .ty ty =>
          bindS (sfoldTy f 0 ty log) fun ty' log' =>
            match ty'.shiftedInFrom outer with
            | .ok r => .ok (r, log')
            | .error e => .error e
        | _ => .error pUnwrapNone
    | none => .ok (.infer v k, log ++ [(.ty k, t.find v)])
  inferLt := fun v outer log =>
    match t.probeVar v with
    | some g =>
      match inner with
      | none => .error pCyclic
      | some f =>
        match g with
        | .lt l =>
          bindS (sfoldLifetime f 0 l log) fun l' log' =>
            match l'.shiftedInFrom outer with
            | .ok r => .ok (r, log')
            | .error e => .error e
        | _ => .error pUnwrapNone
    | none => .ok (.infer v, log ++ [(.lt, t.find v)])
  inferConst := fun ty v outer log =>
    match t.probeVar v with
    | some g =>
      match inner with
      | none => .error pCyclic
      | some f =>
        match g with
        | .ct c =>
          bindS (sfoldConst f 0 c log) fun c' log' =>
            match c'.shiftedInFrom outer with
            | .ok r => .ok (r, log')
            | .error e => .error e
        | _ => .error pUnwrapNone
    | none => .ok (.mk ty (.infer v), log ++ [(.const ty.scalarCode, t.find v)])
  phTy := fun ui idx _ log => .ok (.placeholder ui idx, log)
  phLt := fun ui idx _ log => .ok (.placeholder ui idx, log)
  phConst := fun ty ui idx _ log => .ok (.mk ty (.placeholder ui idx), log)

def occFolder (t : Table) : (fuel : Nat) → SFolder OccLog
  | 0 => occStep t none
  | n + 1 => occStep t (some (occFolder t n))

/-- the resolved value and the occurrences of unbound variables (kind, root) in traversal order -/
def Table.occurrences (t : Table) (fuel : Nat) (v : Args) : Res (Args × OccLog) :=
  sfoldArgs (occFolder t fuel) 0 v []

/-- the first occurrence of every root, in order of first occurrence -/
def firstOccurrences (log : OccLog) : List (VarKind × Nat) := log.foldl addIfNew []

theorem addIfNew_nodup (fv : List (VarKind × Nat)) (p : VarKind × Nat) (h : (fv.map (·.2)).Nodup) :
    ((addIfNew fv p).map (·.2)).Nodup := by
  unfold addIfNew
  cases hp : posOf p.2 fv with
  | some j => exact h
  | none =>
    have hn := (posOf_eq_none_iff p.2 fv).mp hp
    simp only [List.map_append, List.map_cons, List.map_nil]
    rw [List.nodup_append]
    refine ⟨h, by simp, ?_⟩
    intro a ha b hb
    simp at hb; subst hb
    intro hab; subst hab
    exact hn ha

theorem foldl_addIfNew_nodup : (log : OccLog) → (fv : List (VarKind × Nat)) → (fv.map (·.2)).Nodup →
    ((log.foldl addIfNew fv).map (·.2)).Nodup
  | [], fv, h => h
  | p :: log, fv, h => foldl_addIfNew_nodup log (addIfNew fv p) (addIfNew_nodup fv p h)

theorem firstOccurrences_nodup (log : OccLog) : ((firstOccurrences log).map (·.2)).Nodup :=
  foldl_addIfNew_nodup log [] (by simp)

theorem foldl_addIfNew_sub : (log : OccLog) → (fv : List (VarKind × Nat)) → ∀ p ∈ log.foldl addIfNew fv, p ∈ fv ∨ p ∈ log
  | [], fv, p, h => .inl h
  | q :: log, fv, p, h => by
    rcases foldl_addIfNew_sub log (addIfNew fv q) p h with h | h
    · unfold addIfNew at h
      split at h
      · exact .inl h
      · rcases List.mem_append.mp h with h | h
        · exact .inl h
        · simp at h; subst h; exact .inr (by simp)
    · exact .inr (by simp [h])

theorem foldl_addIfNew_complete : (log : OccLog) → (fv : List (VarKind × Nat)) →
    (∀ r ∈ fv.map (·.2), r ∈ (log.foldl addIfNew fv).map (·.2)) ∧
    (∀ r ∈ log.map (·.2), r ∈ (log.foldl addIfNew fv).map (·.2))
  | [], fv => ⟨fun r h => h, fun r h => by simp at h⟩
  | q :: log, fv => by
    obtain ⟨ih1, ih2⟩ := foldl_addIfNew_complete log (addIfNew fv q)
    have hq : q.2 ∈ (addIfNew fv q).map (·.2) := by
      unfold addIfNew
      cases hp : posOf q.2 fv with
      | some j =>
        have : ¬ (q.2 ∉ fv.map (·.2)) := fun h => by rw [(posOf_eq_none_iff q.2 fv).mpr h] at hp; cases hp
        simpa using this
      | none => simp
    have hsub : ∀ r ∈ fv.map (·.2), r ∈ (addIfNew fv q).map (·.2) := by
      intro r hr
      unfold addIfNew
      split
      · exact hr
      · simp only [List.map_append, List.mem_append]; exact .inl hr
    refine ⟨fun r hr => ih1 r (hsub r hr), fun r hr => ?_⟩
    simp only [List.map_cons, List.mem_cons] at hr
    rcases hr with rfl | hr
    · exact ih1 _ hq
    · exact ih2 r hr

theorem firstOccurrences_eq_nil (log : OccLog) : firstOccurrences log = [] ↔ log = [] := by
  constructor
  · intro h
    cases log with
    | nil => rfl
    | cons p l =>
      have := (foldl_addIfNew_complete (p :: l) []).2 p.2 (by simp)
      unfold firstOccurrences at h
      rw [h] at this
      simp at this
  · intro h; subst h; rfl

def OccRel (st : CState) (log : OccLog) : Prop := st.freeVars = firstOccurrences log

theorem canonAdd_occ (t : Table) (st st' : CState) (k : VarKind) (r i : Nat) (log : OccLog)
    (hr : OccRel st log) (h : canonAdd t st k r = .ok (i, st')) : OccRel st' (log ++ [(k, r)]) := by
  obtain ⟨u, _, _, rfl⟩ := canonAdd_eq_ok h
  unfold OccRel firstOccurrences at *
  rw [List.foldl_append, ← hr]; rfl

def OccInner : Option (SFolder CState) → Option (SFolder OccLog) → Prop
  | none, none => True
  | some f1, some f2 => SimHandlers False OccRel f1 f2
  | _, _ => False

theorem occ_step (t : Table) (inner1 : Option (SFolder CState)) (inner2 : Option (SFolder OccLog))
    (hin : OccInner inner1 inner2) : SimHandlers False OccRel (canonStep t inner1) (occStep t inner2) := by
  refine
    { freeVarTy := ?_, freeVarLt := ?_, freeVarConst := ?_, inferTy := ?_, inferLt := ?_, inferConst := ?_,
      phTy := ?_, phLt := ?_, phConst := ?_, flagFreeVar := rfl, flagInfer := rfl, flagPh := rfl }
  · intro db idx o s1 s2 _ a s1' h1; cases h1
  · intro db idx o s1 s2 _ a s1' h1; cases h1
  · intro ty1 ty2 db idx o s1 s2 _ _ a s1' h1; cases h1
  · intro v k o s1 s2 hr a s1' h1
    rcases canonStep_inferTy_ok h1 with ⟨hp, i, st', hadd, he⟩ | ⟨ty, f1, ty', st', hp, rfl, hf, he⟩ <;> cases he
    · exact ⟨_, _, by simp only [occStep, hp]; rfl, False.elim, canonAdd_occ t s1 _ _ _ i s2 hr hadd⟩
    · cases inner2 with
      | none => exact hin.elim
      | some f2 =>
        obtain ⟨b, s2', hrun, _, hr'⟩ := sfoldTy_sim hin 0 ty s1 s2 hr ty' _ hf
        exact ⟨_, s2', by simp only [occStep, hp, hrun, bindS_ok, Ty.shiftedInFrom, foldTy_shifter]; rfl, False.elim, hr'⟩
  · intro v o s1 s2 hr a s1' h1
    rcases canonStep_inferLt_ok h1 with ⟨hp, i, st', hadd, he⟩ | ⟨l, f1, l', st', hp, rfl, hf, he⟩ <;> cases he
    · exact ⟨_, _, by simp only [occStep, hp]; rfl, False.elim, canonAdd_occ t s1 _ _ _ i s2 hr hadd⟩
    · cases inner2 with
      | none => exact hin.elim
      | some f2 =>
        obtain ⟨b, s2', hrun, _, hr'⟩ := sfoldLifetime_sim hin 0 l s1 s2 hr l' _ hf
        exact ⟨_, s2', by simp only [occStep, hp, hrun, bindS_ok, Lifetime.shiftedInFrom, foldLifetime_shifter]; rfl,
          False.elim, hr'⟩
  · intro ty1 ty2 v o s1 s2 hty hr a s1' h1
    cases hty (.inr rfl)
    rcases canonStep_inferConst_ok h1 with ⟨hp, i, st', hadd, he⟩ | ⟨c, f1, c', st', hp, rfl, hf, he⟩ <;> cases he
    · exact ⟨_, _, by simp only [occStep, hp]; rfl, False.elim, canonAdd_occ t s1 _ _ _ i s2 hr hadd⟩
    · cases inner2 with
      | none => exact hin.elim
      | some f2 =>
        obtain ⟨b, s2', hrun, _, hr'⟩ := sfoldConst_sim hin 0 c s1 s2 hr c' _ hf
        exact ⟨_, s2', by simp only [occStep, hp, hrun, bindS_ok, Const.shiftedInFrom, foldConst_shifter]; rfl,
          False.elim, hr'⟩
  · intro ui idx o s1 s2 hr a s1' h1
    cases h1; exact ⟨_, s2, rfl, False.elim, hr⟩
  · intro ui idx o s1 s2 hr a s1' h1
    cases h1; exact ⟨_, s2, rfl, False.elim, hr⟩
  · intro ty1 ty2 ui idx o s1 s2 _ hr a s1' h1
    cases h1; exact ⟨_, s2, rfl, False.elim, hr⟩

theorem occ_handlers (t : Table) : (fuel : Nat) → SimHandlers False OccRel (canonFolder t fuel) (occFolder t fuel)
  | 0 => occ_step t none none trivial
  | n + 1 => occ_step t (some (canonFolder t n)) (some (occFolder t n)) (occ_handlers t n)

end Chalk
