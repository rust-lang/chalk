/-
  FixedPointMix.lean — definitions for the fixed-point iteration of `FixedPoint.lean` on ground instances that MIX
  coinductive and inductive goals but have NO MIXED CYCLE: the polarity is per goal (`inst.coind k`), the semantic
  target is a truth predicate `P` subject to `Strat`, and a level function `lvl` stratifies the instance
  (`MHyp.lvl_le` in `FixedPointMixB.lean`).  `InG`, `Wit`, `Inv`, `Step`, `Fact` as in `FixedPointSem.lean`, with
  the invariants about levels added; `FixedPointMixA … J, N` mirror `FixedPointSemA … J, N`.
-/
import ChalkModel.Lemmas.FixedPointFrame

namespace Chalk.FixedPoint.Mix
open Chalk.FixedPoint.Cyc (JE JA MinLe InCache InGraph Def Undef flagAt stackGoals QuietSt Frame)

/-- the optimistic value of goal `k` (`initial_value`) -/
def topOf (inst : Instance) (k : Nat) : V := initialValue (inst.coind k)
def botOf (inst : Instance) (k : Nat) : V := if inst.coind k then .noSolution else .unique

/-- `v` is the true answer of `j` w.r.t. the truth predicate `P` -/
def Holds (P : Nat → Prop) (v : V) (j : Nat) : Prop :=
  match v with
  | .unique => P j
  | .noSolution => ¬ P j
  | .ambig => False

/-- justification of the value `v` for goal `k` from a predicate on its sub-goals: `unique` needs an
    alternative all of whose sub-goals satisfy `X`, `noSolution` needs in every alternative a
    sub-goal that satisfies `X` -/
def JV (inst : Instance) (v : V) (X : Nat → Prop) (k : Nat) : Prop :=
  match v with
  | .unique => JE inst X k
  | .noSolution => JA inst X k
  | .ambig => False

def neg : V → V
  | .unique => .noSolution
  | .noSolution => .unique
  | .ambig => .ambig

theorem topOf_ne_botOf (inst : Instance) (k : Nat) : topOf inst k ≠ botOf inst k := by
  unfold topOf botOf initialValue; cases inst.coind k <;> decide
theorem topOf_ne_ambig (inst : Instance) (k : Nat) : topOf inst k ≠ .ambig := by
  unfold topOf initialValue; cases inst.coind k <;> decide
theorem botOf_ne_ambig (inst : Instance) (k : Nat) : botOf inst k ≠ .ambig := by
  unfold botOf; cases inst.coind k <;> decide
theorem neg_topOf (inst : Instance) (k : Nat) : neg (topOf inst k) = botOf inst k := by
  unfold topOf botOf initialValue; cases inst.coind k <;> rfl
theorem topOf_eq_iff (inst : Instance) (j k : Nat) : topOf inst j = topOf inst k ↔ inst.coind j = inst.coind k := by
  unfold topOf initialValue; cases inst.coind j <;> cases inst.coind k <;> decide
theorem topOf_unique_iff (inst : Instance) (k : Nat) : topOf inst k = .unique ↔ inst.coind k = true := by
  unfold topOf initialValue; cases inst.coind k <;> decide
theorem topOf_noSolution_iff (inst : Instance) (k : Nat) : topOf inst k = .noSolution ↔ inst.coind k = false := by
  unfold topOf initialValue; cases inst.coind k <;> decide
theorem botOf_eq_of_ne {inst : Instance} {j k : Nat} (h : topOf inst j ≠ topOf inst k) :
    botOf inst k = topOf inst j := by
  unfold topOf botOf initialValue at *
  generalize inst.coind j = a at *
  generalize inst.coind k = b at *
  cases a <;> cases b <;> simp_all

theorem JV.mono {inst : Instance} {v : V} {X Y : Nat → Prop} (h : ∀ j, X j → Y j) {k : Nat}
    (hk : JV inst v X k) : JV inst v Y k := by
  cases v with
  | unique => exact JE.mono h hk
  | noSolution => exact JA.mono h hk
  | ambig => exact hk

theorem JV.dual {inst : Instance} {v : V} {X : Nat → Prop} {k : Nat}
    (h : JV inst (neg v) (fun j => ¬ X j) k) : ¬ JV inst v X k := by
  cases v with
  | unique =>
    rintro ⟨alt, ha, hj⟩
    obtain ⟨j, hjm, hn⟩ := h alt ha
    exact hn (hj j hjm)
  | noSolution =>
    intro h2
    obtain ⟨alt, ha, hj⟩ := h
    obtain ⟨j, hjm, hx⟩ := h2 alt ha
    exact hj j hjm hx
  | ambig => exact fun h2 => h2

theorem Holds.excl {P : Nat → Prop} {v : V} {j : Nat} (h1 : Holds P v j) (h2 : Holds P (neg v) j) : False := by
  cases v with
  | unique => exact h2 h1
  | noSolution => exact h1 h2
  | ambig => exact h1

theorem Holds.unique {P : Nat → Prop} {v w : V} {j : Nat} (h1 : Holds P v j) (h2 : Holds P w j) : v = w := by
  cases v <;> cases w <;> first | rfl | exact absurd h1 h2 | exact absurd h2 h1 | exact h1.elim | exact h2.elim

/-- the truth predicate of a stratified instance: a fixed point of `T` that is greatest on the
    coinductive goals and least on the inductive goals -/
structure Strat (inst : Instance) (P : Nat → Prop) : Prop where
  fix : ∀ k, P k ↔ JE inst P k
  co : ∀ S : Nat → Prop, (∀ k, S k → inst.coind k = true ∧ JE inst (fun j => S j ∨ P j) k) → ∀ k, S k → P k
  ind : ∀ N : Nat → Prop, (∀ k, N k → inst.coind k = false ∧ JA inst (fun j => N j ∨ ¬ P j) k) →
    ∀ k, N k → ¬ P k

theorem Strat.unfold {inst : Instance} {P : Nat → Prop} (hP : Strat inst P) {v : V} {k : Nat}
    (h : Holds P v k) : JV inst v (Holds P v) k := by
  cases v with
  | unique => exact (hP.fix k).mp h
  | noSolution =>
    intro alt ha
    apply Classical.byContradiction
    intro hn
    apply h
    refine (hP.fix k).mpr ⟨alt, ha, fun j hj => ?_⟩
    apply Classical.byContradiction
    intro hl
    exact hn ⟨j, hj, hl⟩
  | ambig => exact h

/-- `j` may optimistically be taken to have the value `v`: it is an optimistic goal of the
    matching polarity in `S`, or `v` is its true answer -/
def Opt (inst : Instance) (P : Nat → Prop) (S : Nat → Prop) (v : V) (j : Nat) : Prop :=
  (topOf inst j = v ∧ S j) ∨ Holds P v j

theorem Opt.mono {inst : Instance} {P : Nat → Prop} {S S' : Nat → Prop} (h : ∀ j, S j → S' j) {v : V} {j : Nat}
    (hj : Opt inst P S v j) : Opt inst P S' v j := by
  cases hj with
  | inl h1 => exact Or.inl ⟨h1.1, h j h1.2⟩
  | inr h1 => exact Or.inr h1

/-- coinduction/induction principle, polarity-generic: optimistic claims that justify each other
    (within their polarity; across polarities only true answers count) are true -/
theorem Strat.coind {inst : Instance} {P : Nat → Prop} (hP : Strat inst P) (S : Nat → Prop)
    (hS : ∀ k, S k → JV inst (topOf inst k) (Opt inst P S (topOf inst k)) k) :
    ∀ k, S k → Holds P (topOf inst k) k := by
  have hco : ∀ k, (inst.coind k = true ∧ S k) → P k := by
    refine hP.co _ ?_
    rintro k ⟨hc, hk⟩
    refine ⟨hc, ?_⟩
    have := hS k hk
    rw [(topOf_unique_iff inst k).mpr hc] at this
    refine JE.mono ?_ this
    intro j hj
    cases hj with
    | inl h1 => exact Or.inl ⟨(topOf_unique_iff inst j).mp h1.1, h1.2⟩
    | inr h1 => exact Or.inr h1
  have hind : ∀ k, (inst.coind k = false ∧ S k) → ¬ P k := by
    refine hP.ind _ ?_
    rintro k ⟨hc, hk⟩
    refine ⟨hc, ?_⟩
    have := hS k hk
    rw [(topOf_noSolution_iff inst k).mpr hc] at this
    refine JA.mono ?_ this
    intro j hj
    cases hj with
    | inl h1 => exact Or.inl ⟨(topOf_noSolution_iff inst j).mp h1.1, h1.2⟩
    | inr h1 => exact Or.inr h1
  intro k hk
  cases hc : inst.coind k with
  | true => rw [(topOf_unique_iff inst k).mpr hc]; exact hco k ⟨hc, hk⟩
  | false => rw [(topOf_noSolution_iff inst k).mpr hc]; exact hind k ⟨hc, hk⟩

section Sem
variable (inst : Instance) (P : Nat → Prop)

/-- relative optimistic fixed point: the goals that get their optimistic value when every goal the
    state knows is held at its current value (sub-goals of the other polarity count with their
    true answer) -/
def InG (s : St) (k : Nat) : Prop :=
  ∃ S : Nat → Prop, (∀ x, S x → (Def s x (topOf inst x) ∨ Def s x .ambig) ∨
    (Undef s x ∧ JV inst (topOf inst x) (Opt inst P S (topOf inst x)) x)) ∧ S k

/-- the answer `v` for `j` is justified in `s` by nodes at or above `lb`: it is true outright, or it
    is the optimistic value of `j` and a node at `dfn ≥ lb` holds it (if that node is on the stack,
    its cycle flag is set) -/
def Wit (s : St) (lb : Min) (v : V) (j : Nat) : Prop :=
  Holds P v j ∨ ∃ (i : Nat) (n : Node), s.graph[i]? = some n ∧ n.goal = j ∧ n.solution = v ∧
    topOf inst j = v ∧ MinLe lb (some i) ∧ ∀ d, n.stackDepth = some d → flagAt s.stack d

def Below (lvl : Nat → Nat) (s : St) (g : Nat) : Prop :=
  ∀ (i : Nat) (n : Node) (d : Nat), s.graph[i]? = some n → n.stackDepth = some d →
    lvl g ≤ lvl n.goal ∧ (lvl g = lvl n.goal → inst.coind g = inst.coind n.goal)

/-- The state invariant: that of `FixedPointSem.lean` (`approx`, `just` with its bound by `links`, see there) with
    the polarity of each goal, and the stratification: every stack entry has its node (`stackNode`), levels do not
    increase up the stack and stay in one polarity while they are equal (`chain`), the `links` of a node off the
    stack points at a node that is not above it (`lvlLinks`).  So a provisional answer depends on a stack node of
    its own level: an answer that crosses a change of polarity is exact (`Wit.exact`), and the stack segment that a
    cycle closes has one polarity (`hit_not_mixed`). -/
structure Inv (dom : List Nat) (lvl : Nat → Nat) (fx : Bool) (s : St) : Prop where
  fixes : fx = true ∨ (QuietSt s ∧ s.interrupted = false)
  amb : ∀ (i : Nat) (n : Node), s.graph[i]? = some n → n.solution = .ambig → s.interrupted = true
  cacheOK : ∀ k v, InCache s k v → Holds P v k
  stackNode : ∀ (d : Nat) (e : StackEntry), s.stack[d]? = some e → ∃ (i : Nat) (n : Node),
    s.graph[i]? = some n ∧ n.stackDepth = some d ∧ e.coinductiveGoal = inst.coind n.goal
  chain : ∀ (i : Nat) (n : Node) (d : Nat) (i' : Nat) (n' : Node) (d' : Nat), s.graph[i]? = some n →
    n.stackDepth = some d → s.graph[i']? = some n' → n'.stackDepth = some d' → d ≤ d' →
    lvl n'.goal ≤ lvl n.goal ∧ (lvl n'.goal = lvl n.goal → inst.coind n'.goal = inst.coind n.goal)
  nodup : (s.graph.map (·.goal)).Nodup
  disj : ∀ (i : Nat) (n : Node), s.graph[i]? = some n → ∀ v, ¬ InCache s n.goal v
  inDom : ∀ (i : Nat) (n : Node), s.graph[i]? = some n → n.goal ∈ dom
  val : ∀ (i : Nat) (n : Node), s.graph[i]? = some n →
    n.solution = topOf inst n.goal ∨ n.solution = botOf inst n.goal ∨ n.solution = .ambig
  approx : ∀ (i : Nat) (n : Node), s.graph[i]? = some n → n.solution = botOf inst n.goal →
    Holds P n.solution n.goal
  stk : ∀ (i : Nat) (n : Node) (d : Nat), s.graph[i]? = some n → n.stackDepth = some d →
    d < s.stack.length ∧ n.links = some i
  nonstk : ∀ (i : Nat) (n : Node), s.graph[i]? = some n → n.stackDepth = none → ∃ l, n.links = some l ∧ l < i
  cnt : (stackGoals s.graph).length = s.stack.length
  just : ∀ (i : Nat) (n : Node), s.graph[i]? = some n → n.stackDepth = none →
    n.solution = topOf inst n.goal → JV inst n.solution (Wit inst P s n.links n.solution) n.goal
  lvlLinks : ∀ (i : Nat) (n : Node) (l : Nat), s.graph[i]? = some n → n.stackDepth = none →
    n.links = some l → ∃ n' : Node, s.graph[l]? = some n' ∧ lvl n'.goal ≤ lvl n.goal

/-- what a completed `solve_goal` did to the state (`lb`: lower bound of the links of new nodes): the `Frame`, and
    `low`: a new pessimistic entry is outside `InG` of the state the call started from (a RELATIVE bound, for the
    reasons given at `Cyc.Step`; it gives the two rounds of the loop here too) -/
structure Step (s s' : St) (lb : Min) : Prop extends Frame s s' lb where
  low : ∀ k, Undef s k → Def s' k (botOf inst k) → ¬ InG inst P s k

def Fact (s0 s' : St) (m' : Min) (g : Nat) (v : V) : Prop :=
  (v = topOf inst g ∧ Wit inst P s' m' v g) ∨ (v = botOf inst g ∧ Holds P v g ∧ ¬ InG inst P s0 g) ∨
  (v = .ambig ∧ s'.interrupted = true)

/-- `m` is the minimum a call was given, `m'` the one it returns: if it was lowered, and to an index below `B`
    (the part of the graph that is stable during the call), then that index points at a node that is not above `L`
    in the stratification -/
def LinkOK (lvl : Nat → Nat) (s' : St) (L B : Nat) (m m' : Min) : Prop :=
  m' = m ∨ ∃ l : Nat, m' = some l ∧ (l < B → ∃ n' : Node, s'.graph[l]? = some n' ∧ lvl n'.goal ≤ L)

end Sem

end Chalk.FixedPoint.Mix
