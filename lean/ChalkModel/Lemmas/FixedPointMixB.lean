/-
  FixedPointMixB.lean — both polarities: the class of instances `MHyp`, answers that cross a change of polarity are
  exact (`Wit.exact`), the specification `SubSpec` of a sub-goal solver, and one iteration (`solveIteration_spec`):
  the evaluation layer of `FixedPointEval.lean` while the goal is on top of the stack.
-/
import ChalkModel.Lemmas.FixedPointMixA
import ChalkModel.Lemmas.FixedPointEval
import ChalkModel.Lemmas.FixedPointEqns

namespace Chalk.FixedPoint.Mix
open Chalk.FixedPoint.Cyc (JE JA MinLe InCache InGraph Def Undef flagAt StackExt stackGoals
  getElem?_lt_length getElem?_prefix QuietSt shouldContinue_cases Frame fix_of_interrupted)

/-- the class of instances: `dom` closed under `deps`, all goals ground, `P` the stratified truth,
    `lvl` a stratification (levels do not increase along dependencies and drop where the polarity
    changes: no cycle mixes polarities) -/
structure MHyp (inst : Instance) (P : Nat → Prop) (dom : List Nat) (lvl : Nat → Nat) : Prop where
  closed : ∀ k, k ∈ dom → ∀ alt, alt ∈ inst.deps k → ∀ j, j ∈ alt → j ∈ dom
  ground : ∀ k, k ∈ dom → inst.ground k = true
  strat : Strat inst P
  lvl_le : ∀ k, k ∈ dom → ∀ alt, alt ∈ inst.deps k → ∀ j, j ∈ alt →
    lvl j ≤ lvl k ∧ (lvl j = lvl k → inst.coind j = inst.coind k)

def GTop (s : St) (g : Nat) : Prop :=
  ∃ (i : Nat) (n : Node) (d : Nat), s.graph[i]? = some n ∧ n.goal = g ∧ n.stackDepth = some d ∧
    d + 1 = s.stack.length

/-- specification of a sub-goal solver with depth fuel `D`: called on a state with the invariant where the
    stack still fits, for a goal below the stack, it returns with invariant, frame, the fact about its answer
    and a minimum that is `LinkOK`, or it ends in the budget panic; no assert fires -/
def SubSpec (inst : Instance) (P : Nat → Prop) (dom : List Nat) (lvl : Nat → Nat) (fx : Bool) (cfg : Cfg) (D : Nat)
    (rec : SubSolver) : Prop :=
  ∀ g m s, Inv inst P dom lvl fx s → g ∈ dom → Below inst lvl s g → cfg.overflowDepth < D + s.stack.length →
    (rec g m s).sat (fun r s' =>
      Inv inst P dom lvl fx s' ∧ Step inst P s s' r.2 ∧ MinLe r.2 m ∧ Fact inst P s s' r.2 g r.1 ∧
      LinkOK lvl s' (lvl g) s.graph.length m r.2)
      (BudgetPanic (fun k v => Holds P v k) cfg)

section
variable {inst : Instance} {P : Nat → Prop} {dom : List Nat} {lvl : Nat → Nat} {fx : Bool} {rec : SubSolver} {cfg : Cfg} {D : Nat}

theorem GTop.step {s s' : St} {m : Min} {g : Nat} (h : GTop s g) (hs : Step inst P s s' m) : GTop s' g := by
  obtain ⟨i, n, d, hn, hg, hd, hl⟩ := h
  obtain ⟨new, hgr, _⟩ := hs.graph
  exact ⟨i, n, d, by rw [hgr]; exact getElem?_prefix hn, hg, hd, by rw [hs.stack.1]; exact hl⟩

theorem below_of_dep {s : St} (hi : Inv inst P dom lvl fx s) {g x : Nat} (ht : GTop s g)
    (hx : lvl x ≤ lvl g ∧ (lvl x = lvl g → inst.coind x = inst.coind g)) : Below inst lvl s x := by
  obtain ⟨i, n, d, hn, hg, hd, hl⟩ := ht
  intro i' n' d' hn' hd'
  have hlt := (hi.stk i' n' d' hn' hd').1
  have hc := hi.chain i' n' d' i n d hn' hd' hn hd (by omega)
  rw [hg] at hc
  refine ⟨Nat.le_trans hx.1 hc.1, fun e => ?_⟩
  have e1 : lvl x = lvl g := by omega
  have e2 : lvl g = lvl n'.goal := by omega
  rw [hx.2 e1, hc.2 e2]

/-- every node off the stack depends on a node on the stack that is not above it -/
theorem Inv.reach_stack {s : St} (hi : Inv inst P dom lvl fx s) : ∀ (b i : Nat) (n : Node), i < b →
    s.graph[i]? = some n → n.stackDepth = none →
    ∃ (i' : Nat) (n' : Node) (d' : Nat), s.graph[i']? = some n' ∧ n'.stackDepth = some d' ∧
      lvl n'.goal ≤ lvl n.goal
  | 0, _, _, h, _, _ => absurd h (Nat.not_lt_zero _)
  | b + 1, i, n, hb, hn, hd => by
    obtain ⟨l, hl, hlt⟩ := hi.nonstk i n hn hd
    obtain ⟨n'', hn'', hle⟩ := hi.lvlLinks i n l hn hd hl
    cases hsd : n''.stackDepth with
    | some d'' => exact ⟨l, n'', d'', hn'', hsd, hle⟩
    | none =>
      obtain ⟨i', n', d', h1, h2, h3⟩ := hi.reach_stack b l n'' (by omega) hn'' hsd
      exact ⟨i', n', d', h1, h2, Nat.le_trans h3 hle⟩

/-- a justified answer of a goal strictly below the top of the stack is exact -/
theorem Wit.exact {s : St} (hi : Inv inst P dom lvl fx s) {g x : Nat} (ht : GTop s g) (hlt : lvl x < lvl g)
    {lb : Min} {v : V} (h : Wit inst P s lb v x) : Holds P v x := by
  cases h with
  | inl h => exact h
  | inr h =>
    exfalso
    obtain ⟨i, n, hn, hgo, _, _, _, _⟩ := h
    obtain ⟨ig, ng, dg, hng, hgg, hdg, hlg⟩ := ht
    cases hsd : n.stackDepth with
    | some d =>
      have hd := (hi.stk i n d hn hsd).1
      have hc := hi.chain i n d ig ng dg hn hsd hng hdg (by omega)
      rw [hgg, hgo] at hc
      omega
    | none =>
      obtain ⟨i', n', d', h1, h2, h3⟩ := hi.reach_stack (i + 1) i n (Nat.lt_succ_self _) hn hsd
      have hd := (hi.stk i' n' d' h1 h2).1
      have hc := hi.chain i' n' d' ig ng dg h1 h2 hng hdg (by omega)
      rw [hgg] at hc
      rw [hgo] at h3
      omega

/-- the evaluation layer (`FixedPointEval.lean`) while `g` is on top of the stack, for sub-goals that a
    dependency of `g` may have (`B`: the part of the graph that is stable): `T` is the frame `Step` with a
    lowered minimum that is `LinkOK`, `F` is `Fact` -/
theorem evalSpec (h16 : fx = true → cfg.fixF16 = true) (hrec : SubSpec inst P dom lvl fx cfg D rec) (g B : Nat) :
    EvalSpec cfg rec
      (fun s => (Inv inst P dom lvl fx s ∧ cfg.overflowDepth < D + s.stack.length) ∧ GTop s g ∧ B ≤ s.graph.length)
      (fun x => x ∈ dom ∧ lvl x ≤ lvl g ∧ (lvl x = lvl g → inst.coind x = inst.coind g))
      (fun s m s' m' => Step inst P s s' m' ∧ MinLe m' m ∧ LinkOK lvl s' (lvl g) B m m') (Fact inst P)
      (BudgetPanic (fun k v => Holds P v k) cfg) where
  sub x m s hi hx :=
    (hrec x m s hi.1.1 hx.1 (below_of_dep hi.1.1 hi.2.1 hx.2) hi.1.2).imp (fun _ _ ⟨h1, h2, h3, h4, h5⟩ =>
      ⟨⟨⟨h1, by rw [h2.stack.1]; exact hi.1.2⟩, hi.2.1.step h2, Nat.le_trans hi.2.2 h2.graph_le⟩,
        ⟨h2, h3, h5.mono hx.2.1 hi.2.2⟩, h4⟩)
  refl s m := ⟨Step.refl s m, MinLe.refl m, Or.inl rfl⟩
  trans hi1 hi2 h1 h2 :=
    ⟨h1.1.trans h2.1 h2.2.1 hi1.1.1 hi2.1.1, h2.2.1.trans h1.2.1, (h1.2.2.step h2.1).trans h2.2.2⟩
  intr h := h.1.intr
  pre hi1 h1 hf := hf.pre h1.1 hi1.1.1
  post hf h2 := hf.post h2.1 h2.2.1
  ambig hf := hf.ambig
  unwrap s hi e e16 := by rw [fix_of_interrupted hi.1.1.fixes h16 e] at e16; cases e16

def IterFact (inst : Instance) (P : Nat → Prop) (s s' : St) (m' : Min) (g : Nat) (v : V) : Prop :=
  (v = topOf inst g ∧ JV inst v (Wit inst P s' m' v) g) ∨
  (v = botOf inst g ∧ JV inst v (fun x => Holds P v x ∧ (topOf inst x = topOf inst g → ¬ InG inst P s x)) g) ∨
  (v = .ambig ∧ s'.interrupted = true)

theorem iterFact_of (hyp : MHyp inst P dom lvl) {s s' : St} (hi' : Inv inst P dom lvl fx s') {m' : Min} {g : Nat}
    (hg : g ∈ dom) (ht : GTop s' g) {v : V}
    (h : (v = .unique ∧ ∃ alt, alt ∈ inst.deps g ∧ ∀ x, x ∈ alt → Fact inst P s s' m' x .unique) ∨
         (v = .noSolution ∧ ∀ alt, alt ∈ inst.deps g → ∃ x, x ∈ alt ∧ Fact inst P s s' m' x .noSolution) ∨
         (v = .ambig ∧ s'.interrupted = true)) :
    IterFact inst P s s' m' g v := by
  have hopt : v ≠ .ambig → v = topOf inst g → ∀ x, Fact inst P s s' m' x v → Wit inst P s' m' v x := by
    intro hna _ x hf
    rcases hf with h1 | h1 | h1
    · exact h1.2
    · exact Or.inl h1.2.1
    · exact absurd h1.1 hna
  have hpes : v ≠ .ambig → v = botOf inst g → ∀ alt, alt ∈ inst.deps g → ∀ x, x ∈ alt →
      Fact inst P s s' m' x v → Holds P v x ∧ (topOf inst x = topOf inst g → ¬ InG inst P s x) := by
    intro hna hv alt ha x hx hf
    rcases hf with h1 | h1 | h1
    · have hne : topOf inst x ≠ topOf inst g := by
        rw [← h1.1, hv]; exact (topOf_ne_botOf inst g).symm
      have hl := hyp.lvl_le g hg alt ha x hx
      have hlt : lvl x < lvl g := by
        rcases Nat.lt_or_ge (lvl x) (lvl g) with h2 | h2
        · exact h2
        · exact absurd ((topOf_eq_iff inst x g).mpr (hl.2 (Nat.le_antisymm hl.1 h2))) hne
      exact ⟨h1.2.exact hi' ht hlt, fun e => absurd e hne⟩
    · exact ⟨h1.2.1, fun _ => h1.2.2⟩
    · exact absurd h1.1 hna
  rcases h with h | h | h
  · obtain ⟨e, alt, ha, hall⟩ := h
    subst e
    have hv : V.unique = topOf inst g ∨ V.unique = botOf inst g := by
      unfold topOf botOf initialValue; cases inst.coind g <;> simp
    cases hv with
    | inl hv => exact Or.inl ⟨hv, alt, ha, fun x hx => hopt (by decide) hv x (hall x hx)⟩
    | inr hv => exact Or.inr (Or.inl ⟨hv, alt, ha, fun x hx => hpes (by decide) hv alt ha x hx (hall x hx)⟩)
  · obtain ⟨e, hall⟩ := h
    subst e
    have hv : V.noSolution = topOf inst g ∨ V.noSolution = botOf inst g := by
      unfold topOf botOf initialValue; cases inst.coind g <;> simp
    cases hv with
    | inl hv =>
      refine Or.inl ⟨hv, fun alt ha => ?_⟩
      obtain ⟨x, hx, hf⟩ := hall alt ha
      exact ⟨x, hx, hopt (by decide) hv x hf⟩
    | inr hv =>
      refine Or.inr (Or.inl ⟨hv, fun alt ha => ?_⟩)
      obtain ⟨x, hx, hf⟩ := hall alt ha
      exact ⟨x, hx, hpes (by decide) hv alt ha x hx hf⟩
  · exact Or.inr (Or.inr h)

theorem Inv.oracleChange {s : St} (hi : Inv inst P dom lvl fx s) (o : List Bool) (i : Bool)
    (hint : s.interrupted = true → i = true)
    (hq : QuietSt s → s.interrupted = false → o = [] ∧ i = false) :
    Inv inst P dom lvl fx { s with oracle := o, interrupted := i } :=
  ⟨hi.fixes.imp id (fun h => ⟨⟨(hq h.1 h.2).1, h.1.2⟩, (hq h.1 h.2).2⟩),
   fun k n hn ha => hint (hi.amb k n hn ha), hi.cacheOK, hi.stackNode, hi.chain, hi.nodup, hi.disj, hi.inDom,
   hi.val, hi.approx, hi.stk, hi.nonstk, hi.cnt, hi.just, hi.lvlLinks⟩

theorem Step.oracleChange (s : St) (o : List Bool) (i : Bool) (lb : Min)
    (hint : s.interrupted = true → i = true)
    (hq : QuietSt s → o = [] ∧ (s.interrupted = false → i = false)) :
    Step inst P s { s with oracle := o, interrupted := i } lb :=
  ⟨Frame.oracleChange s o i lb hint hq, fun _ hu hd => absurd hd (hu _)⟩

theorem solveIteration_spec (hyp : MHyp inst P dom lvl) (h3 : cfg.fixF3 = true) (h16 : fx = true → cfg.fixF16 = true)
    (hrec : SubSpec inst P dom lvl fx cfg D rec) (g : Nat) (hg : g ∈ dom) (m : Min) (s : St)
    (hi : Inv inst P dom lvl fx s) (ht : GTop s g) (hres : cfg.overflowDepth < D + s.stack.length) :
    (solveIteration inst cfg rec g m s).sat (fun r s' =>
      Inv inst P dom lvl fx s' ∧ Step inst P s s' r.2 ∧ MinLe r.2 m ∧ LinkOK lvl s' (lvl g) s.graph.length m r.2 ∧
      IterFact inst P s s' r.2 g r.1) (BudgetPanic (fun k v => Holds P v k) cfg) := by
  unfold solveIteration
  obtain ⟨b, o, hb, hq⟩ := shouldContinue_cases s
  rw [hb]
  have i1 : Inv inst P dom lvl fx { s with oracle := o } :=
    hi.oracleChange o s.interrupted id (fun q e => ⟨(hq q).2, e⟩)
  have st1 : Step inst P s { s with oracle := o } m :=
    Step.oracleChange s o s.interrupted m id (fun q => ⟨(hq q).2, id⟩)
  have ht1 : GTop { s with oracle := o } g := ht
  cases b with
  | false =>
    simp only [h3, if_true]
    exact ⟨hi.oracleChange o true (fun _ => rfl) (fun q _ => by cases (hq q).1),
      Step.oracleChange s o true _ (fun _ => rfl) (fun q => by cases (hq q).1), MinLe.refl _, Or.inl rfl,
      Or.inr (Or.inr ⟨rfl, rfl⟩)⟩
  | true =>
    simp only [hyp.ground g hg]
    refine (solveFromClauses_eval (evalSpec h16 hrec g s.graph.length) (inst.deps g) none m _
      ⟨⟨i1, hres⟩, ht1, Nat.le_refl _⟩ (Or.inl rfl)
      (fun alt ha x hx => ⟨hyp.closed g hg alt ha x hx, hyp.lvl_le g hg alt ha x hx⟩)).imp ?_
    rintro r s' ⟨hi1, ⟨hs1, hle1, hk1⟩, hres⟩
    refine ⟨hi1.1.1, st1.trans hs1 hle1 i1 hi1.1.1, hle1, hk1, iterFact_of hyp hi1.1.1 hg hi1.2.1 ?_⟩
    rcases hres with h1 | h1 | h1
    · obtain ⟨hv, alt, ha, hall⟩ := h1
      exact Or.inl ⟨hv, alt, ha, fun x hx => (hall x hx).pre st1 i1⟩
    · refine Or.inr (Or.inl ⟨h1.1, fun alt ha => ?_⟩)
      obtain ⟨x, hx, hf⟩ := h1.2.2 alt ha
      exact ⟨x, hx, hf.pre st1 i1⟩
    · exact Or.inr (Or.inr h1)

end

end Chalk.FixedPoint.Mix
