/-
  Structural properties of hypotheses in the declarative semantics of `Sem.lean`, for ALL programs (both strata, any
  `coind`): weakening, cut, "a ground hypothesis is exactly an added program fact".  Helpers for `Props/C06sem.lean`.
-/
import ChalkModel.Lemmas.GenericLemmas

namespace Chalk.Sem

mutual
  def Tm.ground : Tm → Prop
    | .app _ args => args.ground
    | .var _ => False
  def Tms.ground : Tms → Prop
    | .nil => True
    | .cons t ts => t.ground ∧ ts.ground
end

def Atom.ground (a : Atom) : Prop := a.args.ground

mutual
  def Tm.groundB : Tm → Bool
    | .app _ args => args.groundB
    | .var _ => false
  def Tms.groundB : Tms → Bool
    | .nil => true
    | .cons t ts => t.groundB && ts.groundB
end

def Atom.groundB (a : Atom) : Bool := a.args.groundB

mutual
  theorem Tm.ground_of_groundB : (t : Tm) → t.groundB = true → t.ground
    | .var _, h => by simp [Tm.groundB] at h
    | .app _ args, h => by
        simp only [Tm.groundB] at h
        simp only [Tm.ground]
        exact Tms.ground_of_groundB args h
  theorem Tms.ground_of_groundB : (ts : Tms) → ts.groundB = true → ts.ground
    | .nil, _ => by simp [Tms.ground]
    | .cons t ts, h => by
        simp only [Tms.groundB, Bool.and_eq_true] at h
        simp only [Tms.ground]
        exact ⟨Tm.ground_of_groundB t h.1, Tms.ground_of_groundB ts h.2⟩
end

theorem Atom.ground_of_groundB (a : Atom) (h : a.groundB = true) : a.ground :=
  Tms.ground_of_groundB a.args h

mutual
  theorem Tm.inst_ground (σ : Nat → Tm) : (t : Tm) → t.ground → t.inst σ = t
    | .var _, h => by simp [Tm.ground] at h
    | .app c args, h => by
        simp only [Tm.ground] at h
        simp only [Tm.inst]
        rw [Tms.inst_ground σ args h]
  theorem Tms.inst_ground (σ : Nat → Tm) : (ts : Tms) → ts.ground → ts.inst σ = ts
    | .nil, _ => by simp [Tms.inst]
    | .cons t ts, h => by
        simp only [Tms.ground] at h
        simp only [Tms.inst]
        rw [Tm.inst_ground σ t h.1, Tms.inst_ground σ ts h.2]
end

theorem Atom.inst_ground (σ : Nat → Tm) (a : Atom) (h : a.ground) : a.inst σ = a := by
  cases a with
  | mk p args =>
    simp only [Atom.inst]
    rw [Tms.inst_ground σ args h]

/-- hypotheses for inductive predicates are never used by the coinductive stratum -/
theorem CoHolds.cut {P : Program} {Γ Δ : List Atom}
    (hΓ : ∀ h, h ∈ Γ → P.coind h.pred = true → CoHolds P Δ h) {a : Atom}
    (h : CoHolds P Γ a) : CoHolds P Δ a :=
  h.sim (f := id) (R := fun _ => True) (fun _ _ => rfl) (fun x _ => hΓ x)
    (fun _ _ _ _ hXY hv => Or.inr (hv.mono fun b hb => hXY b hb trivial)) trivial

theorem Holds.cut {P : Program} {Γ Δ : List Atom} (hΓ : ∀ h, h ∈ Γ → Holds P Δ h) {a : Atom}
    (h : Holds P Γ a) : Holds P Δ a :=
  h.sim_id (fun _ => rfl) hΓ fun _ _ => Or.inr

theorem CoHolds.weaken {P : Program} {Γ Δ : List Atom} (hsub : ∀ a, a ∈ Γ → a ∈ Δ) {a : Atom}
    (h : CoHolds P Γ a) : CoHolds P Δ a :=
  h.cut fun x hx hco => .of_mem hco (hsub x hx)

theorem Holds.weaken {P : Program} {Γ Δ : List Atom} (hsub : ∀ a, a ∈ Γ → a ∈ Δ) {a : Atom}
    (h : Holds P Γ a) : Holds P Δ a :=
  h.cut fun x hx => .of_mem (hsub x hx)

theorem GHolds.cut {P : Program} : (g : Goal) → g.Positive → (Γ Δ : List Atom) →
    (∀ h, h ∈ Γ → Holds P Δ h) → GHolds P Γ g → GHolds P Δ g
  | .atom _, _, _, _, hΓ, h => Holds.cut hΓ h
  | .tt, _, _, _, _, _ => trivial
  | .and g h, hp, Γ, Δ, hΓ, hh => ⟨GHolds.cut g hp.1 Γ Δ hΓ hh.1, GHolds.cut h hp.2 Γ Δ hΓ hh.2⟩
  | .implies hyps g, hp, Γ, Δ, hΓ, hh => by
      refine GHolds.cut g hp (hyps ++ Γ) (hyps ++ Δ) (fun a ha => ?_) hh
      rcases List.mem_append.mp ha with ha | ha
      · exact Holds.of_mem (List.mem_append_left _ ha)
      · exact Holds.weaken (fun x hx => List.mem_append_right _ hx) (hΓ a ha)
  | .not _, hp, _, _, _, _ => hp.elim
  | .eq _ _, _, _, _, _, h => h

theorem GHolds.weaken {P : Program} (g : Goal) (hp : g.Positive) (Γ Δ : List Atom)
    (hsub : ∀ a, a ∈ Γ → a ∈ Δ) : GHolds P Γ g → GHolds P Δ g :=
  GHolds.cut g hp Γ Δ fun x hx => .of_mem (hsub x hx)

theorem GHolds.congr_mem {P : Program} (g : Goal) (Γ Δ : List Atom) :
    (∀ a, a ∈ Γ ↔ a ∈ Δ) → (GHolds P Γ g ↔ GHolds P Δ g) :=
  GHolds.congr (R := fun _ => True) (fun Γ Δ => ∀ a, a ∈ Γ ↔ a ∈ Δ)
    (fun _ _ _ h a => by simp only [List.mem_append, h a])
    (fun _ _ _ h _ => ⟨Holds.weaken fun a => (h a).mp, Holds.weaken fun a => (h a).mpr⟩)
    g (goalIn_of_forall (fun _ => trivial) g) Γ Δ

def Program.addFact (P : Program) (h : Atom) : Program := { P with clauses := ⟨h, []⟩ :: P.clauses }

def Program.addFacts (P : Program) : List Atom → Program
  | [] => P
  | h :: hs => (P.addFact h).addFacts hs

@[simp] theorem Program.addFact_coind (P : Program) (h : Atom) : (P.addFact h).coind = P.coind := rfl

theorem ViaClause.addFact {P : Program} {X : Atom → Prop} {a : Atom} (h : Atom) (hv : ViaClause P X a) :
    ViaClause (P.addFact h) X a := by
  obtain ⟨c, hc, σ, hs, hb⟩ := hv
  exact ⟨c, List.mem_cons_of_mem _ hc, σ, hs, hb⟩

theorem ViaClause.fact {P : Program} {X : Atom → Prop} {h : Atom} (hg : h.ground) :
    ViaClause (P.addFact h) X h :=
  ⟨⟨h, []⟩, List.mem_cons_self, fun i => .var i, Atom.inst_ground _ h hg, fun _ hb => nomatch hb⟩

theorem ViaClause.of_addFact {P : Program} {X : Atom → Prop} {a h : Atom} (hv : ViaClause (P.addFact h) X a) :
    (∃ σ : Nat → Tm, h.inst σ = a) ∨ ViaClause P X a := by
  obtain ⟨c, hc, σ, hs, hb⟩ := hv
  rcases List.mem_cons.mp hc with rfl | hc
  · exact Or.inl ⟨σ, hs⟩
  · exact Or.inr ⟨c, hc, σ, hs, hb⟩

theorem Holds.fact {P : Program} {Γ : List Atom} {h : Atom} (hg : h.ground) : Holds (P.addFact h) Γ h := by
  cases hco : P.coind h.pred with
  | true =>
    exact Holds.closed (Or.inr (Or.inl ⟨hco, (coHolds_unfold _ Γ h).mpr ⟨hco, Or.inr (.fact hg)⟩⟩))
  | false => exact Holds.closed (Or.inr (Or.inr ⟨hco, .fact hg⟩))

theorem holds_hyp_iff_fact {P : Program} {Γ' Γ : List Atom} {h : Atom} (hg : h.ground)
    (hmem : ∀ x, x ∈ Γ' ↔ x = h ∨ x ∈ Γ) (a : Atom) :
    Holds P Γ' a ↔ Holds (P.addFact h) Γ a := by
  constructor
  · refine Holds.sim_id (P := P) (Q := P.addFact h) (fun _ => rfl) (fun x hx => ?_)
      (fun _ _ hv => Or.inr (hv.addFact h))
    rcases (hmem x).mp hx with rfl | hx
    · exact Holds.fact hg
    · exact Holds.of_mem hx
  · refine Holds.sim_id (P := P.addFact h) (Q := P) (fun _ => rfl)
      (fun x hx => .of_mem ((hmem x).mpr (Or.inr hx)))
      (fun _ x hv => hv.of_addFact.imp (fun ⟨σ, hσ⟩ => (hmem x).mpr (Or.inl ?_)) id)
    rw [← hσ, Atom.inst_ground σ h hg]

theorem coHolds_hyp_iff_fact {P : Program} {Γ' Γ : List Atom} {h : Atom} (hg : h.ground)
    (hmem : ∀ x, x ∈ Γ' ↔ x = h ∨ x ∈ Γ) (a : Atom) :
    CoHolds P Γ' a ↔ CoHolds (P.addFact h) Γ a :=
  coHolds_iff_of_holds_iff (P := P.addFact h) rfl (holds_hyp_iff_fact hg hmem a)

/-- an equivalence, so that negation is covered -/
theorem gholds_hyp_iff_fact {P : Program} {h : Atom} (hg : h.ground) (g : Goal) (Γ' Γ : List Atom) :
    (∀ x, x ∈ Γ' ↔ x = h ∨ x ∈ Γ) → (GHolds P Γ' g ↔ GHolds (P.addFact h) Γ g) :=
  GHolds.congr (R := fun _ => True) (fun Γ' Γ => ∀ x, x ∈ Γ' ↔ x = h ∨ x ∈ Γ)
    (fun _ _ _ hm x => by simp only [List.mem_append, hm x]; exact or_left_comm)
    (fun _ _ a hm _ => holds_hyp_iff_fact hg hm a) g (goalIn_of_forall (fun _ => trivial) g) Γ' Γ

end Chalk.Sem
