import ChalkModel.Lemmas.SFoldLemmas

/-!
  The value computed by a stateful fold is determined by its FINAL state: if every leaf handler is
  "stable" — what it returned keeps being what the stateless folder `g s''` returns for that leaf,
  for every later state `s''` — then the whole result is `fold (g s'')` of the input for every state
  `s''` at or after the final one.
-/
namespace Chalk

section Final
variable {σ : Type}

def FinalRes {α : Type} (le : σ → σ → Prop) (P : σ → α → Prop) (s : σ) (r : Res (α × σ)) : Prop :=
  ∀ a s', r = .ok (a, s') → le s s' ∧ ∀ s'', le s' s'' → P s'' a

theorem FinalRes.pure {α : Type} {le : σ → σ → Prop} {P : σ → α → Prop} {s s1 : σ} {a : α}
    (h : le s s1) (hp : ∀ s'', le s1 s'' → P s'' a) : FinalRes le P s (.ok (a, s1)) := by
  intro a' s' he; cases he; exact ⟨h, hp⟩

theorem FinalRes.bind {α β : Type} {le : σ → σ → Prop} (trans : ∀ a b c, le a b → le b c → le a c)
    {P1 : σ → α → Prop} {P2 : σ → β → Prop} {s : σ}
    {x : Res (α × σ)} {k : α → σ → Res (β × σ)} (hx : FinalRes le P1 s x)
    (hk : ∀ a s1, le s s1 → (∀ s'', le s1 s'' → P1 s'' a) → FinalRes le P2 s1 (k a s1)) :
    FinalRes le P2 s (bindS x k) := by
  intro r s' h
  obtain ⟨a, s1, h1, h2⟩ := bindS_eq_ok.mp h
  obtain ⟨hb, hc⟩ := hx a s1 h1
  obtain ⟨hb', hc'⟩ := hk a s1 hb hc r s' h2
  exact ⟨trans _ _ _ hb hb', hc'⟩

theorem FinalRes.map {α β : Type} {le : σ → σ → Prop} (refl : ∀ s, le s s)
    (trans : ∀ a b c, le a b → le b c → le a c) {P1 : σ → α → Prop} {P2 : σ → β → Prop} {s : σ}
    {x : Res (α × σ)} {c : α → β} (hx : FinalRes le P1 s x) (hP : ∀ s'' a, P1 s'' a → P2 s'' (c a)) :
    FinalRes le P2 s (bindS x fun a s1 => .ok (c a, s1)) :=
  FinalRes.bind trans hx fun a _ _ ha => FinalRes.pure (refl _) fun s'' hs => hP s'' a (ha s'' hs)

theorem FinalRes.map₂ {α β γ : Type} {le : σ → σ → Prop} (refl : ∀ s, le s s)
    (trans : ∀ a b c, le a b → le b c → le a c) {P1 : σ → α → Prop} {P2 : σ → β → Prop} {P3 : σ → γ → Prop}
    {s : σ} {x : Res (α × σ)} {y : σ → Res (β × σ)} {c : α → β → γ} (hx : FinalRes le P1 s x)
    (hy : ∀ s1, FinalRes le P2 s1 (y s1)) (hP : ∀ s'' a b, P1 s'' a → P2 s'' b → P3 s'' (c a b)) :
    FinalRes le P3 s (bindS x fun a s1 => bindS (y s1) fun b s2 => .ok (c a b, s2)) :=
  FinalRes.bind trans hx fun a s1 _ ha => FinalRes.bind trans (hy s1) fun b _ h2 hb =>
    FinalRes.pure (refl _) fun s'' hs => hP s'' a b (ha s'' (trans _ _ _ h2 hs)) (hb s'' hs)

structure FinalHandlers (le : σ → σ → Prop) (g : σ → Folder) (f : SFolder σ) : Prop where
  refl : ∀ s, le s s
  trans : ∀ a b c, le a b → le b c → le a c
  freeVarTy : ∀ db idx o s,
    FinalRes le (fun s'' a => foldTy (g s'') o (.bound (db + o) idx) = .ok a) s (f.freeVarTy db idx o s)
  freeVarLt : ∀ db idx o s,
    FinalRes le (fun s'' a => foldLifetime (g s'') o (.bound (db + o) idx) = .ok a) s (f.freeVarLt db idx o s)
  freeVarConst : ∀ ty db idx o s,
    FinalRes le (fun s'' a => foldConst (g s'') o (.mk ty (.bound (db + o) idx)) = .ok a) s (f.freeVarConst ty db idx o s)
  inferTy : ∀ v k o s, FinalRes le (fun s'' a => foldTy (g s'') o (.infer v k) = .ok a) s (f.inferTy v k o s)
  inferLt : ∀ v o s, FinalRes le (fun s'' a => foldLifetime (g s'') o (.infer v) = .ok a) s (f.inferLt v o s)
  inferConst : ∀ ty v o s,
    FinalRes le (fun s'' a => foldConst (g s'') o (.mk ty (.infer v)) = .ok a) s (f.inferConst ty v o s)
  phTy : ∀ ui idx o s, FinalRes le (fun s'' a => foldTy (g s'') o (.placeholder ui idx) = .ok a) s (f.phTy ui idx o s)
  phLt : ∀ ui idx o s, FinalRes le (fun s'' a => foldLifetime (g s'') o (.placeholder ui idx) = .ok a) s (f.phLt ui idx o s)
  /-- const placeholders when the method receives the type unfolded.  Only this handler has two
      cases: the one folder used here that leaves a const method to the trait default is the
      `Inverter`, for placeholders; for free and inference variables the flag must be `false`. -/
  phConstN : f.foldsPhConstTy = false → ∀ ty ui idx o s,
    FinalRes le (fun s'' a => foldConst (g s'') o (.mk ty (.placeholder ui idx)) = .ok a) s (f.phConst ty ui idx o s)
  /-- ... and when it is the trait default and receives the folded type `ty'` -/
  phConstF : f.foldsPhConstTy = true → ∀ ty ty' ui idx o s,
    FinalRes le (fun s'' a => foldTy (g s'') o ty = .ok ty' →
      foldConst (g s'') o (.mk ty (.placeholder ui idx)) = .ok a) s (f.phConst ty' ui idx o s)
  noFreeVarFold : f.foldsFreeVarConstTy = false
  noInferFold : f.foldsInferConstTy = false

variable {le : σ → σ → Prop} {g : σ → Folder} {f : SFolder σ}

theorem sfoldLifetime_final (H : FinalHandlers le g f) (o : Nat) (l : Lifetime) (s : σ) :
    FinalRes le (fun s'' a => foldLifetime (g s'') o l = .ok a) s (sfoldLifetime f o l s) := by
  cases l with
  | bound db idx =>
    simp only [sfoldLifetime]
    split
    · rename_i hd
      have := H.freeVarLt (db - o) idx o s
      rwa [Nat.sub_add_cancel hd] at this
    · rename_i hd
      exact FinalRes.pure (H.refl _) fun s'' _ => by simp [foldLifetime, hd]
  | infer v => exact H.inferLt _ _ _
  | placeholder ui idx => exact H.phLt _ _ _ _
  | static => exact FinalRes.pure (H.refl _) fun s'' _ => rfl
  | erased => exact FinalRes.pure (H.refl _) fun s'' _ => rfl
  | error => exact FinalRes.pure (H.refl _) fun s'' _ => rfl

mutual
  theorem sfoldTy_final (H : FinalHandlers le g f) (o : Nat) : (t : Ty) → (s : σ) →
      FinalRes le (fun s'' a => foldTy (g s'') o t = .ok a) s (sfoldTy f o t s)
    | .app n args => fun s =>
        FinalRes.map H.refl H.trans (sfoldArgs_final H o args s) fun _ _ ha => by
          show _ = _; rw [foldTy_app, ha]; rfl
    | .scalar sc => fun s => FinalRes.pure (H.refl _) fun s'' _ => rfl
    | .str => fun s => FinalRes.pure (H.refl _) fun s'' _ => rfl
    | .never => fun s => FinalRes.pure (H.refl _) fun s'' _ => rfl
    | .foreign id => fun s => FinalRes.pure (H.refl _) fun s'' _ => rfl
    | .error => fun s => FinalRes.pure (H.refl _) fun s'' _ => rfl
    | .array t c => fun s =>
        FinalRes.map₂ H.refl H.trans (sfoldTy_final H o t s) (sfoldConst_final H o c) fun _ _ _ ha hb => by
          show _ = _; rw [foldTy_array, ha, hb]; rfl
    | .slice t => fun s =>
        FinalRes.map H.refl H.trans (sfoldTy_final H o t s) fun _ _ ha => by
          show _ = _; rw [foldTy_slice, ha]; rfl
    | .raw m t => fun s =>
        FinalRes.map H.refl H.trans (sfoldTy_final H o t s) fun _ _ ha => by
          show _ = _; rw [foldTy_raw, ha]; rfl
    | .ref m l t => fun s =>
        FinalRes.map₂ H.refl H.trans (sfoldLifetime_final H o l s) (sfoldTy_final H o t) fun _ _ _ ha hb => by
          show _ = _; rw [foldTy_ref, ha, hb]; rfl
    | .placeholder ui idx => fun s => H.phTy _ _ _ _
    | .dyn kinds bounds l => fun s =>
        FinalRes.map₂ H.refl H.trans (sfoldQWCs_final H (o + 1) bounds s) (sfoldLifetime_final H o l) fun _ _ _ ha hb => by
          show _ = _; rw [foldTy_dyn, ha, hb]; rfl
    | .proj id args => fun s =>
        FinalRes.map H.refl H.trans (sfoldArgs_final H o args s) fun _ _ ha => by
          show _ = _; rw [foldTy_proj, ha]; rfl
    | .opaque id args => fun s =>
        FinalRes.map H.refl H.trans (sfoldArgs_final H o args s) fun _ _ ha => by
          show _ = _; rw [foldTy_opaque, ha]; rfl
    | .function nb sig args => fun s =>
        FinalRes.map H.refl H.trans (sfoldArgs_final H (o + 1) args s) fun _ _ ha => by
          show _ = _; rw [foldTy_function, ha]; rfl
    | .bound db idx => fun s => by
        simp only [sfoldTy]
        split
        · rename_i hd
          have := H.freeVarTy (db - o) idx o s
          rwa [Nat.sub_add_cancel hd] at this
        · rename_i hd
          exact FinalRes.pure (H.refl _) fun s'' _ => by simp [foldTy, hd]
    | .infer v k => fun s => H.inferTy _ _ _ _
  theorem sfoldConst_final (H : FinalHandlers le g f) (o : Nat) : (c : Const) → (s : σ) →
      FinalRes le (fun s'' a => foldConst (g s'') o c = .ok a) s (sfoldConst f o c s)
    | .mk ty (.bound db idx) => fun s => by
        simp only [sfoldConst, H.noFreeVarFold]
        split
        · rename_i hd
          have := H.freeVarConst ty (db - o) idx o s
          rw [Nat.sub_add_cancel hd] at this
          simpa using this
        · rename_i hd
          exact FinalRes.pure (H.refl _) fun s'' _ => by simp [foldConst, hd]
    | .mk ty (.infer v) => fun s => by
        simp only [sfoldConst, H.noInferFold]
        simpa using H.inferConst ty v o s
    | .mk ty (.placeholder ui idx) => fun s => by
        simp only [sfoldConst]
        cases hflag : f.foldsPhConstTy with
        | false => simpa using H.phConstN hflag ty ui idx o s
        | true =>
          simp only [if_true]
          exact FinalRes.bind H.trans (sfoldTy_final H o ty s) fun ty' s1 _ ha => by
            intro a s' he
            obtain ⟨h1, h2⟩ := H.phConstF hflag ty ty' ui idx o s1 a s' he
            exact ⟨h1, fun s'' hs => h2 s'' hs (ha s'' (H.trans _ _ _ h1 hs))⟩
    | .mk ty (.concrete k) => fun s =>
        FinalRes.map H.refl H.trans (sfoldTy_final H o ty s) fun _ _ ha => by
          show _ = _; rw [foldConst_concrete, ha]; rfl
  theorem sfoldGArg_final (H : FinalHandlers le g f) (o : Nat) : (x : GArg) → (s : σ) →
      FinalRes le (fun s'' a => foldGArg (g s'') o x = .ok a) s (sfoldGArg f o x s)
    | .ty t => fun s =>
        FinalRes.map H.refl H.trans (sfoldTy_final H o t s) fun _ _ ha => by
          show _ = _; rw [foldGArg_ty, ha]; rfl
    | .lt l => fun s =>
        FinalRes.map H.refl H.trans (sfoldLifetime_final H o l s) fun _ _ ha => by
          show _ = _; rw [foldGArg_lt, ha]; rfl
    | .ct c => fun s =>
        FinalRes.map H.refl H.trans (sfoldConst_final H o c s) fun _ _ ha => by
          show _ = _; rw [foldGArg_ct, ha]; rfl
  theorem sfoldArgs_final (H : FinalHandlers le g f) (o : Nat) : (as : Args) → (s : σ) →
      FinalRes le (fun s'' a => foldArgs (g s'') o as = .ok a) s (sfoldArgs f o as s)
    | .nil => fun s => FinalRes.pure (H.refl _) fun s'' _ => rfl
    | .cons x as => fun s =>
        FinalRes.map₂ H.refl H.trans (sfoldGArg_final H o x s) (sfoldArgs_final H o as) fun _ _ _ ha hb => by
          show _ = _; rw [foldArgs_cons, ha, hb]; rfl
  theorem sfoldWC_final (H : FinalHandlers le g f) (o : Nat) : (w : WC) → (s : σ) →
      FinalRes le (fun s'' a => foldWC (g s'') o w = .ok a) s (sfoldWC f o w s)
    | .implemented tr args => fun s =>
        FinalRes.map H.refl H.trans (sfoldArgs_final H o args s) fun _ _ ha => by
          show _ = _; rw [foldWC_implemented, ha]; rfl
    | .aliasEqProj id args ty => fun s =>
        FinalRes.map₂ H.refl H.trans (sfoldArgs_final H o args s) (sfoldTy_final H o ty) fun _ _ _ ha hb => by
          show _ = _; rw [foldWC_aliasEqProj, ha, hb]; rfl
    | .aliasEqOpaque id args ty => fun s =>
        FinalRes.map₂ H.refl H.trans (sfoldArgs_final H o args s) (sfoldTy_final H o ty) fun _ _ _ ha hb => by
          show _ = _; rw [foldWC_aliasEqOpaque, ha, hb]; rfl
    | .ltOutlives x y => fun s =>
        FinalRes.map₂ H.refl H.trans (sfoldLifetime_final H o x s) (sfoldLifetime_final H o y) fun _ _ _ ha hb => by
          show _ = _; rw [foldWC_ltOutlives, ha, hb]; rfl
    | .tyOutlives t l => fun s =>
        FinalRes.map₂ H.refl H.trans (sfoldTy_final H o t s) (sfoldLifetime_final H o l) fun _ _ _ ha hb => by
          show _ = _; rw [foldWC_tyOutlives, ha, hb]; rfl
  theorem sfoldQWC_final (H : FinalHandlers le g f) (o : Nat) : (q : QWC) → (s : σ) →
      FinalRes le (fun s'' a => foldQWC (g s'') o q = .ok a) s (sfoldQWC f o q s)
    | .mk kinds wc => fun s =>
        FinalRes.map H.refl H.trans (sfoldWC_final H (o + 1) wc s) fun _ _ ha => by
          show _ = _; rw [foldQWC_mk, ha]; rfl
  theorem sfoldQWCs_final (H : FinalHandlers le g f) (o : Nat) : (qs : QWCs) → (s : σ) →
      FinalRes le (fun s'' a => foldQWCs (g s'') o qs = .ok a) s (sfoldQWCs f o qs s)
    | .nil => fun s => FinalRes.pure (H.refl _) fun s'' _ => rfl
    | .cons q qs => fun s =>
        FinalRes.map₂ H.refl H.trans (sfoldQWC_final H o q s) (sfoldQWCs_final H o qs) fun _ _ _ ha hb => by
          show _ = _; rw [foldQWCs_cons, ha, hb]; rfl
end

end Final

end Chalk
