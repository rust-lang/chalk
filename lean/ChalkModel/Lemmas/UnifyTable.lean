/-
  The semantic order `Table.Le` ("`t'` is a sound refinement of `t`": every solution of `t'` is a
  solution of `t`, bound variables keep their values, classes only merge) and the table operations
  `newVariable`, `unifyVarValue`, `unifyVarVar` as instances of it.
-/
import ChalkModel.Lemmas.UnifyFind

namespace Chalk

/-! ## one predicate for "first-order, variables below n, arities respected" -/

mutual
  def Ty.good (ar : TyName → Nat) (n : Nat) : Ty → Bool
    | .app nm args => args.length == ar nm && args.good ar n
    | .scalar _ => true
    | .str => true
    | .never => true
    | .foreign _ => true
    | .placeholder _ _ => true
    | .slice t => t.good ar n
    | .raw _ t => t.good ar n
    | .infer v _ => decide (v < n)
    | _ => false
  def GArg.good (ar : TyName → Nat) (n : Nat) : GArg → Bool
    | .ty t => t.good ar n
    | _ => false
  def Args.good (ar : TyName → Nat) (n : Nat) : Args → Bool
    | .nil => true
    | .cons a as => a.good ar n && as.good ar n
end

mutual
  theorem Ty.good_iff (ar : TyName → Nat) (n : Nat) : (t : Ty) →
      (t.good ar n = true ↔ t.fo = true ∧ t.varsBelow n = true ∧ t.arityOk ar = true)
    | .app nm args => by
        simp only [Ty.good, Ty.fo, Ty.varsBelow, Ty.arityOk, Bool.and_eq_true, Args.good_iff ar n args]
        exact ⟨fun ⟨l, f, v, a⟩ => ⟨f, v, l, a⟩, fun ⟨f, v, l, a⟩ => ⟨l, f, v, a⟩⟩
    | .scalar _ => ⟨fun _ => ⟨rfl, rfl, rfl⟩, fun _ => rfl⟩
    | .str => ⟨fun _ => ⟨rfl, rfl, rfl⟩, fun _ => rfl⟩
    | .never => ⟨fun _ => ⟨rfl, rfl, rfl⟩, fun _ => rfl⟩
    | .foreign _ => ⟨fun _ => ⟨rfl, rfl, rfl⟩, fun _ => rfl⟩
    | .error => ⟨nofun, fun h => nomatch h.1⟩
    | .array _ _ => ⟨nofun, fun h => nomatch h.1⟩
    | .slice t => Ty.good_iff ar n t
    | .raw _ t => Ty.good_iff ar n t
    | .ref _ _ _ => ⟨nofun, fun h => nomatch h.1⟩
    | .placeholder _ _ => ⟨fun _ => ⟨rfl, rfl, rfl⟩, fun _ => rfl⟩
    | .dyn _ _ _ => ⟨nofun, fun h => nomatch h.1⟩
    | .proj _ _ => ⟨nofun, fun h => nomatch h.1⟩
    | .opaque _ _ => ⟨nofun, fun h => nomatch h.1⟩
    | .function _ _ _ => ⟨nofun, fun h => nomatch h.1⟩
    | .bound _ _ => ⟨nofun, fun h => nomatch h.1⟩
    | .infer _ _ => ⟨fun h => ⟨rfl, h, rfl⟩, fun h => h.2.1⟩
  theorem GArg.good_iff (ar : TyName → Nat) (n : Nat) : (a : GArg) →
      (a.good ar n = true ↔ a.fo = true ∧ a.varsBelow n = true ∧ a.arityOk ar = true)
    | .ty t => Ty.good_iff ar n t
    | .lt _ => ⟨nofun, fun h => nomatch h.1⟩
    | .ct _ => ⟨nofun, fun h => nomatch h.1⟩
  theorem Args.good_iff (ar : TyName → Nat) (n : Nat) : (a : Args) →
      (a.good ar n = true ↔ a.fo = true ∧ a.varsBelow n = true ∧ a.arityOk ar = true)
    | .nil => ⟨fun _ => ⟨rfl, rfl, rfl⟩, fun _ => rfl⟩
    | .cons a as => by
        simp only [Args.good, Args.fo, Args.varsBelow, Args.arityOk, Bool.and_eq_true,
          GArg.good_iff ar n a, Args.good_iff ar n as]
        exact ⟨fun ⟨⟨f, v, a⟩, f', v', a'⟩ => ⟨⟨f, f'⟩, ⟨v, v'⟩, a, a'⟩,
          fun ⟨⟨f, f'⟩, ⟨v, v'⟩, a, a'⟩ => ⟨⟨f, v, a⟩, f', v', a'⟩⟩
end

mutual
  theorem Ty.varsBelow_mono (n m : Nat) (hnm : n ≤ m) : (t : Ty) →
      t.varsBelow n = true → t.varsBelow m = true
    | .app _ args => Args.varsBelow_mono n m hnm args
    | .scalar _ => fun _ => rfl
    | .str => fun _ => rfl
    | .never => fun _ => rfl
    | .foreign _ => fun _ => rfl
    | .error => fun _ => rfl
    | .array _ _ => fun _ => rfl
    | .slice t => Ty.varsBelow_mono n m hnm t
    | .raw _ t => Ty.varsBelow_mono n m hnm t
    | .ref _ _ _ => fun _ => rfl
    | .placeholder _ _ => fun _ => rfl
    | .dyn _ _ _ => fun _ => rfl
    | .proj _ _ => fun _ => rfl
    | .opaque _ _ => fun _ => rfl
    | .function _ _ _ => fun _ => rfl
    | .bound _ _ => fun _ => rfl
    | .infer _ _ => fun h => decide_eq_true (Nat.lt_of_lt_of_le (of_decide_eq_true h) hnm)
  theorem GArg.varsBelow_mono (n m : Nat) (hnm : n ≤ m) : (a : GArg) →
      a.varsBelow n = true → a.varsBelow m = true
    | .ty t => Ty.varsBelow_mono n m hnm t
    | .lt _ => fun _ => rfl
    | .ct _ => fun _ => rfl
  theorem Args.varsBelow_mono (n m : Nat) (hnm : n ≤ m) : (a : Args) →
      a.varsBelow n = true → a.varsBelow m = true
    | .nil => fun _ => rfl
    | .cons a as => fun h => by
        rw [Args.varsBelow, Bool.and_eq_true] at h ⊢
        exact ⟨GArg.varsBelow_mono n m hnm a h.1, Args.varsBelow_mono n m hnm as h.2⟩
end

theorem Ty.good_mono (ar : TyName → Nat) (n m : Nat) (hnm : n ≤ m) (t : Ty)
    (h : t.good ar n = true) : t.good ar m = true := by
  rw [Ty.good_iff] at h ⊢; exact ⟨h.1, Ty.varsBelow_mono n m hnm t h.2.1, h.2.2⟩

theorem GArg.good_mono (ar : TyName → Nat) (n m : Nat) (hnm : n ≤ m) (a : GArg)
    (h : a.good ar n = true) : a.good ar m = true := by
  rw [GArg.good_iff] at h ⊢; exact ⟨h.1, GArg.varsBelow_mono n m hnm a h.2.1, h.2.2⟩

theorem Args.good_mono (ar : TyName → Nat) (n m : Nat) (hnm : n ≤ m) (a : Args)
    (h : a.good ar n = true) : a.good ar m = true := by
  rw [Args.good_iff] at h ⊢; exact ⟨h.1, Args.varsBelow_mono n m hnm a h.2.1, h.2.2⟩

theorem Args.length_cons (a : GArg) (as : Args) : (Args.cons a as).length = as.length + 1 := by
  simp [Args.length, Args.toList]

theorem Args.length_nil : Args.nil.length = 0 := rfl

def Table.goodValues (ar : TyName → Nat) (t : Table) : Prop :=
  ∀ v g, v < t.numVars → t.probeVar v = some g → ∃ ty, g = .ty ty ∧ ty.good ar t.numVars = true

theorem Table.goodValues_iff (ar : TyName → Nat) (t : Table) :
    t.goodValues ar ↔ t.foValues ∧ t.arityValues ar := by
  constructor
  · intro h
    refine ⟨?_, ?_⟩
    · intro v g hv hp
      obtain ⟨ty, rfl, hty⟩ := h v g hv hp
      have := (Ty.good_iff ar _ ty).mp hty
      exact ⟨ty, rfl, this.1, this.2.1⟩
    · intro v ty hv hp
      obtain ⟨ty', he, hty⟩ := h v _ hv hp
      cases he
      exact ((Ty.good_iff ar _ ty).mp hty).2.2
  · rintro ⟨h1, h2⟩ v g hv hp
    obtain ⟨ty, rfl, hfo, hvb⟩ := h1 v g hv hp
    exact ⟨ty, rfl, (Ty.good_iff ar _ ty).mpr ⟨hfo, hvb, h2 v ty hv hp⟩⟩

structure Table.Good (ar : TyName → Nat) (t : Table) : Prop where
  wf : t.WF
  vals : t.goodValues ar

structure Table.Le (ar : TyName → Nat) (t t' : Table) : Prop where
  good : t'.Good ar
  numVars : t.numVars ≤ t'.numVars
  maxU : t'.maxUniverse = t.maxUniverse
  models : ∀ θ, t'.Models θ → t.Models θ
  probe : ∀ v g, v < t.numVars → t.probeVar v = some g → t'.probeVar v = some g
  find : ∀ x y, x < t.numVars → y < t.numVars → t.find x = t.find y → t'.find x = t'.find y

theorem Table.Le.refl {ar : TyName → Nat} {t : Table} (h : t.Good ar) : t.Le ar t :=
  ⟨h, Nat.le_refl _, rfl, fun _ h => h, fun _ _ _ h => h, fun _ _ _ _ h => h⟩

theorem Table.Le.trans {ar : TyName → Nat} {t1 t2 t3 : Table} (h12 : t1.Le ar t2) (h23 : t2.Le ar t3) :
    t1.Le ar t3 :=
  ⟨h23.good, Nat.le_trans h12.numVars h23.numVars, by rw [h23.maxU, h12.maxU],
   fun θ h => h12.models θ (h23.models θ h),
   fun v g hv h => h23.probe v g (Nat.lt_of_lt_of_le hv h12.numVars) (h12.probe v g hv h),
   fun x y hx hy h => h23.find x y (Nat.lt_of_lt_of_le hx h12.numVars) (Nat.lt_of_lt_of_le hy h12.numVars)
     (h12.find x y hx hy h)⟩

theorem Table.Le_of {ar : TyName → Nat} {t t' : Table} (hg : t.Good ar) (hwf' : t'.WF)
    (hn : t'.numVars = t.numVars) (hmu : t'.maxUniverse = t.maxUniverse)
    (hfind : ∀ x y, x < t.numVars → y < t.numVars → t.find x = t.find y → t'.find x = t'.find y)
    (hprobe : ∀ v g, v < t.numVars → t.probeVar v = some g → t'.probeVar v = some g)
    (hnew : ∀ v g, v < t.numVars → t'.probeVar v = some g → ∃ T, g = .ty T ∧ T.good ar t.numVars = true) :
    t.Le ar t' := by
  refine ⟨⟨hwf', ?_⟩, by omega, hmu, ?_, hprobe, hfind⟩
  · intro v g hv hp
    rw [hn] at hv ⊢
    exact hnew v g hv hp
  · intro θ ⟨hm1, hm2⟩
    refine ⟨?_, ?_⟩
    · intro v hv
      have hfv := t.find_lt hg.wf v hv
      have e1 := hm1 v (by rw [hn]; exact hv)
      have e2 := hm1 (t.find v) (by rw [hn]; exact hfv)
      have e3 := hfind (t.find v) v hfv hv (t.find_find hg.wf v hv)
      rw [e1, e2, e3]
    · intro v ty hv hp
      exact hm2 v ty (by rw [hn]; exact hv) (hprobe v _ hv hp)

theorem Table.newVariable_Le {ar : TyName → Nat} (t : Table) (ui : Nat) (hg : t.Good ar) :
    t.Le ar (t.newVariable ui).1 := by
  have hwf' := t.newVariable_WF ui hg.wf
  have hn := t.newVariable_numVars ui
  refine ⟨⟨hwf', ?_⟩, by omega, rfl, ?_, ?_, ?_⟩
  · intro v g hv hp
    obtain ⟨hlt, hp⟩ := t.newVariable_probeVar_some ui hg.wf hv hp
    obtain ⟨ty, he, hty⟩ := hg.vals v g hlt hp
    exact ⟨ty, he, Ty.good_mono ar _ _ (by omega) ty hty⟩
  · intro θ ⟨hm1, hm2⟩
    refine ⟨?_, ?_⟩
    · intro v hv
      have := hm1 v (by omega)
      rw [t.newVariable_find_old ui hg.wf v hv] at this
      exact this
    · intro v ty hv hp
      exact hm2 v ty (by omega) (by rw [t.newVariable_probeVar_old ui hg.wf v hv]; exact hp)
  · intro v g hv hp
    rw [t.newVariable_probeVar_old ui hg.wf v hv]; exact hp
  · intro x y hx hy h
    rw [t.newVariable_find_old ui hg.wf x hx, t.newVariable_find_old ui hg.wf y hy]; exact h

theorem Table.unifyVarValue_cases (t : Table) (a : Nat) (val : InferValue) (t' : Table)
    (h : t.unifyVarValue a val = .ok t') :
    ∃ z, unifyValues (t.value.getD (t.find a) (.unbound 0)) val = .ok z ∧
      t' = { t with value := t.value.set (t.find a) z } := by
  unfold Table.unifyVarValue at h
  simp only at h
  split at h
  · cases h
  · rename_i z hz
    cases h
    exact ⟨z, hz, rfl⟩

theorem Table.unifyVarValue_bound (t : Table) (a : Nat) (g : GArg) (t' : Table) :
    t.unifyVarValue a (.bound g) = .ok t' ↔
      t.probeVar a = none ∧ t' = { t with value := t.value.set (t.find a) (.bound g) } := by
  unfold Table.unifyVarValue
  rw [Table.probeVar_eq]
  dsimp only
  generalize t.value.getD (t.find a) (.unbound 0) = x
  cases x with
  | unbound u => exact ⟨fun h => ⟨rfl, (Except.ok.inj h).symm⟩, fun h => congrArg Except.ok h.2.symm⟩
  | bound g' => exact ⟨fun h => (nomatch h), fun h => (nomatch h.1)⟩

theorem Table.setValue_find (t : Table) (r : Nat) (z : InferValue) (v : Nat) :
    ({ t with value := t.value.set r z } : Table).find v = t.find v :=
  Table.find_congr { t with value := t.value.set r z } t rfl v

theorem Table.setValue_probeVar (t : Table) (hwf : t.WF) (r : Nat) (z : InferValue) (v : Nat)
    (hv : v < t.numVars) :
    ({ t with value := t.value.set r z } : Table).probeVar v =
      if t.find v = r then z.toOpt else t.probeVar v := by
  rw [Table.probeVar_eq, Table.probeVar_eq]
  rw [t.setValue_find r z v]
  show ((t.value.set r z).getD (t.find v) (.unbound 0)).toOpt = _
  by_cases h : t.find v = r
  · rw [if_pos h, ← h, getD_set_eq _ _ _ _ (by rw [hwf.lenValue]; exact t.find_lt hwf v hv)]
  · rw [if_neg h, getD_set_ne _ _ _ _ _ (Ne.symm h)]

theorem Table.setValue_WF (t : Table) (hwf : t.WF) (r : Nat) (z : InferValue) :
    ({ t with value := t.value.set r z } : Table).WF :=
  ⟨hwf.lenRank, by show (t.value.set r z).length = _; rw [List.length_set]; exact hwf.lenValue,
   hwf.parentLt, hwf.rankInc⟩

theorem Table.unifyVarValue_Le {ar : TyName → Nat} (t : Table) (a : Nat) (val : InferValue) (t' : Table)
    (hg : t.Good ar) (ha : a < t.numVars)
    (hval : ∀ g, val.toOpt = some g → ∃ T, g = .ty T ∧ T.good ar t.numVars = true)
    (h : t.unifyVarValue a val = .ok t') :
    t.Le ar t' ∧ (∀ g, val.toOpt = some g → t'.probeVar a = some g) := by
  obtain ⟨z, hz, rfl⟩ := t.unifyVarValue_cases a val t' h
  obtain ⟨s1, s2, s3, _⟩ := unifyValues_spec _ _ _ hz
  have hpa : (t.value.getD (t.find a) (.unbound 0)).toOpt = t.probeVar a := (t.probeVar_eq a).symm
  refine ⟨Table.Le_of hg (t.setValue_WF hg.wf _ _) rfl rfl ?_ ?_ ?_, ?_⟩
  · intro x y _ _ hxy
    rw [t.setValue_find, t.setValue_find]; exact hxy
  · intro v g hv hp
    rw [t.setValue_probeVar hg.wf _ _ v hv]
    by_cases hf : t.find v = t.find a
    · rw [if_pos hf]
      apply s1
      rw [hpa, Table.probeVar_eq, ← hf, ← Table.probeVar_eq]; exact hp
    · rw [if_neg hf]; exact hp
  · intro v g hv hp
    rw [t.setValue_probeVar hg.wf _ _ v hv] at hp
    by_cases hf : t.find v = t.find a
    · rw [if_pos hf] at hp
      rcases s3 g hp with h1 | h2
      · rw [hpa] at h1; exact hg.vals a g ha h1
      · exact hval g h2
    · rw [if_neg hf] at hp; exact hg.vals v g hv hp
  · intro g hgv
    rw [t.setValue_probeVar hg.wf _ _ a ha, if_pos rfl]
    exact s2 g hgv

theorem Table.unifyVarValue_unbound_Le {ar : TyName → Nat} (t : Table) (a u : Nat) (t' : Table)
    (hg : t.Good ar) (ha : a < t.numVars) (h : t.unifyVarValue a (.unbound u) = .ok t') :
    t.Le ar t' :=
  (t.unifyVarValue_Le a _ t' hg ha (by intro g hgv; cases hgv) h).1

theorem Table.unifyVarValue_bound_Le {ar : TyName → Nat} (t : Table) (a : Nat) (T : Ty) (t' : Table)
    (hg : t.Good ar) (ha : a < t.numVars) (hT : T.good ar t.numVars = true)
    (h : t.unifyVarValue a (.bound (.ty T)) = .ok t') :
    t.Le ar t' ∧ ∀ θ, t'.Models θ → θ a = T.applyAsg θ := by
  have := t.unifyVarValue_Le a _ t' hg ha
    (by intro g hgv; simp [InferValue.toOpt] at hgv; subst hgv; exact ⟨T, rfl, hT⟩) h
  refine ⟨this.1, ?_⟩
  intro θ hm
  exact hm.2 a T (Nat.lt_of_lt_of_le ha this.1.numVars) (this.2 _ rfl)

theorem Table.unifyVarVar_cases (t : Table) (a b : Nat) (t' : Table) (hwf : t.WF)
    (ha : a < t.numVars) (hb : b < t.numVars) (h : t.unifyVarVar a b = .ok t') :
    (t' = t ∧ t.find a = t.find b) ∨
    ∃ r1 r2 z, ((r1 = t.find a ∧ r2 = t.find b) ∨ (r1 = t.find b ∧ r2 = t.find a)) ∧
      (unifyValues (t.value.getD r1 (.unbound 0)) (t.value.getD r2 (.unbound 0)) = .ok z ∨
       unifyValues (t.value.getD r2 (.unbound 0)) (t.value.getD r1 (.unbound 0)) = .ok z) ∧
      t'.WF ∧ (∀ v, v < t.numVars → t'.find v = if t.find v = r1 then r2 else t.find v) ∧
      t'.value = t.value.set r2 z ∧ t'.numVars = t.numVars ∧ t'.maxUniverse = t.maxUniverse := by
  have hfa := t.find_lt hwf a ha
  have hfb := t.find_lt hwf b hb
  have rfa := t.find_isRoot hwf a ha
  have rfb := t.find_isRoot hwf b hb
  unfold Table.unifyVarVar at h
  simp only at h
  by_cases heq : t.find a = t.find b
  · rw [if_pos heq] at h; cases h; exact .inl ⟨rfl, heq⟩
  rw [if_neg heq] at h
  right
  cases hz : unifyValues (t.value.getD (t.find a) (.unbound 0)) (t.value.getD (t.find b) (.unbound 0)) with
  | error e => rw [hz] at h; cases h
  | ok z =>
    rw [hz] at h
    simp only at h
    by_cases hk : t.rank.getD (t.find a) 0 > t.rank.getD (t.find b) 0
    · rw [if_pos hk] at h; cases h
      refine ⟨t.find b, t.find a, z, .inr ⟨rfl, rfl⟩, .inr hz, ?_⟩
      have := Table.link_spec t { t with parent := t.parent.set (t.find b) (t.find a), value := t.value.set (t.find a) z }
        (t.find b) (t.find a) hwf hfb hfa rfb rfa (Ne.symm heq) rfl rfl (fun _ _ => rfl)
        (Nat.le_refl _) hk List.length_set
      exact ⟨this.1, this.2, rfl, List.length_set, rfl⟩
    rw [if_neg hk] at h
    by_cases hk2 : t.rank.getD (t.find a) 0 < t.rank.getD (t.find b) 0
    · rw [if_pos hk2] at h; cases h
      refine ⟨t.find a, t.find b, z, .inl ⟨rfl, rfl⟩, .inl hz, ?_⟩
      have := Table.link_spec t { t with parent := t.parent.set (t.find a) (t.find b), value := t.value.set (t.find b) z }
        (t.find a) (t.find b) hwf hfa hfb rfa rfb heq rfl rfl (fun _ _ => rfl)
        (Nat.le_refl _) hk2 List.length_set
      exact ⟨this.1, this.2, rfl, List.length_set, rfl⟩
    · rw [if_neg hk2] at h; cases h
      refine ⟨t.find a, t.find b, z, .inl ⟨rfl, rfl⟩, .inl hz, ?_⟩
      have hlb : t.find b < t.rank.length := by rw [hwf.lenRank]; exact hfb
      have := Table.link_spec t
        { t with parent := t.parent.set (t.find a) (t.find b),
                 rank := t.rank.set (t.find b) (t.rank.getD (t.find a) 0 + 1),
                 value := t.value.set (t.find b) z }
        (t.find a) (t.find b) hwf hfa hfb rfa rfb heq rfl List.length_set
        (fun v hv => getD_set_ne _ _ _ _ _ (Ne.symm hv))
        (by show _ ≤ (t.rank.set _ _).getD _ 0; rw [getD_set_eq _ _ _ _ hlb]; omega)
        (by show _ < (t.rank.set _ _).getD _ 0; rw [getD_set_eq _ _ _ _ hlb]; omega) List.length_set
      exact ⟨this.1, this.2, rfl, List.length_set, rfl⟩

/-- `unifyVarVar a b` makes the classes of `a` and `b` one class (also when they already were): its
    root `r` is one of the two old roots, its value `z` merges the two old values; nothing else changes. -/
theorem Table.unifyVarVar_spec (t : Table) (a b : Nat) (t' : Table) (hwf : t.WF)
    (ha : a < t.numVars) (hb : b < t.numVars) (h : t.unifyVarVar a b = .ok t') :
    t'.WF ∧ t'.numVars = t.numVars ∧ t'.maxUniverse = t.maxUniverse ∧
    ∃ r z, (r = t.find a ∨ r = t.find b) ∧
      (∀ v, v < t.numVars →
        t'.find v = if t.find v = t.find a ∨ t.find v = t.find b then r else t.find v) ∧
      (∀ v, v < t.numVars →
        t'.probeVar v = if t.find v = t.find a ∨ t.find v = t.find b then z else t.probeVar v) ∧
      (∀ g, t.probeVar a = some g → z = some g) ∧ (∀ g, t.probeVar b = some g → z = some g) ∧
      (∀ g, z = some g → t.probeVar a = some g ∨ t.probeVar b = some g) := by
  rcases t.unifyVarVar_cases a b t' hwf ha hb h with ⟨e, heq⟩ | ⟨r1, r2, z, hr, hz, hwf', hfind, hval, hn, hmu⟩
  · obtain rfl : t = t' := e.symm
    have hab : t.probeVar b = t.probeVar a := by rw [Table.probeVar_eq, ← heq, ← Table.probeVar_eq]
    refine ⟨hwf, rfl, rfl, t.find a, t.probeVar a, .inl rfl, ?_, ?_, fun _ h => h, fun _ h => hab ▸ h,
      fun _ h => .inl h⟩
    · intro v _
      split
      · rename_i hc; exact hc.elim id fun e => e.trans heq.symm
      · rfl
    · intro v _
      split
      · rename_i hc
        rw [Table.probeVar_eq, hc.elim id fun e => e.trans heq.symm, ← Table.probeVar_eq]
      · rfl
  · -- the two roots in the order `unifyVarVar` chose, the surviving one second
    have hset : ∀ x, (x = t.find a ∨ x = t.find b) ↔ (x = r1 ∨ x = r2) := by
      intro x; rcases hr with ⟨rfl, rfl⟩ | ⟨rfl, rfl⟩
      · exact Iff.rfl
      · exact Or.comm
    have hr2 : r2 < t.numVars := by
      rcases hr with ⟨_, rfl⟩ | ⟨_, rfl⟩
      · exact t.find_lt hwf b hb
      · exact t.find_lt hwf a ha
    have hs : (∀ g, t.probeVar a = some g → z.toOpt = some g) ∧
        (∀ g, t.probeVar b = some g → z.toOpt = some g) ∧
        (∀ g, z.toOpt = some g → t.probeVar a = some g ∨ t.probeVar b = some g) := by
      rw [Table.probeVar_eq t a, Table.probeVar_eq t b]
      rcases hr with ⟨rfl, rfl⟩ | ⟨rfl, rfl⟩ <;> rcases hz with hz | hz <;>
        obtain ⟨s1, s2, s3, _⟩ := unifyValues_spec _ _ _ hz
      · exact ⟨s1, s2, s3⟩
      · exact ⟨s2, s1, fun g h => (s3 g h).symm⟩
      · exact ⟨s2, s1, fun g h => (s3 g h).symm⟩
      · exact ⟨s1, s2, s3⟩
    refine ⟨hwf', hn, hmu, r2, z.toOpt, ((hset r2).mpr (.inr rfl)), ?_, ?_, hs⟩
    · intro v hv
      rw [hfind v hv]
      by_cases hc : t.find v = t.find a ∨ t.find v = t.find b
      · rw [if_pos hc]
        by_cases h1 : t.find v = r1
        · rw [if_pos h1]
        · rw [if_neg h1]; exact ((hset _).mp hc).resolve_left h1
      · rw [if_neg hc, if_neg fun e => hc ((hset _).mpr (.inl e))]
    · intro v hv
      rw [Table.probeVar_eq, hfind v hv, hval]
      have hl : r2 < t.value.length := by rw [hwf.lenValue]; exact hr2
      by_cases hc : t.find v = t.find a ∨ t.find v = t.find b
      · rw [if_pos hc]
        by_cases h1 : t.find v = r1
        · rw [if_pos h1, getD_set_eq _ _ _ _ hl]
        · rw [if_neg h1, ((hset _).mp hc).resolve_left h1, getD_set_eq _ _ _ _ hl]
      · have h1 : t.find v ≠ r1 := fun e => hc ((hset _).mpr (.inl e))
        have h2 : t.find v ≠ r2 := fun e => hc ((hset _).mpr (.inr e))
        rw [if_neg hc, if_neg h1, getD_set_ne _ _ _ _ _ (Ne.symm h2), ← Table.probeVar_eq]

theorem Table.unifyVarVar_Le {ar : TyName → Nat} (t : Table) (a b : Nat) (t' : Table)
    (hg : t.Good ar) (ha : a < t.numVars) (hb : b < t.numVars) (h : t.unifyVarVar a b = .ok t') :
    t.Le ar t' ∧ ∀ θ, t'.Models θ → θ a = θ b := by
  obtain ⟨hwf', hn, hmu, r, z, _, hfind, hprobe, za, zb, zab⟩ := t.unifyVarVar_spec a b t' hg.wf ha hb h
  have hcls : ∀ v, t.find v = t.find a ∨ t.find v = t.find b →
      t.probeVar v = t.probeVar a ∨ t.probeVar v = t.probeVar b := fun v hc =>
    hc.imp (fun e => by rw [Table.probeVar_eq, e, ← Table.probeVar_eq])
      (fun e => by rw [Table.probeVar_eq, e, ← Table.probeVar_eq])
  refine ⟨Table.Le_of hg hwf' hn hmu ?_ ?_ ?_, ?_⟩
  · intro x y hx hy hxy
    rw [hfind x hx, hfind y hy, hxy]
  · intro v g hv hp
    rw [hprobe v hv]
    split
    · rename_i hc
      rcases hcls v hc with e | e <;> rw [e] at hp
      · exact za g hp
      · exact zb g hp
    · exact hp
  · intro v g hv hp
    rw [hprobe v hv] at hp
    split at hp
    · rcases zab g hp with h1 | h1
      · exact hg.vals a g ha h1
      · exact hg.vals b g hb h1
    · exact hg.vals v g hv hp
  · intro θ hm
    rw [hm.1 a (by rw [hn]; exact ha), hm.1 b (by rw [hn]; exact hb), hfind a ha, hfind b hb,
      if_pos (.inl rfl), if_pos (.inr rfl)]

theorem Table.unifyVarVar_unbound (t : Table) (a b : Nat) (t' : Table) (hwf : t.WF)
    (ha : a < t.numVars) (hb : b < t.numVars)
    (hpa : t.probeVar a = none) (hpb : t.probeVar b = none) (h : t.unifyVarVar a b = .ok t') :
    t'.WF ∧ t'.numVars = t.numVars ∧ t'.maxUniverse = t.maxUniverse ∧
    (∀ x, x < t.numVars → t'.probeVar x = t.probeVar x) ∧
    (∀ x, x < t.numVars → t'.find x = t.find x ∨
      ((t'.find x = t.find a ∨ t'.find x = t.find b) ∧ (t.find x = t.find a ∨ t.find x = t.find b))) := by
  obtain ⟨hwf', hn, hmu, r, z, hr, hfind, hprobe, _, _, zab⟩ := t.unifyVarVar_spec a b t' hwf ha hb h
  have hz : z = none := by
    cases hz : z with
    | none => rfl
    | some g =>
      rcases zab g hz with e | e
      · rw [hpa] at e; cases e
      · rw [hpb] at e; cases e
  refine ⟨hwf', hn, hmu, ?_, ?_⟩
  · intro x hx
    rw [hprobe x hx, hz]
    split
    · rename_i hc
      rcases hc with e | e <;> rw [Table.probeVar_eq, e, ← Table.probeVar_eq]
      · exact hpa.symm
      · exact hpb.symm
    · rfl
  · intro x hx
    rw [hfind x hx]
    split
    · rename_i hc; exact .inr ⟨hr, hc⟩
    · exact .inl rfl

theorem Table.normalizeInner_spec {ar : TyName → Nat} (t : Table) (hg : t.Good ar) (a ty : Ty)
    (ha : a.good ar t.numVars = true) (h : t.normalizeTyShallowInner a = some ty) :
    ty.good ar t.numVars = true ∧ ∀ θ, t.Models θ → ty.applyAsg θ = a.applyAsg θ := by
  cases a <;> simp [Table.normalizeTyShallowInner] at h
  rename_i v k
  split at h
  · rename_i ty' hp
    cases h
    have hv : v < t.numVars := by simpa [Ty.good] using ha
    obtain ⟨T, he, hT⟩ := hg.vals v _ hv hp
    cases he
    refine ⟨hT, ?_⟩
    intro θ hm
    simp only [Ty.applyAsg]
    exact (hm.2 v _ hv hp).symm
  · cases h

theorem Table.normalize_spec {ar : TyName → Nat} (t : Table) (hg : t.Good ar) (a : Ty)
    (ha : a.good ar t.numVars = true) :
    ((t.normalizeTyShallow a).getD a).good ar t.numVars = true ∧
    ∀ θ, t.Models θ → ((t.normalizeTyShallow a).getD a).applyAsg θ = a.applyAsg θ := by
  unfold Table.normalizeTyShallow
  split
  · rename_i ty h1
    obtain ⟨g1, m1⟩ := t.normalizeInner_spec hg a ty ha h1
    cases h2 : t.normalizeTyShallowInner ty with
    | none => exact ⟨g1, m1⟩
    | some ty2 =>
      obtain ⟨g2, m2⟩ := t.normalizeInner_spec hg ty ty2 g1 h2
      exact ⟨g2, fun θ hm => (m2 θ hm).trans (m1 θ hm)⟩
  · exact ⟨ha, fun _ _ => rfl⟩

end Chalk
