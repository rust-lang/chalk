/-
  The restriction lemma of `Logging.lean`: programs that agree on the clauses with a head instance in a set `R` closed
  under the clauses give the atoms of `R`, and the goals over them, the same truth value; `reachList` computes such a
  set (closed after at most one round per clause); auto-trait lowering is monotone for suppression-faithful logs.
-/
import ChalkModel.Logging
import ChalkModel.Lemmas.SemLemmas
import ChalkModel.Lemmas.ListLemmas

namespace Chalk.Logging
open Chalk.Sem

theorem holds_transfer {P Q : Program} {Γ : List Atom} {R : Atom → Prop}
    (hco : ∀ p, P.coind p = Q.coind p)
    (hmem : ∀ (c : Clause) (σ : Nat → Tm), R (c.head.inst σ) → c ∈ P.clauses → c ∈ Q.clauses)
    (hcl : ClosedUnder P R) {a : Atom} (hR : R a) (h : Holds P Γ a) : Holds Q Γ a :=
  h.sim (f := id) (fun _ _ => (hco _).symm) (fun _ _ hm => .of_mem hm)
    (fun _ _ _ hRa hXY ⟨c, hc, σ, hσ, hb⟩ =>
      have hRh : R (c.head.inst σ) := hσ ▸ hRa
      Or.inr ⟨c, hmem c σ hRh hc, σ, hσ, fun b hbm => hXY _ (hb b hbm) (hcl c hc σ hRh b hbm)⟩) hR

theorem ClosedUnder.of_agree {P Q : Program} {R : Atom → Prop} (hA : AgreeOn P Q R)
    (hC : ClosedUnder P R) : ClosedUnder Q R :=
  fun c hc σ hR => hC c ((hA.2 c σ hR).mpr hc) σ hR

theorem holds_agree {P Q : Program} {Γ : List Atom} {R : Atom → Prop} (hA : AgreeOn P Q R)
    (hC : ClosedUnder P R) (a : Atom) (hR : R a) : Holds Q Γ a ↔ Holds P Γ a :=
  ⟨holds_transfer hA.1 (fun c σ h => (hA.2 c σ h).mpr) (hC.of_agree hA) hR,
   holds_transfer (fun p => (hA.1 p).symm) (fun c σ h => (hA.2 c σ h).mp) hC hR⟩

theorem coholds_agree {P Q : Program} {Γ : List Atom} {R : Atom → Prop} (hA : AgreeOn P Q R)
    (hC : ClosedUnder P R) (a : Atom) (hR : R a) : CoHolds Q Γ a ↔ CoHolds P Γ a :=
  coHolds_iff_of_holds_iff (hA.1 _) (holds_agree hA hC a hR)

theorem gholds_agree {P Q : Program} {R : Atom → Prop} (hA : AgreeOn P Q R) (hC : ClosedUnder P R)
    (g : Goal) (Γ : List Atom) (hg : GoalIn R g) : GHolds Q Γ g ↔ GHolds P Γ g :=
  GHolds.congr Eq (fun _ _ _ h => h ▸ rfl) (fun _ _ a h hR => h ▸ holds_agree hA hC a hR) g hg Γ Γ rfl

theorem inst_pred (a : Atom) (σ : Nat → Tm) : (a.inst σ).pred = a.pred := rfl

theorem reach_closed (P : Program) (seeds : List String) :
    ClosedUnder P (fun a => Reach P seeds a.pred) :=
  fun c hc _ hR b hb => Reach.step (c := c) (b := b) hc hR hb

theorem agree_of_between {P Q : Program} {seeds : List String}
    (hco : ∀ p, Q.coind p = P.coind p) (hsub : ∀ c ∈ Q.clauses, c ∈ P.clauses)
    (hneeds : ∀ c ∈ P.clauses, Reach P seeds c.head.pred → c ∈ Q.clauses) :
    AgreeOn P Q (fun a => Reach P seeds a.pred) :=
  ⟨hco, fun c _ hR => ⟨fun hc => hneeds c hc hR, hsub c⟩⟩

theorem goalIn_of_preds {S : String → Prop} : (g : Goal) → (∀ p ∈ goalPreds g, S p) →
    GoalIn (fun a => S a.pred) g
  | .atom a, h => h a.pred (by simp [goalPreds])
  | .tt, _ => trivial
  | .and g k, h =>
      ⟨goalIn_of_preds g (fun p hp => h p (by simp [goalPreds, hp])),
       goalIn_of_preds k (fun p hp => h p (by simp [goalPreds, hp]))⟩
  | .implies _ g, h => goalIn_of_preds g (fun p hp => h p (by simp [goalPreds, hp]))
  | .not g, h => goalIn_of_preds g (fun p hp => h p (by simp [goalPreds, hp]))
  | .eq _ _, _ => trivial

theorem closedList_iff (P : Program) (S : List String) :
    closedList P S = true ↔ ∀ c ∈ P.clauses, c.head.pred ∈ S → ∀ b ∈ c.body, b.pred ∈ S := by
  simp only [closedList, List.all_eq_true, Bool.or_eq_true, Bool.not_eq_true', List.contains_iff_mem,
    ← Bool.not_eq_true, ← Decidable.imp_iff_not_or]

theorem closedUnder_of_closedList {P : Program} {S : List String} (h : closedList P S = true) :
    ClosedUnder P (fun a => a.pred ∈ S) :=
  fun c hc _ hR b hb => (closedList_iff P S).mp h c hc hR b hb

theorem restrict_agreeOn (P : Program) (S : List String) :
    AgreeOn P (restrict P S) (fun a => a.pred ∈ S) := by
  refine ⟨fun _ => rfl, fun c σ hR => ?_⟩
  have hR' : c.head.pred ∈ S := hR
  simp [restrict, List.mem_filter, hR']

theorem restrict_agree {P : Program} {S : List String} (h : closedList P S = true) :
    AgreeOn P (restrict P S) (fun a => a.pred ∈ S) ∧ ClosedUnder P (fun a => a.pred ∈ S) :=
  ⟨restrict_agreeOn P S, closedUnder_of_closedList h⟩

theorem mem_insertNew {S : List String} {p q : String} : q ∈ insertNew S p ↔ q ∈ S ∨ q = p := by
  unfold insertNew
  split
  · rename_i h
    exact ⟨Or.inl, fun h' => h'.elim id fun e => e ▸ List.contains_iff_mem.mp h⟩
  · simp

theorem mem_addAll : ∀ (L S : List String) (q : String), q ∈ addAll S L ↔ q ∈ S ∨ q ∈ L
  | [], S, q => by simp [addAll]
  | p :: ps, S, q => by
      simp only [addAll, mem_addAll ps, mem_insertNew, List.mem_cons, or_assoc]

theorem mem_firedBodies {P : Program} {S : List String} {q : String} :
    q ∈ firedBodies P S ↔ ∃ c ∈ P.clauses, c.head.pred ∈ S ∧ ∃ b ∈ c.body, b.pred = q := by
  simp only [firedBodies, List.mem_flatMap, List.mem_filter, List.contains_iff_mem, List.mem_map, and_assoc]

theorem mem_reachStep {P : Program} {S : List String} {q : String} :
    q ∈ reachStep P S ↔ q ∈ S ∨ ∃ c ∈ P.clauses, c.head.pred ∈ S ∧ ∃ b ∈ c.body, b.pred = q := by
  rw [reachStep, mem_addAll, mem_firedBodies]

theorem subset_reachStep {P : Program} {S : List String} {q : String} (h : q ∈ S) : q ∈ reachStep P S :=
  mem_reachStep.mpr (Or.inl h)

theorem subset_reachIter {P : Program} {S : List String} {q : String} (h : q ∈ S) :
    (n : Nat) → q ∈ reachIter P n S
  | 0 => h
  | n + 1 => subset_reachStep (subset_reachIter h n)

theorem seeds_subset_reachList (P : Program) (seeds : List String) :
    ∀ p ∈ seeds, p ∈ reachList P seeds :=
  fun _ h => subset_reachIter h _

theorem closedList_reachStep {P : Program} {S : List String} (h : closedList P S = true) :
    closedList P (reachStep P S) = true := by
  rw [closedList_iff] at h ⊢
  have hback : ∀ q, q ∈ reachStep P S → q ∈ S := by
    intro q hq
    rcases mem_reachStep.mp hq with h1 | ⟨c, hc, hh, b, hb, rfl⟩
    · exact h1
    · exact h c hc hh b hb
  intro c hc hh b hb
  exact subset_reachStep (h c hc (hback _ hh) b hb)

/-- number of clauses whose head predicate is not (yet) in `S` -/
def unfired (P : Program) (S : List String) : Nat := P.clauses.countP fun c => !S.contains c.head.pred

theorem unfired_le (P : Program) (S : List String) : unfired P S ≤ P.clauses.length :=
  List.countP_le_length

theorem unfired_lt {P : Program} {S : List String} (h : closedList P (reachStep P S) = false) :
    unfired P (reachStep P S) < unfired P S := by
  obtain ⟨c, hc, hh, b, hb, hnb⟩ : ∃ c ∈ P.clauses, c.head.pred ∈ reachStep P S ∧
      ∃ b ∈ c.body, b.pred ∉ reachStep P S := by simpa [closedList] using h
  have hnh : c.head.pred ∉ S := fun hS => hnb (mem_reachStep.mpr (Or.inr ⟨c, hc, hS, b, hb, rfl⟩))
  refine countP_lt_of (fun x _ hx => ?_) hc (by simpa using hnh) (by simpa using hh)
  have hx' : x.head.pred ∉ reachStep P S := by simpa using hx
  simpa using fun hS => hx' (subset_reachStep hS)

theorem reachIter_progress (P : Program) (S : List String) : (n : Nat) →
    closedList P (reachIter P n S) = true ∨ unfired P (reachIter P n S) + n ≤ P.clauses.length
  | 0 => Or.inr (unfired_le P S)
  | n + 1 => by
      rcases reachIter_progress P S n with h | h
      · exact Or.inl (closedList_reachStep h)
      · cases hc : closedList P (reachIter P (n + 1) S)
        · have := unfired_lt (S := reachIter P n S) hc
          exact Or.inr (by show unfired P (reachStep P (reachIter P n S)) + (n + 1) ≤ _; omega)
        · exact Or.inl rfl

theorem reachList_closed (P : Program) (seeds : List String) :
    closedList P (reachList P seeds) = true :=
  (reachIter_progress P seeds _).resolve_right (by omega)

theorem reachStep_sound {P : Program} {seeds S : List String} (h : ∀ p ∈ S, Reach P seeds p) :
    ∀ p ∈ reachStep P S, Reach P seeds p := by
  intro p hp
  rcases mem_reachStep.mp hp with h1 | ⟨c, hc, hh, b, hb, rfl⟩
  · exact h p h1
  · exact Reach.step hc (h _ hh) hb

theorem reachIter_sound {P : Program} {seeds : List String} :
    (n : Nat) → ∀ p ∈ reachIter P n seeds, Reach P seeds p
  | 0 => fun _ hp => Reach.seed hp
  | n + 1 => reachStep_sound (reachIter_sound n)

theorem reachList_sound (P : Program) (seeds : List String) :
    ∀ p ∈ reachList P seeds, Reach P seeds p := reachIter_sound _

theorem reachList_complete (P : Program) (seeds : List String) {p : String} (h : Reach P seeds p) :
    p ∈ reachList P seeds := by
  induction h with
  | seed hs => exact seeds_subset_reachList P seeds _ hs
  | step hc _ hb ih => exact (closedList_iff P _).mp (reachList_closed P seeds) _ hc ih _ hb

theorem mem_defaultClauses {I : AutoItems} {c : Clause} :
    c ∈ defaultClauses I ↔ ∃ t ∈ I.autoTraits, ∃ adt ∈ I.adts,
      hasExplicit I t adt.1 = false ∧ c = defaultClause t adt.1 adt.2.1 adt.2.2 := by
  simp only [defaultClauses, List.mem_flatMap]
  constructor
  · rintro ⟨t, ht, adt, ha, hc⟩
    split at hc
    · simp at hc
    · rename_i hne
      simp only [List.mem_singleton] at hc
      exact ⟨t, ht, adt, ha, by simpa using hne, hc⟩
  · rintro ⟨t, ht, adt, ha, hne, rfl⟩
    exact ⟨t, ht, adt, ha, by simp [hne]⟩

theorem mem_lowerAuto {I : AutoItems} {c : Clause} :
    c ∈ lowerAuto I ↔ c ∈ I.base ∨ (∃ e ∈ I.explicit, e.2.2 = some c) ∨ c ∈ defaultClauses I := by
  simp only [lowerAuto, List.mem_append, List.mem_filterMap, or_assoc]

theorem hasExplicit_mono {I L : AutoItems} (he : ∀ e ∈ L.explicit, e ∈ I.explicit) {t s : String}
    (h : hasExplicit L t s = true) : hasExplicit I t s = true := by
  simp only [hasExplicit, List.any_eq_true] at h ⊢
  obtain ⟨e, hm, h⟩ := h
  exact ⟨e, he e hm, h⟩

theorem lowerAuto_subset_of_faithful {I L : AutoItems}
    (hb : ∀ c ∈ L.base, c ∈ I.base) (ht : ∀ t ∈ L.autoTraits, t ∈ I.autoTraits)
    (ha : ∀ a ∈ L.adts, a ∈ I.adts) (he : ∀ e ∈ L.explicit, e ∈ I.explicit)
    (hf : SuppressionFaithful I L) : ∀ c ∈ lowerAuto L, c ∈ lowerAuto I := by
  intro c hc
  rw [mem_lowerAuto] at hc ⊢
  rcases hc with h | ⟨e, hm, h⟩ | h
  · exact Or.inl (hb c h)
  · exact Or.inr (Or.inl ⟨e, he e hm, h⟩)
  · rw [mem_defaultClauses] at h ⊢
    obtain ⟨t, htm, adt, ham, hne, rfl⟩ := h
    refine Or.inr (Or.inr ⟨t, ht t htm, adt, ha adt ham, ?_, rfl⟩)
    cases hI : hasExplicit I t adt.1
    · rfl
    · rw [(hf t htm adt ham).mpr hI] at hne
      cases hne

end Chalk.Logging
