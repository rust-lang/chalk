import ChalkModel.Lemmas.ShiftLemmas

namespace Chalk

/-! ### Well-scopedness under a binder with kinds `kinds` at depth `outer` -/

def Lifetime.scoped (kinds : List VarKind) (outer : Nat) : Lifetime → Bool
  | .bound db idx => db < outer || (db == outer && kinds[idx]? == some .lt)
  | _ => true

mutual
  def Ty.scoped (cty : Nat → Ty) (kinds : List VarKind) (outer : Nat) : Ty → Bool
    | .app _ args => args.scoped cty kinds outer
    | .scalar _ => true | .str => true | .never => true | .foreign _ => true | .error => true
    | .array t c => t.scoped cty kinds outer && c.scoped cty kinds outer
    | .slice t => t.scoped cty kinds outer
    | .raw _ t => t.scoped cty kinds outer
    | .ref _ l t => l.scoped kinds outer && t.scoped cty kinds outer
    | .placeholder _ _ => true
    | .dyn _ bounds l => bounds.scoped cty kinds (outer + 1) && l.scoped kinds outer
    | .proj _ args => args.scoped cty kinds outer
    | .opaque _ args => args.scoped cty kinds outer
    | .function _ _ args => args.scoped cty kinds (outer + 1)
    | .bound db idx => db < outer || (db == outer && (match kinds[idx]? with | some (.ty _) => true | _ => false))
    | .infer _ _ => true
  def Const.scoped (cty : Nat → Ty) (kinds : List VarKind) (outer : Nat) : Const → Bool
    | .mk ty (.bound db idx) =>
        db < outer || (db == outer && (match kinds[idx]? with | some (.const c) => ty == cty c | _ => false))
    | .mk ty _ => ty.scoped cty kinds outer
  def GArg.scoped (cty : Nat → Ty) (kinds : List VarKind) (outer : Nat) : GArg → Bool
    | .ty t => t.scoped cty kinds outer
    | .lt l => l.scoped kinds outer
    | .ct c => c.scoped cty kinds outer
  def Args.scoped (cty : Nat → Ty) (kinds : List VarKind) (outer : Nat) : Args → Bool
    | .nil => true
    | .cons a as => a.scoped cty kinds outer && as.scoped cty kinds outer
  def WC.scoped (cty : Nat → Ty) (kinds : List VarKind) (outer : Nat) : WC → Bool
    | .implemented _ args => args.scoped cty kinds outer
    | .aliasEqProj _ args ty => args.scoped cty kinds outer && ty.scoped cty kinds outer
    | .aliasEqOpaque _ args ty => args.scoped cty kinds outer && ty.scoped cty kinds outer
    | .ltOutlives a b => a.scoped kinds outer && b.scoped kinds outer
    | .tyOutlives t l => t.scoped cty kinds outer && l.scoped kinds outer
  def QWC.scoped (cty : Nat → Ty) (kinds : List VarKind) (outer : Nat) : QWC → Bool
    | .mk _ wc => wc.scoped cty kinds (outer + 1)
  def QWCs.scoped (cty : Nat → Ty) (kinds : List VarKind) (outer : Nat) : QWCs → Bool
    | .nil => true
    | .cons q qs => q.scoped cty kinds outer && qs.scoped cty kinds outer
end

theorem scoped_var {db outer : Nat} {b : Bool} (h : (decide (db < outer) || (db == outer && b)) = true) :
    db < outer ∨ (db = outer ∧ b = true) := by
  simpa only [Bool.or_eq_true, Bool.and_eq_true, decide_eq_true_eq, beq_iff_eq] using h

/-! ### substituting a binder's own variables is the identity -/

theorem identitySubstFrom_get (cty : Nat → Ty) (i j : Nat) (kinds : List VarKind) :
    (identitySubstFrom cty i kinds)[j]? = (kinds[j]?).map (VarKind.toBoundVar cty (i + j)) := by
  induction kinds generalizing i j with
  | nil => simp [identitySubstFrom]
  | cons k ks ih =>
    cases j with
    | zero => simp [identitySubstFrom]
    | succ j =>
      simp [identitySubstFrom, ih]
      congr 2; omega

theorem identitySubst_get (cty : Nat → Ty) (j : Nat) (kinds : List VarKind) :
    (identitySubst cty kinds)[j]? = (kinds[j]?).map (VarKind.toBoundVar cty j) := by
  simp [identitySubst, identitySubstFrom_get]

theorem identitySubstFrom_length (cty : Nat → Ty) (i : Nat) (kinds : List VarKind) :
    (identitySubstFrom cty i kinds).length = kinds.length := by
  induction kinds generalizing i with
  | nil => rfl
  | cons k ks ih => simp [identitySubstFrom, ih]

theorem foldLifetime_subst_identity (cty : Nat → Ty) (kinds : List VarKind) (outer : Nat) (l : Lifetime)
    (h : l.scoped kinds outer = true) :
    foldLifetime (substFolder (identitySubst cty kinds)) outer l = .ok l := by
  cases l <;> try rfl
  case bound db idx =>
    simp only [foldLifetime, substFolder]
    rcases scoped_var h with h | ⟨rfl, h2⟩
    · rw [if_neg (Nat.not_le.2 h)]
    · rw [if_pos (Nat.le_refl _), if_pos (Nat.sub_self _), identitySubst_get, eq_of_beq h2]
      simp only [Option.map, VarKind.toBoundVar, shifter, Nat.sub_self, Nat.zero_add, Nat.add_zero, Nat.le_refl, if_true]

mutual
  theorem foldTy_subst_identity (cty : Nat → Ty) (kinds : List VarKind) (outer : Nat) : (t : Ty) →
      t.scoped cty kinds outer = true → foldTy (substFolder (identitySubst cty kinds)) outer t = .ok t
    | .app n args, h => by rw [foldTy_app, foldArgs_subst_identity cty kinds outer args h]; rfl
    | .scalar s, _ => rfl
    | .str, _ => rfl
    | .never, _ => rfl
    | .foreign id, _ => rfl
    | .error, _ => rfl
    | .array t c, h => by
        have ⟨h1, h2⟩ := Bool.and_eq_true_iff.mp h
        rw [foldTy_array, foldTy_subst_identity cty kinds outer t h1, foldConst_subst_identity cty kinds outer c h2]; rfl
    | .slice t, h => by rw [foldTy_slice, foldTy_subst_identity cty kinds outer t h]; rfl
    | .raw m t, h => by rw [foldTy_raw, foldTy_subst_identity cty kinds outer t h]; rfl
    | .ref m l t, h => by
        have ⟨h1, h2⟩ := Bool.and_eq_true_iff.mp h
        rw [foldTy_ref, foldLifetime_subst_identity cty kinds outer l h1, foldTy_subst_identity cty kinds outer t h2]; rfl
    | .placeholder ui idx, _ => rfl
    | .dyn ks bounds l, h => by
        have ⟨h1, h2⟩ := Bool.and_eq_true_iff.mp h
        rw [foldTy_dyn, foldQWCs_subst_identity cty kinds (outer+1) bounds h1,
          foldLifetime_subst_identity cty kinds outer l h2]; rfl
    | .proj id args, h => by rw [foldTy_proj, foldArgs_subst_identity cty kinds outer args h]; rfl
    | .opaque id args, h => by rw [foldTy_opaque, foldArgs_subst_identity cty kinds outer args h]; rfl
    | .function nb sig args, h => by rw [foldTy_function, foldArgs_subst_identity cty kinds (outer+1) args h]; rfl
    | .bound db idx, h => by
        simp only [foldTy, substFolder]
        rcases scoped_var h with h | ⟨rfl, h2⟩
        · rw [if_neg (Nat.not_le.2 h)]
        · rw [if_pos (Nat.le_refl _), if_pos (Nat.sub_self _), identitySubst_get]
          cases hk : kinds[idx]? with
          | none => rw [hk] at h2; cases h2
          | some k =>
            cases k <;> rw [hk] at h2 <;> try cases h2
            simp only [Option.map, VarKind.toBoundVar, foldTy_shifter, Ty.shift, Nat.le_refl, if_true, Nat.zero_add]
    | .infer v k, _ => rfl
  theorem foldConst_subst_identity (cty : Nat → Ty) (kinds : List VarKind) (outer : Nat) : (c : Const) →
      c.scoped cty kinds outer = true → foldConst (substFolder (identitySubst cty kinds)) outer c = .ok c
    | .mk ty (.bound db idx), h => by
        simp only [foldConst, substFolder]
        rcases scoped_var h with h | ⟨rfl, h2⟩
        · rw [if_neg (Nat.not_le.2 h)]
        · rw [if_pos (Nat.le_refl _), if_pos (Nat.sub_self _), identitySubst_get]
          cases hk : kinds[idx]? with
          | none => rw [hk] at h2; cases h2
          | some k =>
            cases k <;> rw [hk] at h2 <;> try cases h2
            simp only [Option.map, VarKind.toBoundVar, foldConst_shifter, Const.shift, Nat.le_refl, if_true,
              Nat.zero_add, ← eq_of_beq h2]
    | .mk ty (.infer v), h => by
        rw [foldConst_infer_none rfl, foldTy_subst_identity cty kinds outer ty h]; rfl
    | .mk ty (.placeholder ui idx), h => by
        rw [foldConst_placeholder_none rfl, foldTy_subst_identity cty kinds outer ty h]; rfl
    | .mk ty (.concrete k), h => by rw [foldConst_concrete, foldTy_subst_identity cty kinds outer ty h]; rfl
  theorem foldGArg_subst_identity (cty : Nat → Ty) (kinds : List VarKind) (outer : Nat) : (a : GArg) →
      a.scoped cty kinds outer = true → foldGArg (substFolder (identitySubst cty kinds)) outer a = .ok a
    | .ty t, h => by rw [foldGArg_ty, foldTy_subst_identity cty kinds outer t h]; rfl
    | .lt l, h => by rw [foldGArg_lt, foldLifetime_subst_identity cty kinds outer l h]; rfl
    | .ct c, h => by rw [foldGArg_ct, foldConst_subst_identity cty kinds outer c h]; rfl
  theorem foldArgs_subst_identity (cty : Nat → Ty) (kinds : List VarKind) (outer : Nat) : (a : Args) →
      a.scoped cty kinds outer = true → foldArgs (substFolder (identitySubst cty kinds)) outer a = .ok a
    | .nil, _ => rfl
    | .cons a as, h => by
        have ⟨h1, h2⟩ := Bool.and_eq_true_iff.mp h
        rw [foldArgs_cons, foldGArg_subst_identity cty kinds outer a h1, foldArgs_subst_identity cty kinds outer as h2]; rfl
  theorem foldWC_subst_identity (cty : Nat → Ty) (kinds : List VarKind) (outer : Nat) : (w : WC) →
      w.scoped cty kinds outer = true → foldWC (substFolder (identitySubst cty kinds)) outer w = .ok w
    | .implemented tr args, h => by rw [foldWC_implemented, foldArgs_subst_identity cty kinds outer args h]; rfl
    | .aliasEqProj id args ty, h => by
        have ⟨h1, h2⟩ := Bool.and_eq_true_iff.mp h
        rw [foldWC_aliasEqProj, foldArgs_subst_identity cty kinds outer args h1, foldTy_subst_identity cty kinds outer ty h2]; rfl
    | .aliasEqOpaque id args ty, h => by
        have ⟨h1, h2⟩ := Bool.and_eq_true_iff.mp h
        rw [foldWC_aliasEqOpaque, foldArgs_subst_identity cty kinds outer args h1, foldTy_subst_identity cty kinds outer ty h2]; rfl
    | .ltOutlives a b, h => by
        have ⟨h1, h2⟩ := Bool.and_eq_true_iff.mp h
        rw [foldWC_ltOutlives, foldLifetime_subst_identity cty kinds outer a h1, foldLifetime_subst_identity cty kinds outer b h2]; rfl
    | .tyOutlives t l, h => by
        have ⟨h1, h2⟩ := Bool.and_eq_true_iff.mp h
        rw [foldWC_tyOutlives, foldTy_subst_identity cty kinds outer t h1, foldLifetime_subst_identity cty kinds outer l h2]; rfl
  theorem foldQWC_subst_identity (cty : Nat → Ty) (kinds : List VarKind) (outer : Nat) : (q : QWC) →
      q.scoped cty kinds outer = true → foldQWC (substFolder (identitySubst cty kinds)) outer q = .ok q
    | .mk ks wc, h => by rw [foldQWC_mk, foldWC_subst_identity cty kinds (outer+1) wc h]; rfl
  theorem foldQWCs_subst_identity (cty : Nat → Ty) (kinds : List VarKind) (outer : Nat) : (q : QWCs) →
      q.scoped cty kinds outer = true → foldQWCs (substFolder (identitySubst cty kinds)) outer q = .ok q
    | .nil, _ => rfl
    | .cons q qs, h => by
        have ⟨h1, h2⟩ := Bool.and_eq_true_iff.mp h
        rw [foldQWCs_cons, foldQWC_subst_identity cty kinds outer q h1, foldQWCs_subst_identity cty kinds outer qs h2]; rfl
end

end Chalk
