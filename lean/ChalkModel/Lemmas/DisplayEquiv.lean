/-
  Equivalence of programs up to the order / multiplicity of `dyn` bounds and where-clause lists,
  the `Lowered` and `NoAliasEq` predicates, and the theorems relating `reparse` and `print`.
-/
import ChalkModel.Display

namespace Chalk.Display

mutual
  def Ty.equiv : Ty → Ty → Bool
    | .adt id args, t => match t with
        | .adt id' args' => id == id' && Args.equiv args args'
        | _ => false
    | .scalar s, t => match t with
        | .scalar s' => s == s'
        | _ => false
    | .tuple ts, t => match t with
        | .tuple ts' => Tys.equiv ts ts'
        | _ => false
    | .ref m l a, t => match t with
        | .ref m' l' a' => m == m' && l == l' && Ty.equiv a a'
        | _ => false
    | .raw m a, t => match t with
        | .raw m' a' => m == m' && Ty.equiv a a'
        | _ => false
    | .slice a, t => match t with
        | .slice a' => Ty.equiv a a'
        | _ => false
    | .array a c, t => match t with
        | .array a' c' => Ty.equiv a a' && c == c'
        | _ => false
    | .fnPtr nb args ret, t => match t with
        | .fnPtr nb' args' ret' => nb == nb' && Tys.equiv args args' && Ty.equiv ret ret'
        | _ => false
    | .proj tr assoc self targs aargs, t => match t with
        | .proj tr' assoc' self' targs' aargs' =>
            tr == tr' && assoc == assoc' && Ty.equiv self self' && Args.equiv targs targs'
              && Args.equiv aargs aargs'
        | _ => false
    | .dyn as l, t => match t with
        | .dyn bs l' =>
            l == l' && Bounds.coveredBy as bs.toList && bs.toList.all (fun b => Bounds.covers as b)
        | _ => false
    | .never, t => match t with
        | .never => true
        | _ => false
    | .str, t => match t with
        | .str => true
        | _ => false
    | .bound d i, t => match t with
        | .bound d' i' => d == d' && i == i'
        | _ => false
  termination_by structural t => t
  def GArg.equiv : GArg → GArg → Bool
    | .ty a, g => match g with
        | .ty a' => Ty.equiv a a'
        | _ => false
    | .lt l, g => match g with
        | .lt l' => l == l'
        | _ => false
    | .ct c, g => match g with
        | .ct c' => c == c'
        | _ => false
  termination_by structural t => t
  def Args.equiv : Args → Args → Bool
    | .nil, x => match x with
        | .nil => true
        | _ => false
    | .cons a as, x => match x with
        | .cons b bs => GArg.equiv a b && Args.equiv as bs
        | _ => false
  termination_by structural t => t
  def Tys.equiv : Tys → Tys → Bool
    | .nil, x => match x with
        | .nil => true
        | _ => false
    | .cons a as, x => match x with
        | .cons b bs => Ty.equiv a b && Tys.equiv as bs
        | _ => false
  termination_by structural t => t
  def Bound.equiv : Bound → Bound → Bool
    | .trait ks tr args, x => match x with
        | .trait ks' tr' args' => ks == ks' && tr == tr' && Args.equiv args args'
        | _ => false
    | .aliasEq ks tr assoc targs aargs v, x => match x with
        | .aliasEq ks' tr' assoc' targs' aargs' v' =>
            ks == ks' && tr == tr' && assoc == assoc' && Args.equiv targs targs'
              && Args.equiv aargs aargs' && Ty.equiv v v'
        | _ => false
  termination_by structural t => t
  def Bounds.covers : Bounds → Bound → Bool
    | .nil, _ => false
    | .cons a as, b => Bound.equiv a b || Bounds.covers as b
  termination_by structural t => t
  def Bounds.coveredBy : Bounds → List Bound → Bool
    | .nil, _ => true
    | .cons a as, bs => bs.any (fun b => Bound.equiv a b) && Bounds.coveredBy as bs
  termination_by structural t => t
end

def WC.equiv : WC → WC → Bool
  | .implemented s tr a, .implemented s' tr' a' => Ty.equiv s s' && tr == tr' && Args.equiv a a'
  | .aliasEq s tr assoc ta aa v, .aliasEq s' tr' assoc' ta' aa' v' =>
      Ty.equiv s s' && tr == tr' && assoc == assoc' && Args.equiv ta ta' && Args.equiv aa aa'
        && Ty.equiv v v'
  | .ltOutlives a b, .ltOutlives a' b' => a == a' && b == b'
  | .tyOutlives t l, .tyOutlives t' l' => Ty.equiv t t' && l == l'
  | _, _ => false

def QWC.equiv (p q : QWC) : Bool := p.ks == q.ks && WC.equiv p.wc q.wc

/-- where-clause lists are compared as sets -/
def qwcsEquiv (a b : List QWC) : Bool :=
  a.all (fun x => b.any (fun y => QWC.equiv x y)) && b.all (fun y => a.any (fun x => QWC.equiv x y))

def listEquiv {α : Type} (f : α → α → Bool) : List α → List α → Bool
  | [], [] => true
  | a :: as, b :: bs => f a b && listEquiv f as bs
  | _, _ => false

def AssocTyDatum.equiv (a b : AssocTyDatum) : Bool :=
  a.name == b.name && a.kinds == b.kinds && listEquiv Bound.equiv a.bounds b.bounds
    && qwcsEquiv a.wcs b.wcs

def AssocTyValue.equiv (a b : AssocTyValue) : Bool :=
  a.assoc == b.assoc && a.kinds == b.kinds && Ty.equiv a.value b.value

def AdtDatum.equiv (a b : AdtDatum) : Bool :=
  a.name == b.name && a.upstream == b.upstream && a.fundamental == b.fundamental
    && a.phantomData == b.phantomData && a.oneZst == b.oneZst && a.reprC == b.reprC
    && a.reprPacked == b.reprPacked && a.reprInt == b.reprInt && a.isEnum == b.isEnum
    && a.kinds == b.kinds && qwcsEquiv a.wcs b.wcs
    && listEquiv (listEquiv Ty.equiv) a.vfields b.vfields

def TraitDatum.equiv (a b : TraitDatum) : Bool :=
  a.name == b.name && a.auto == b.auto && a.marker == b.marker && a.upstream == b.upstream
    && a.fundamental == b.fundamental && a.nonEnumerable == b.nonEnumerable && a.coind == b.coind
    && a.objectSafe == b.objectSafe && a.wellKnown == b.wellKnown && a.kinds == b.kinds
    && qwcsEquiv a.wcs b.wcs && listEquiv AssocTyDatum.equiv a.assocs b.assocs

def ImplDatum.equiv (a b : ImplDatum) : Bool :=
  a.external == b.external && a.kinds == b.kinds && a.negative == b.negative && a.tr == b.tr
    && Args.equiv a.args b.args && Ty.equiv a.selfTy b.selfTy && qwcsEquiv a.wcs b.wcs
    && listEquiv AssocTyValue.equiv a.values b.values

def Item.equiv : Item → Item → Bool
  | .adt a, .adt b => AdtDatum.equiv a b
  | .trait a, .trait b => TraitDatum.equiv a b
  | .impl a, .impl b => ImplDatum.equiv a b
  | _, _ => false

def Program.equiv (p q : Program) : Bool := listEquiv Item.equiv p q

/-- `p ≈ q`: equal up to the order and multiplicity of where-clauses and of `dyn` bounds -/
def Program.Equiv (p q : Program) : Prop := Program.equiv p q = true
instance (p q : Program) : Decidable (Program.Equiv p q) := by unfold Program.Equiv; infer_instance
instance : HasEquiv Program := ⟨Program.Equiv⟩
instance (p q : Program) : Decidable (p ≈ q) := inferInstanceAs (Decidable (Program.Equiv p q))
theorem Program.equiv_iff (p q : Program) : p ≈ q ↔ Program.equiv p q = true := Iff.rfl

/-- `bs` contains the bound `forall<ks> tr<args>` -/
def Bounds.hasTrait : Bounds → List VK → String → Args → Bool
  | .nil, _, _, _ => false
  | .cons (.trait ks' tr' args') bs, ks, tr, args =>
      (ks == ks' && tr == tr' && args == args') || Bounds.hasTrait bs ks tr args
  | .cons (.aliasEq ..) bs, ks, tr, args => Bounds.hasTrait bs ks tr args

/-- every alias-eq bound of the first list has its trait bound in `all` -/
def Bounds.aliasOk : Bounds → Bounds → Bool
  | .nil, _ => true
  | .cons (.trait ..) bs, all => Bounds.aliasOk bs all
  | .cons (.aliasEq ks tr _ targs _ _) bs, all => all.hasTrait ks tr targs && Bounds.aliasOk bs all

mutual
  def Ty.lowered : Ty → Bool
    | .adt _ args => args.lowered
    | .scalar _ => true
    | .tuple ts => ts.lowered
    | .ref _ _ t => t.lowered
    | .raw _ t => t.lowered
    | .slice t => t.lowered
    | .array t _ => t.lowered
    | .fnPtr _ args ret => args.lowered && ret.lowered
    | .proj _ _ self targs aargs => self.lowered && targs.lowered && aargs.lowered
    | .dyn bs _ => bs.lowered && Bounds.aliasOk bs bs
    | .never => true
    | .str => true
    | .bound _ _ => true
  def GArg.lowered : GArg → Bool
    | .ty t => t.lowered
    | .lt _ => true
    | .ct _ => true
  def Args.lowered : Args → Bool
    | .nil => true
    | .cons a as => a.lowered && as.lowered
  def Tys.lowered : Tys → Bool
    | .nil => true
    | .cons t ts => t.lowered && ts.lowered
  def Bound.lowered : Bound → Bool
    | .trait _ _ args => args.lowered
    | .aliasEq _ _ _ targs aargs v => targs.lowered && aargs.lowered && v.lowered
  def Bounds.lowered : Bounds → Bool
    | .nil => true
    | .cons b bs => b.lowered && bs.lowered
end

def WC.lowered : WC → Bool
  | .implemented s _ a => s.lowered && a.lowered
  | .aliasEq s _ _ ta aa v => s.lowered && ta.lowered && aa.lowered && v.lowered
  | .ltOutlives _ _ => true
  | .tyOutlives t _ => t.lowered

/-- the accompanying `Implemented` clause of an alias-eq clause is in `ws` -/
def QWC.implOk (ws : List QWC) (q : QWC) : Bool :=
  match q.wc with
  | .aliasEq self tr _ targs _ _ => ws.contains ⟨q.ks, .implemented self tr targs⟩
  | _ => true

def qwcsLowered (ws : List QWC) : Bool :=
  ws.all (fun q => q.wc.lowered && QWC.implOk ws q)

def AssocTyDatum.lowered (a : AssocTyDatum) : Bool :=
  a.bounds.all Bound.lowered && qwcsLowered a.wcs

def Item.lowered : Item → Bool
  | .adt d => qwcsLowered d.wcs && d.vfields.all (fun v => v.all Ty.lowered)
  | .trait d => qwcsLowered d.wcs && d.assocs.all AssocTyDatum.lowered
  | .impl d => d.args.lowered && d.selfTy.lowered && qwcsLowered d.wcs
      && d.values.all (fun v => v.value.lowered)

def Lowered (p : Program) : Bool := p.all Item.lowered

mutual
  def Ty.noAlias : Ty → Bool
    | .adt _ args => args.noAlias
    | .scalar _ => true
    | .tuple ts => ts.noAlias
    | .ref _ _ t => t.noAlias
    | .raw _ t => t.noAlias
    | .slice t => t.noAlias
    | .array t _ => t.noAlias
    | .fnPtr _ args ret => args.noAlias && ret.noAlias
    | .proj _ _ self targs aargs => self.noAlias && targs.noAlias && aargs.noAlias
    | .dyn bs _ => bs.noAliasDyn
    | .never => true
    | .str => true
    | .bound _ _ => true
  def GArg.noAlias : GArg → Bool
    | .ty t => t.noAlias
    | .lt _ => true
    | .ct _ => true
  def Args.noAlias : Args → Bool
    | .nil => true
    | .cons a as => a.noAlias && as.noAlias
  def Tys.noAlias : Tys → Bool
    | .nil => true
    | .cons t ts => t.noAlias && ts.noAlias
  /-- bounds of a `dyn`: no alias-eq bound, and none inside the arguments -/
  def Bounds.noAliasDyn : Bounds → Bool
    | .nil => true
    | .cons (.trait _ _ args) bs => args.noAlias && bs.noAliasDyn
    | .cons (.aliasEq ..) _ => false
end

/-- an inline bound of an associated type: it may be an alias-eq bound, its types are checked -/
def Bound.noAliasInner : Bound → Bool
  | .trait _ _ args => args.noAlias
  | .aliasEq _ _ _ targs aargs v => targs.noAlias && aargs.noAlias && v.noAlias

def WC.noAlias : WC → Bool
  | .implemented s _ a => s.noAlias && a.noAlias
  | .aliasEq .. => false
  | .ltOutlives _ _ => true
  | .tyOutlives t _ => t.noAlias

def qwcsNoAlias (ws : List QWC) : Bool := ws.all (fun q => q.wc.noAlias)

def AssocTyDatum.noAlias (a : AssocTyDatum) : Bool :=
  a.bounds.all Bound.noAliasInner && qwcsNoAlias a.wcs

def Item.noAlias : Item → Bool
  | .adt d => qwcsNoAlias d.wcs && d.vfields.all (fun v => v.all Ty.noAlias)
  | .trait d => qwcsNoAlias d.wcs && d.assocs.all AssocTyDatum.noAlias
  | .impl d => d.args.noAlias && d.selfTy.noAlias && qwcsNoAlias d.wcs
      && d.values.all (fun v => v.value.noAlias)

def NoAliasEq (p : Program) : Bool := p.all Item.noAlias

theorem Bounds.covers_iff : (as : Bounds) → (b : Bound) →
    (Bounds.covers as b = true ↔ ∃ a ∈ as.toList, Bound.equiv a b = true)
  | .nil, b => by simp [Bounds.covers, Bounds.toList]
  | .cons a as, b => by simp [Bounds.covers, Bounds.toList, Bounds.covers_iff as b]

theorem Bounds.coveredBy_iff : (as : Bounds) → (bs : List Bound) →
    (Bounds.coveredBy as bs = true ↔ ∀ a ∈ as.toList, ∃ b ∈ bs, Bound.equiv a b = true)
  | .nil, bs => by simp [Bounds.coveredBy, Bounds.toList]
  | .cons a as, bs => by simp [Bounds.coveredBy, Bounds.toList, Bounds.coveredBy_iff as bs]

theorem Bounds.hasTrait_iff : (bs : Bounds) → (ks : List VK) → (tr : String) → (args : Args) →
    (Bounds.hasTrait bs ks tr args = true ↔ Bound.trait ks tr args ∈ bs.toList)
  | .nil, ks, tr, args => by simp [Bounds.hasTrait, Bounds.toList]
  | .cons (.trait ks' tr' args') bs, ks, tr, args => by
      simp [Bounds.hasTrait, Bounds.toList, Bounds.hasTrait_iff bs ks tr args, and_assoc]
  | .cons (.aliasEq ..) bs, ks, tr, args => by
      simp [Bounds.hasTrait, Bounds.toList, Bounds.hasTrait_iff bs ks tr args]

theorem Ty.equiv_dyn (as bs : Bounds) (l l' : Lt) :
    Ty.equiv (.dyn as l) (.dyn bs l') = true ↔ l = l'
      ∧ (∀ a ∈ as.toList, ∃ b ∈ bs.toList, Bound.equiv a b = true)
      ∧ ∀ b ∈ bs.toList, ∃ a ∈ as.toList, Bound.equiv a b = true := by
  simp only [Ty.equiv, Bool.and_eq_true, beq_iff_eq, List.all_eq_true, Bounds.coveredBy_iff,
    Bounds.covers_iff, and_assoc]

mutual
  theorem Ty.equiv_refl : (t : Ty) → Ty.equiv t t = true
    | .adt id args => by simp [Ty.equiv, Args.equiv_refl args]
    | .tuple ts => by simp [Ty.equiv, Tys.equiv_refl ts]
    | .ref _ _ t | .raw _ t | .slice t | .array t _ => by simp [Ty.equiv, Ty.equiv_refl t]
    | .fnPtr nb args ret => by simp [Ty.equiv, Tys.equiv_refl args, Ty.equiv_refl ret]
    | .proj tr assoc self targs aargs => by
        simp [Ty.equiv, Ty.equiv_refl self, Args.equiv_refl targs, Args.equiv_refl aargs]
    | .dyn bs l =>
        have h := Bounds.equiv_refl bs
        (Ty.equiv_dyn ..).2 ⟨rfl, fun a ha => ⟨a, ha, h a ha⟩, fun a ha => ⟨a, ha, h a ha⟩⟩
    | .scalar _ | .never | .str | .bound _ _ => by simp [Ty.equiv]
  theorem GArg.equiv_refl : (g : GArg) → GArg.equiv g g = true
    | .ty t => by simp [GArg.equiv, Ty.equiv_refl t]
    | .lt _ | .ct _ => by simp [GArg.equiv]
  theorem Args.equiv_refl : (as : Args) → Args.equiv as as = true
    | .nil => by simp [Args.equiv]
    | .cons a as => by simp [Args.equiv, GArg.equiv_refl a, Args.equiv_refl as]
  theorem Tys.equiv_refl : (ts : Tys) → Tys.equiv ts ts = true
    | .nil => by simp [Tys.equiv]
    | .cons t ts => by simp [Tys.equiv, Ty.equiv_refl t, Tys.equiv_refl ts]
  theorem Bound.equiv_refl : (b : Bound) → Bound.equiv b b = true
    | .trait ks tr args => by simp [Bound.equiv, Args.equiv_refl args]
    | .aliasEq ks tr assoc targs aargs v => by
        simp [Bound.equiv, Args.equiv_refl targs, Args.equiv_refl aargs, Ty.equiv_refl v]
  theorem Bounds.equiv_refl : (bs : Bounds) → ∀ b ∈ bs.toList, Bound.equiv b b = true
    | .nil => by simp [Bounds.toList]
    | .cons b bs => fun x hx =>
        (List.mem_cons.1 hx).elim (fun e => e ▸ Bound.equiv_refl b) (Bounds.equiv_refl bs x)
end

theorem Bounds.mem_expandDyn_of_mem : (bs : Bounds) → ∀ b ∈ bs.toList,
    b.expandInner ∈ bs.expandDyn.toList
  | .nil => by simp [Bounds.toList]
  | .cons (.trait ks tr args) bs => by
      simp only [Bounds.toList, Bounds.expandDyn, List.mem_cons]
      rintro b (rfl | hb)
      · exact Or.inl (by simp [Bound.expandInner])
      · exact Or.inr (Bounds.mem_expandDyn_of_mem bs b hb)
  | .cons (.aliasEq ks tr assoc targs aargs v) bs => by
      simp only [Bounds.toList, Bounds.expandDyn, List.mem_cons]
      rintro b (rfl | hb)
      · exact Or.inr (Or.inl (by simp [Bound.expandInner]))
      · exact Or.inr (Or.inr (Bounds.mem_expandDyn_of_mem bs b hb))

/-- an expanded bound comes from a bound of `all`, provided `all` holds `bs` and, for each of its
    alias-eq bounds, the trait bound that `expandDyn` puts in front -/
theorem Bounds.mem_expandDyn_elim : (bs all : Bounds) → Bounds.aliasOk bs all = true →
    (∀ b ∈ bs.toList, b ∈ all.toList) → (x : Bound) → x ∈ bs.expandDyn.toList →
    ∃ b ∈ all.toList, x = b.expandInner
  | .nil, all, _, _, x, hx => by simp [Bounds.expandDyn, Bounds.toList] at hx
  | .cons (.trait ks tr args) bs, all, h, hs, x, hx => by
      simp only [Bounds.aliasOk] at h
      simp only [Bounds.toList, List.forall_mem_cons] at hs
      simp only [Bounds.expandDyn, Bounds.toList, List.mem_cons] at hx
      rcases hx with rfl | hx
      · exact ⟨_, hs.1, by simp [Bound.expandInner]⟩
      · exact Bounds.mem_expandDyn_elim bs all h hs.2 x hx
  | .cons (.aliasEq ks tr assoc targs aargs v) bs, all, h, hs, x, hx => by
      simp only [Bounds.aliasOk, Bool.and_eq_true] at h
      simp only [Bounds.toList, List.forall_mem_cons] at hs
      simp only [Bounds.expandDyn, Bounds.toList, List.mem_cons] at hx
      rcases hx with rfl | rfl | hx
      · exact ⟨_, (Bounds.hasTrait_iff all ks tr targs).1 h.1, by simp [Bound.expandInner]⟩
      · exact ⟨_, hs.1, by simp [Bound.expandInner]⟩
      · exact Bounds.mem_expandDyn_elim bs all h.2 hs.2 x hx

mutual
  theorem Ty.expand_equiv : (t : Ty) → Ty.lowered t = true → Ty.equiv t.expand t = true
    | .adt id args, h => by simp [Ty.expand, Ty.equiv, Args.expand_equiv args h]
    | .tuple ts, h => by simp [Ty.expand, Ty.equiv, Tys.expand_equiv ts h]
    | .ref _ _ t, h | .raw _ t, h | .slice t, h | .array t _, h => by
        simp [Ty.expand, Ty.equiv, Ty.expand_equiv t h]
    | .fnPtr nb args ret, h => by
        simp only [Ty.lowered, Bool.and_eq_true] at h
        simp [Ty.expand, Ty.equiv, Tys.expand_equiv args h.1, Ty.expand_equiv ret h.2]
    | .proj tr assoc self targs aargs, h => by
        simp only [Ty.lowered, Bool.and_eq_true] at h
        simp [Ty.expand, Ty.equiv, Ty.expand_equiv self h.1.1, Args.expand_equiv targs h.1.2,
          Args.expand_equiv aargs h.2]
    | .dyn bs l, h => by
        simp only [Ty.lowered, Bool.and_eq_true] at h
        have ih := Bounds.expand_equiv bs h.1
        refine (Ty.equiv_dyn ..).2 ⟨rfl, fun a ha => ?_,
          fun b hb => ⟨_, Bounds.mem_expandDyn_of_mem bs b hb, ih b hb⟩⟩
        obtain ⟨b, hb, rfl⟩ := Bounds.mem_expandDyn_elim bs bs h.2 (fun _ hb => hb) a ha
        exact ⟨b, hb, ih b hb⟩
    | .scalar _, _ | .never, _ | .str, _ | .bound _ _, _ => by simp [Ty.expand, Ty.equiv]
  theorem GArg.expand_equiv : (g : GArg) → GArg.lowered g = true → GArg.equiv g.expand g = true
    | .ty t, h => by simp [GArg.expand, GArg.equiv, Ty.expand_equiv t h]
    | .lt _, _ | .ct _, _ => by simp [GArg.expand, GArg.equiv]
  theorem Args.expand_equiv : (as : Args) → Args.lowered as = true → Args.equiv as.expand as = true
    | .nil, _ => by simp [Args.expand, Args.equiv]
    | .cons a as, h => by
        simp only [Args.lowered, Bool.and_eq_true] at h
        simp [Args.expand, Args.equiv, GArg.expand_equiv a h.1, Args.expand_equiv as h.2]
  theorem Tys.expand_equiv : (ts : Tys) → Tys.lowered ts = true → Tys.equiv ts.expand ts = true
    | .nil, _ => by simp [Tys.expand, Tys.equiv]
    | .cons t ts, h => by
        simp only [Tys.lowered, Bool.and_eq_true] at h
        simp [Tys.expand, Tys.equiv, Ty.expand_equiv t h.1, Tys.expand_equiv ts h.2]
  theorem Bound.expand_equiv : (b : Bound) → Bound.lowered b = true →
      Bound.equiv b.expandInner b = true
    | .trait ks tr args, h => by simp [Bound.expandInner, Bound.equiv, Args.expand_equiv args h]
    | .aliasEq ks tr assoc targs aargs v, h => by
        simp only [Bound.lowered, Bool.and_eq_true] at h
        simp [Bound.expandInner, Bound.equiv, Args.expand_equiv targs h.1.1,
          Args.expand_equiv aargs h.1.2, Ty.expand_equiv v h.2]
  theorem Bounds.expand_equiv : (bs : Bounds) → Bounds.lowered bs = true →
      ∀ b ∈ bs.toList, Bound.equiv b.expandInner b = true
    | .nil, _ => by simp [Bounds.toList]
    | .cons b bs, h => by
        simp only [Bounds.lowered, Bool.and_eq_true] at h
        exact fun x hx => (List.mem_cons.1 hx).elim (fun e => e ▸ Bound.expand_equiv b h.1)
          (Bounds.expand_equiv bs h.2 x)
end

theorem Bounds.expandDyn_equiv (bs : Bounds) (h1 : Bounds.lowered bs = true)
    (h2 : Bounds.aliasOk bs bs = true) :
    Bounds.coveredBy bs.expandDyn bs.toList = true
      ∧ ∀ b ∈ bs.toList, Bounds.covers bs.expandDyn b = true := by
  have h : Ty.equiv (Ty.dyn bs .static).expand (Ty.dyn bs .static) = true :=
    Ty.expand_equiv _ (by simp [Ty.lowered, h1, h2])
  simpa [Ty.expand, Ty.equiv] using h

theorem WC.expand_equiv (w : WC) (h : WC.lowered w = true) : WC.equiv w.expandTys w = true := by
  cases w <;> simp only [WC.lowered, Bool.and_eq_true] at h <;>
    simp [WC.expandTys, WC.equiv, Ty.expand_equiv, Args.expand_equiv, *]

theorem WC.equiv_refl (w : WC) : WC.equiv w w = true := by
  cases w <;> simp [WC.equiv, Ty.equiv_refl, Args.equiv_refl]

theorem QWC.equiv_refl (q : QWC) : QWC.equiv q q = true := by
  simp [QWC.equiv, WC.equiv_refl]

theorem mem_reparseQWCs (ws : List QWC) (x : QWC) :
    x ∈ reparseQWCs ws ↔ ∃ q ∈ ws, x ∈ expandQWC ⟨q.ks, q.wc.expandTys⟩ := by
  simp only [reparseQWCs, expandQWCs, List.mem_flatten, List.mem_map]
  constructor
  · rintro ⟨l, ⟨a, ⟨q, hq, rfl⟩, rfl⟩, hx⟩
    exact ⟨q, hq, hx⟩
  · rintro ⟨q, hq, hx⟩
    exact ⟨_, ⟨_, ⟨q, hq, rfl⟩, rfl⟩, hx⟩

theorem head_mem_expandQWC (q : QWC) : q ∈ expandQWC q := by
  rcases q with ⟨ks, wc⟩
  cases wc <;> simp [expandQWC]

theorem QWC.expand_equiv (q : QWC) (h : q.wc.lowered = true) :
    QWC.equiv ⟨q.ks, q.wc.expandTys⟩ q = true := by
  simp [QWC.equiv, WC.expand_equiv _ h]

theorem reparseQWCs_equiv (ws : List QWC) (h : qwcsLowered ws = true) :
    qwcsEquiv (reparseQWCs ws) ws = true := by
  simp only [qwcsLowered, List.all_eq_true, Bool.and_eq_true] at h
  simp only [qwcsEquiv, List.all_eq_true, List.any_eq_true, Bool.and_eq_true]
  constructor
  · intro x hx
    obtain ⟨q, hq, hxq⟩ := (mem_reparseQWCs ws x).1 hx
    obtain ⟨hl, hi⟩ := h q hq
    rcases q with ⟨ks, wc⟩
    cases wc with
    | aliasEq s tr assoc ta aa v =>
        simp only [WC.expandTys, expandQWC, List.mem_cons, List.not_mem_nil, or_false] at hxq
        rcases hxq with rfl | rfl
        · exact ⟨_, hq, QWC.expand_equiv _ hl⟩
        -- the `Implemented` clause that comes with it is matched by the one `implOk` asks for
        · simp only [QWC.implOk, List.contains_iff_mem] at hi
          simp only [WC.lowered, Bool.and_eq_true] at hl
          exact ⟨_, hi, by
            simp [QWC.equiv, WC.equiv, Ty.expand_equiv s hl.1.1.1, Args.expand_equiv ta hl.1.1.2]⟩
    | _ =>
        simp only [WC.expandTys, expandQWC, List.mem_singleton] at hxq
        exact ⟨_, hq, hxq ▸ QWC.expand_equiv _ hl⟩
  · intro y hy
    exact ⟨_, (mem_reparseQWCs ws _).2 ⟨y, hy, head_mem_expandQWC _⟩, QWC.expand_equiv y (h y hy).1⟩

theorem qwcsEquiv_refl (ws : List QWC) : qwcsEquiv ws ws = true := by
  simp only [qwcsEquiv, List.all_eq_true, List.any_eq_true, Bool.and_eq_true]
  exact ⟨fun x hx => ⟨x, hx, QWC.equiv_refl x⟩, fun x hx => ⟨x, hx, QWC.equiv_refl x⟩⟩

theorem listEquiv_map_left {α : Type} {f : α → α → Bool} {g : α → α} :
    (l : List α) → (∀ a ∈ l, f (g a) a = true) → listEquiv f (l.map g) l = true
  | [], _ => rfl
  | a :: l, h => by
      obtain ⟨ha, hl⟩ := List.forall_mem_cons.1 h
      simp [listEquiv, ha, listEquiv_map_left l hl]

theorem listEquiv_refl {α : Type} {f : α → α → Bool} (h : ∀ a, f a a = true) :
    (l : List α) → listEquiv f l l = true
  | [] => rfl
  | a :: l => by simp [listEquiv, h a, listEquiv_refl h l]

theorem AssocTyDatum.reparse_equiv (a : AssocTyDatum) (h : a.lowered = true) :
    AssocTyDatum.equiv
      { a with bounds := a.bounds.map Bound.expandInner, wcs := reparseQWCs a.wcs } a = true := by
  simp only [AssocTyDatum.lowered, List.all_eq_true, Bool.and_eq_true] at h
  simp only [AssocTyDatum.equiv, Bool.and_eq_true, beq_self_eq_true, true_and]
  exact ⟨listEquiv_map_left _ (fun b hb => Bound.expand_equiv b (h.1 b hb)),
    reparseQWCs_equiv _ h.2⟩

theorem Item.reparse_equiv (i : Item) (h : i.lowered = true) : Item.equiv i.reparse i = true := by
  cases i <;> simp only [Item.lowered, List.all_eq_true, Bool.and_eq_true] at h <;>
    simp only [Item.reparse, Item.equiv, AdtDatum.equiv, TraitDatum.equiv, ImplDatum.equiv,
      Bool.and_eq_true, beq_self_eq_true, true_and]
  case adt d =>
    exact ⟨reparseQWCs_equiv _ h.1, listEquiv_map_left _ fun v hv =>
      listEquiv_map_left _ fun t ht => Ty.expand_equiv t (h.2 v hv t ht)⟩
  case trait d =>
    exact ⟨reparseQWCs_equiv _ h.1,
      listEquiv_map_left _ fun a ha => AssocTyDatum.reparse_equiv a (h.2 a ha)⟩
  case impl d =>
    refine ⟨⟨⟨Args.expand_equiv _ h.1.1.1, Ty.expand_equiv _ h.1.1.2⟩,
      reparseQWCs_equiv _ h.1.2⟩, listEquiv_map_left _ fun v hv => ?_⟩
    simp [AssocTyValue.equiv, Ty.expand_equiv _ (h.2 v hv)]

/-- lowering again (`reparse`) changes a lowered program only up to `≈` -/
theorem reparse_equiv : ∀ p : Program, Lowered p = true → Program.equiv (reparse p) p = true := by
  intro p h
  simp only [Lowered, List.all_eq_true] at h
  exact listEquiv_map_left _ (fun i hi => Item.reparse_equiv i (h i hi))

/-! reflexivity at the item level (the equivalence is not vacuous on the diagonal) -/

theorem AssocTyDatum.equiv_refl (a : AssocTyDatum) : AssocTyDatum.equiv a a = true := by
  simp [AssocTyDatum.equiv, listEquiv_refl Bound.equiv_refl, qwcsEquiv_refl]

theorem AssocTyValue.equiv_refl (v : AssocTyValue) : AssocTyValue.equiv v v = true := by
  simp [AssocTyValue.equiv, Ty.equiv_refl]

theorem Item.equiv_refl (i : Item) : Item.equiv i i = true := by
  cases i with
  | adt d =>
      simp [Item.equiv, AdtDatum.equiv, qwcsEquiv_refl, listEquiv_refl (listEquiv_refl Ty.equiv_refl)]
  | trait d =>
      simp [Item.equiv, TraitDatum.equiv, qwcsEquiv_refl, listEquiv_refl AssocTyDatum.equiv_refl]
  | impl d =>
      simp [Item.equiv, ImplDatum.equiv, Args.equiv_refl, Ty.equiv_refl, qwcsEquiv_refl,
        listEquiv_refl AssocTyValue.equiv_refl]

theorem Program.equiv_refl (p : Program) : Program.equiv p p = true :=
  listEquiv_refl Item.equiv_refl p

mutual
  theorem Ty.expand_eq_of_noAlias : (t : Ty) → t.noAlias = true → t.expand = t
    | .adt id args, h => by simp [Ty.expand, Args.expand_eq_of_noAlias args h]
    | .tuple ts, h => by simp [Ty.expand, Tys.expand_eq_of_noAlias ts h]
    | .ref _ _ t, h | .raw _ t, h | .slice t, h | .array t _, h => by
        simp [Ty.expand, Ty.expand_eq_of_noAlias t h]
    | .fnPtr nb args ret, h => by
        simp only [Ty.noAlias, Bool.and_eq_true] at h
        simp [Ty.expand, Tys.expand_eq_of_noAlias args h.1, Ty.expand_eq_of_noAlias ret h.2]
    | .proj tr assoc self targs aargs, h => by
        simp only [Ty.noAlias, Bool.and_eq_true] at h
        simp [Ty.expand, Ty.expand_eq_of_noAlias self h.1.1, Args.expand_eq_of_noAlias targs h.1.2,
          Args.expand_eq_of_noAlias aargs h.2]
    | .dyn bs l, h => by simp [Ty.expand, Bounds.expandDyn_eq_of_noAlias bs h]
    | .scalar _, _ | .never, _ | .str, _ | .bound _ _, _ => by simp [Ty.expand]
  theorem GArg.expand_eq_of_noAlias : (g : GArg) → g.noAlias = true → g.expand = g
    | .ty t, h => by simp [GArg.expand, Ty.expand_eq_of_noAlias t h]
    | .lt _, _ | .ct _, _ => by simp [GArg.expand]
  theorem Args.expand_eq_of_noAlias : (as : Args) → as.noAlias = true → as.expand = as
    | .nil, _ => by simp [Args.expand]
    | .cons a as, h => by
        simp only [Args.noAlias, Bool.and_eq_true] at h
        simp [Args.expand, GArg.expand_eq_of_noAlias a h.1, Args.expand_eq_of_noAlias as h.2]
  theorem Tys.expand_eq_of_noAlias : (ts : Tys) → ts.noAlias = true → ts.expand = ts
    | .nil, _ => by simp [Tys.expand]
    | .cons t ts, h => by
        simp only [Tys.noAlias, Bool.and_eq_true] at h
        simp [Tys.expand, Ty.expand_eq_of_noAlias t h.1, Tys.expand_eq_of_noAlias ts h.2]
  theorem Bounds.expandDyn_eq_of_noAlias : (bs : Bounds) → bs.noAliasDyn = true → bs.expandDyn = bs
    | .nil, _ => by simp [Bounds.expandDyn]
    | .cons (.trait ks tr args) bs, h => by
        simp only [Bounds.noAliasDyn, Bool.and_eq_true] at h
        simp [Bounds.expandDyn, Args.expand_eq_of_noAlias args h.1,
          Bounds.expandDyn_eq_of_noAlias bs h.2]
    | .cons (.aliasEq ..) bs, h => by simp [Bounds.noAliasDyn] at h
end

theorem Bound.expandInner_eq_of_noAlias (b : Bound) (h : b.noAliasInner = true) :
    b.expandInner = b := by
  cases b <;> simp only [Bound.noAliasInner, Bool.and_eq_true] at h <;>
    simp [Bound.expandInner, Args.expand_eq_of_noAlias, Ty.expand_eq_of_noAlias, *]

theorem WC.expandTys_eq_of_noAlias (w : WC) (h : w.noAlias = true) : w.expandTys = w := by
  cases w <;> simp only [WC.noAlias, Bool.and_eq_true, Bool.false_eq_true] at h <;>
    simp [WC.expandTys, Ty.expand_eq_of_noAlias, Args.expand_eq_of_noAlias, *]

theorem map_eq_self {α : Type} {g : α → α} {l : List α} (h : ∀ a ∈ l, g a = a) : l.map g = l :=
  (List.map_congr_left h).trans (List.map_id l)

theorem reparseQWCs_eq_of_noAlias : (ws : List QWC) → qwcsNoAlias ws = true → reparseQWCs ws = ws
  | [], _ => by simp [reparseQWCs, expandQWCs]
  | ⟨ks, wc⟩ :: ws, h => by
      simp only [qwcsNoAlias, List.all_cons, Bool.and_eq_true] at h
      have ih := reparseQWCs_eq_of_noAlias ws (by simpa [qwcsNoAlias] using h.2)
      have hw := WC.expandTys_eq_of_noAlias wc h.1
      simp only [reparseQWCs, expandQWCs, List.map_cons, List.flatten_cons] at ih ⊢
      rw [ih, hw]
      cases wc with
      | aliasEq s tr assoc ta aa v => simp [WC.noAlias] at h
      | _ => rfl

theorem AssocTyDatum.reparse_eq_of_noAlias (a : AssocTyDatum) (h : a.noAlias = true) :
    { a with bounds := a.bounds.map Bound.expandInner, wcs := reparseQWCs a.wcs } = a := by
  simp only [AssocTyDatum.noAlias, List.all_eq_true, Bool.and_eq_true] at h
  rw [map_eq_self fun b hb => Bound.expandInner_eq_of_noAlias b (h.1 b hb),
    reparseQWCs_eq_of_noAlias a.wcs h.2]

theorem Item.reparse_eq_of_noAlias (i : Item) (h : i.noAlias = true) : i.reparse = i := by
  cases i <;> simp only [Item.noAlias, List.all_eq_true, Bool.and_eq_true] at h
  case adt d =>
    simp only [Item.reparse, reparseQWCs_eq_of_noAlias d.wcs h.1,
      map_eq_self fun v hv => map_eq_self fun t ht => Ty.expand_eq_of_noAlias t (h.2 v hv t ht)]
  case trait d =>
    simp only [Item.reparse, reparseQWCs_eq_of_noAlias d.wcs h.1,
      map_eq_self fun a ha => AssocTyDatum.reparse_eq_of_noAlias a (h.2 a ha)]
  case impl d =>
    simp only [Item.reparse, reparseQWCs_eq_of_noAlias d.wcs h.1.2,
      Args.expand_eq_of_noAlias d.args h.1.1.1, Ty.expand_eq_of_noAlias d.selfTy h.1.1.2,
      map_eq_self fun v hv => congrArg (fun t => { v with value := t })
        (Ty.expand_eq_of_noAlias v.value (h.2 v hv))]

theorem reparse_eq_of_noAliasEq : ∀ p : Program, NoAliasEq p = true → reparse p = p := by
  intro p h
  simp only [NoAliasEq, List.all_eq_true] at h
  exact map_eq_self (fun i hi => Item.reparse_eq_of_noAlias i (h i hi))

/-- printing is stable under `reparse` on the fragment without alias-eq clauses -/
theorem print_stable_partial : ∀ p : Program, NoAliasEq p = true → print (reparse p) = print p := by
  intro p h
  rw [reparse_eq_of_noAliasEq p h]

/-! ## The witness against unrestricted stability of the rendering -/

/-- `trait Baux { type Assoc; }  struct Foo<T> where T: Baux<Assoc = T>, T: Baux {}` -/
def refuteW : Program :=
  [ .trait ⟨"Baux", false, false, false, false, false, false, false, none, [.ty], [],
      [⟨"Assoc", [.ty], [], []⟩]⟩,
    .adt ⟨"Foo", false, false, false, false, false, false, none, false, [.ty],
      [⟨[], .aliasEq (.bound 1 0) "Baux" "Assoc" .nil .nil (.bound 1 0)⟩,
       ⟨[], .implemented (.bound 1 0) "Baux" .nil⟩], [[]]⟩ ]

theorem refuteW_lowered : Lowered refuteW = true := by decide

theorem print_stable_refuted : print (reparse refuteW) ≠ print refuteW := by decide +kernel

/-- the counterexample is outside the fragment of `print_stable_partial` -/
theorem refuteW_not_noAliasEq : NoAliasEq refuteW = false := by decide

/-- ```
trait A {}
trait B { type X; }
trait Tr { type Assoc: A where Self: A; }
struct S<'a, T, const N> where T: Tr {
  field_0: &'a mut T, field_1: [T; N], field_2: for<'x> fn(&'x u8, T) -> u8,
  field_3: dyn A + B + B<X = u8> + 'static, field_4: <T as Tr>::Assoc
}
impl<T> Tr for *const T where T: A { type Assoc = T; }
``` -/
def exBig : Program :=
  [ .trait ⟨"A", false, false, false, false, false, false, false, none, [.ty], [], []⟩,
    .trait ⟨"B", false, false, false, false, false, false, false, none, [.ty], [],
      [⟨"X", [.ty], [], []⟩]⟩,
    .trait ⟨"Tr", false, false, false, false, false, false, false, none, [.ty], [],
      [⟨"Assoc", [.ty], [.trait [] "A" .nil], [⟨[], .implemented (.bound 1 0) "A" .nil⟩]⟩]⟩,
    .adt ⟨"S", false, false, false, false, false, false, none, false, [.lt, .ty, .ct],
      [⟨[], .implemented (.bound 1 1) "Tr" .nil⟩],
      [[ .ref true (.bound 0 0) (.bound 0 1),
         .array (.bound 0 1) (.bound 0 2),
         .fnPtr 1 (.cons (.ref false (.bound 0 0) (.scalar .u8)) (.cons (.bound 1 1) .nil))
           (.scalar .u8),
         .dyn (.cons (.trait [] "A" .nil) (.cons (.trait [] "B" .nil)
           (.cons (.aliasEq [] "B" "X" .nil .nil (.scalar .u8)) .nil))) .static,
         .proj "Tr" "Assoc" (.bound 0 1) .nil .nil ]]⟩,
    .impl ⟨false, [.ty], false, "Tr", .nil, .raw false (.bound 0 0),
      [⟨[], .implemented (.bound 1 0) "A" .nil⟩],
      [⟨"Assoc", [.ty], .bound 0 0⟩]⟩ ]

theorem exBig_lowered : Lowered exBig = true := by decide

theorem exBig_not_noAliasEq : NoAliasEq exBig = false := by decide

theorem exBig_reparse_equiv : Program.equiv (reparse exBig) exBig = true :=
  reparse_equiv exBig exBig_lowered

/-- here the reparsed program really differs (the `dyn` gets a second `B` bound) -/
theorem exBig_reparse_ne : reparse exBig ≠ exBig := by decide +kernel

/-! the equivalence evaluates, and it discriminates -/
example : Program.equiv (reparse exBig) exBig = true := exBig_reparse_equiv
example : Program.equiv (reparse refuteW) refuteW = true := reparse_equiv refuteW refuteW_lowered
example : Program.equiv refuteW exBig = false := by decide
example : Ty.equiv (.dyn (.cons (.trait [] "A" .nil) (.cons (.trait [] "B" .nil) .nil)) .static)
    (.dyn (.cons (.trait [] "B" .nil) (.cons (.trait [] "A" .nil) (.cons (.trait [] "B" .nil) .nil)))
      .static) = true := by decide
example : Ty.equiv (.dyn (.cons (.trait [] "A" .nil) .nil) .static)
    (.dyn (.cons (.trait [] "A" .nil) (.cons (.trait [] "B" .nil) .nil)) .static) = false := by decide
example : Ty.equiv (.dyn (.cons (.trait [] "A" .nil) (.cons (.trait [] "B" .nil) .nil)) .static)
    (.dyn (.cons (.trait [] "A" .nil) .nil) .static) = false := by decide

end Chalk.Display
