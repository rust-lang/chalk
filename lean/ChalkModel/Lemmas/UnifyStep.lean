/-
  What one level of `relate_ty_ty` does, by the heads of the two types after the kind check and
  shallow normalization. `relateTyStep_cases` analyses the dispatch of `relate_ty_ty` once, for the
  soundness proof (`UnifySound.lean`) and for the traversal of the rigid fragments (`UnifyRigid.lean`).
-/
import ChalkModel.Lemmas.UnifyDefs

namespace Chalk

def Ty.isInfer : Ty → Bool
  | .infer _ _ => true
  | _ => false

/-- not a bound variable, an alias, the error type or `dyn`: the heads that `relate_ty_ty` treats
    as a variable or structurally -/
def Ty.plain : Ty → Bool
  | .bound _ _ | .proj _ _ | .opaque _ _ | .error | .dyn _ _ _ => false
  | _ => true

theorem Table.normalizeInner_noninfer (t : Table) (T : Ty) (h : T.isInfer = false) :
    t.normalizeTyShallowInner T = none := by
  cases T <;> first | rfl | cases h

theorem Table.shallow_noninfer (t : Table) {a : Ty} (h : a.isInfer = false) :
    t.tyKindOk a = true ∧ (t.normalizeTyShallow a).getD a = a := by
  refine ⟨by cases a <;> first | rfl | cases h; done, ?_⟩
  unfold Table.normalizeTyShallow; rw [t.normalizeInner_noninfer a h]; rfl

theorem Ty.eraseLt_ctorIdx (a : Ty) : a.eraseLt.ctorIdx = a.ctorIdx := by cases a <;> rfl

theorem Ty.eraseLt_ne_of_ctorIdx {a b : Ty} (h : (a.ctorIdx == b.ctorIdx) = false) : a.eraseLt ≠ b.eraseLt :=
  fun e => by rw [← a.eraseLt_ctorIdx, e, b.eraseLt_ctorIdx, beq_self_eq_true] at h; cases h

theorem relateSameCtor_app (rel : RelTy) (db : UDb) (jf : Nat) (v : Variance) (n : TyName) (as bs : Args)
    (st : UState) :
    relateSameCtor rel db jf v (.app n as) (.app n bs) st =
      zipSubsts rel jf v (declaredVariances db n) 0 as bs st := by
  cases n <;> exact if_pos rfl

theorem relateSameCtor_app_ne (rel : RelTy) (db : UDb) (jf : Nat) (v : Variance) {n n' : TyName} (h : n ≠ n')
    (as bs : Args) (st : UState) :
    relateSameCtor rel db jf v (.app n as) (.app n' bs) st = .error .noSolution := by
  cases n <;> cases n' <;> first | rfl | exact if_neg fun e => h (congrArg _ e)

/-- the `(InferenceVar, InferenceVar)` arm of `relate_ty_ty` -/
def relateVarVar (v : Variance) (x : Nat) (k : TyVarKind) (y : Nat) (k' : TyVarKind) (st : UState) : URes UState :=
  if k = .general ∧ k' = .general then
    match v with
    | .inv => st.withTable (st.table.unifyVarVar x y)
    | .co => .ok (pushSubtype (.infer x k) (.infer y k') st)
    | .contra => .ok (pushSubtype (.infer y k') (.infer x k) st)
  else if k = k' then st.withTable (st.table.unifyVarVar x y)
  else if k = .general then st.withTable (st.table.unifyVarValue x (.bound (.ty (.infer y k'))))
  else if k' = .general then st.withTable (st.table.unifyVarValue y (.bound (.ty (.infer x k))))
  else .error .noSolution

theorem relateVarVar_inv {x y : Nat} {k k' : TyVarKind} {st st' : UState}
    (h : relateVarVar .inv x k y k' st = .ok st') :
    (k = k' ∧ st.withTable (st.table.unifyVarVar x y) = .ok st') ∨
    (k = .general ∧ k' ≠ .general ∧
      st.withTable (st.table.unifyVarValue x (.bound (.ty (.infer y k')))) = .ok st') ∨
    (k' = .general ∧ k ≠ .general ∧
      st.withTable (st.table.unifyVarValue y (.bound (.ty (.infer x k)))) = .ok st') := by
  unfold relateVarVar at h
  by_cases hgg : k = .general ∧ k' = .general
  · rw [if_pos hgg] at h; exact .inl ⟨hgg.1.trans hgg.2.symm, h⟩
  rw [if_neg hgg] at h
  by_cases hkk : k = k'
  · rw [if_pos hkk] at h; exact .inl ⟨hkk, h⟩
  rw [if_neg hkk] at h
  by_cases hk : k = .general
  · rw [if_pos hk] at h; exact .inr (.inl ⟨hk, fun e => hgg ⟨hk, e⟩, h⟩)
  rw [if_neg hk] at h
  by_cases hk' : k' = .general
  · rw [if_pos hk'] at h; exact .inr (.inr ⟨hk', hk, h⟩)
  · rw [if_neg hk'] at h; cases h

/-- the tests of `relate_ty_ty` that a plain head fails -/
theorem Ty.plain_flags {a : Ty} (h : a.plain = true) :
    a.isBoundVar = false ∧ a.asAlias = none ∧ a.isErrorTy = false ∧ a.isDyn = false := by
  cases a <;> first | exact ⟨rfl, rfl, rfl, rfl⟩ | cases h

/-- The arms: the same type; two variables; a variable and a non-variable; equal heads (the
    component-wise relation); anything else is `NoSolution`, and then `a`, `b` differ even up to lifetimes. -/
theorem relateTyStep_cases {motive : Ty → Ty → URes UState → Prop}
    (rel : RelTy) (db : UDb) (jf : Nat) (v : Variance) (st : UState) {a0 b0 a b : Ty}
    (hk : (st.table.tyKindOk a0 && st.table.tyKindOk b0) = true)
    (ea : (st.table.normalizeTyShallow a0).getD a0 = a) (eb : (st.table.normalizeTyShallow b0).getD b0 = b)
    (fa : a.plain = true) (fb : b.plain = true) (same : ∀ a, motive a a (.ok st))
    (varVar : ∀ x k y k', motive (.infer x k) (.infer y k') (relateVarVar v x k y k' st))
    (varTy : ∀ x k b, b.isInfer = false → b.plain = true → motive (.infer x k) b (relateVarTy rel db jf v x k b st))
    (tyVar : ∀ a y k', a.isInfer = false → a.plain = true →
      motive a (.infer y k') (relateVarTy rel db jf v.invert y k' a st))
    (app : ∀ n as bs, motive (.app n as) (.app n bs) (zipSubsts rel jf v (declaredVariances db n) 0 as bs st))
    (slice : ∀ ta tb, motive (.slice ta) (.slice tb) (rel v ta tb st))
    (raw : ∀ m ta tb, motive (.raw m ta) (.raw m tb) (rel (v.xform (if m then .inv else .co)) ta tb st))
    (ref : ∀ m la ta lb tb, motive (.ref m la ta) (.ref m lb tb)
      (match relateLifetime (v.xform .contra) la lb st with
        | .error e => .error e
        | .ok st1 => rel (v.xform (if m then .inv else .co)) ta tb st1))
    (array : ∀ ta ka tb kb, motive (.array ta ka) (.array tb kb)
      (match rel v ta tb st with
        | .error e => .error e
        | .ok st1 => relateConst rel jf v ka kb st1))
    (function : ∀ nb sig as nb' bs, motive (.function nb sig as) (.function nb' sig bs)
      (relateFnBinders rel jf v nb as nb' bs st))
    (mismatch : ∀ a b, a.eraseLt ≠ b.eraseLt → motive a b (.error .noSolution)) :
    motive a b (relateTyStep rel db jf v a0 b0 st) := by
  have e : relateTyStep rel db jf v a0 b0 st = relateTyStep rel db jf v a0 b0 st := rfl
  by_cases hne : a = b
  · subst hne
    conv at e =>
      rhs; unfold relateTyStep
      simp only [hk, ea, eb, Bool.not_true, Bool.false_eq_true, if_false, if_true]
    rw [e]; exact same a
  -- resolved once here: otherwise each pair of heads below evaluates these tests again
  obtain ⟨a1, a2, a3, a4⟩ := Ty.plain_flags fa
  obtain ⟨b1, b2, b3, b4⟩ := Ty.plain_flags fb
  conv at e =>
    rhs; unfold relateTyStep
    simp only [hk, ea, eb, Bool.not_true, Bool.false_eq_true, if_false, if_neg hne, a1, a2, a3, a4, b1, b2, b3, b4,
      Bool.or_self]
  rw [e]; clear e hk ea eb
  cases a with
  | bound | proj | «opaque» | error | dyn => cases fa
  | infer x k =>
    cases b with
    | infer y k' => exact varVar x k y k'
    | bound | proj | «opaque» | error | dyn => cases fb
    | _ => exact varTy x k _ rfl fb
  | app n as =>
    cases b with
    | app n' bs =>
      by_cases hn : n = n'
      · subst hn; exact relateSameCtor_app rel db jf v n as bs st ▸ app n as bs
      · exact relateSameCtor_app_ne rel db jf v hn as bs st ▸
          mismatch (.app n as) (.app n' bs) (fun e => hn (Ty.app.inj e).1)
    | infer y k' => exact tyVar _ y k' rfl fa
    | bound | proj | «opaque» | error | dyn => cases fb
    | _ => exact mismatch _ _ (Ty.eraseLt_ne_of_ctorIdx rfl)
  | scalar s =>
    cases b with
    | scalar s' =>
      show motive _ _ (if s = s' then .ok st else .error .noSolution)
      -- `hne : a ≠ b` serves as `a.eraseLt ≠ b.eraseLt`: on a leaf `eraseLt` computes to the identity
      rw [if_neg fun e => hne (congrArg _ e)]; exact mismatch _ _ hne
    | infer y k' => exact tyVar _ y k' rfl fa
    | bound | proj | «opaque» | error | dyn => cases fb
    | _ => exact mismatch _ _ (Ty.eraseLt_ne_of_ctorIdx rfl)
  | str =>
    cases b with
    | str => exact absurd rfl hne
    | infer y k' => exact tyVar _ y k' rfl fa
    | bound | proj | «opaque» | error | dyn => cases fb
    | _ => exact mismatch _ _ (Ty.eraseLt_ne_of_ctorIdx rfl)
  | never =>
    cases b with
    | never => exact absurd rfl hne
    | infer y k' => exact tyVar _ y k' rfl fa
    | bound | proj | «opaque» | error | dyn => cases fb
    | _ => exact mismatch _ _ (Ty.eraseLt_ne_of_ctorIdx rfl)
  | foreign i =>
    cases b with
    | foreign j =>
      show motive _ _ (if i = j then .ok st else .error .noSolution)
      rw [if_neg fun e => hne (congrArg _ e)]; exact mismatch _ _ hne
    | infer y k' => exact tyVar _ y k' rfl fa
    | bound | proj | «opaque» | error | dyn => cases fb
    | _ => exact mismatch _ _ (Ty.eraseLt_ne_of_ctorIdx rfl)
  | placeholder u i =>
    cases b with
    | placeholder u' i' =>
      show motive _ _ (if u = u' ∧ i = i' then .ok st else .error .noSolution)
      rw [if_neg fun e => hne (by rw [e.1, e.2])]; exact mismatch _ _ hne
    | infer y k' => exact tyVar _ y k' rfl fa
    | bound | proj | «opaque» | error | dyn => cases fb
    | _ => exact mismatch _ _ (Ty.eraseLt_ne_of_ctorIdx rfl)
  | slice ta =>
    cases b with
    | slice tb => exact slice ta tb
    | infer y k' => exact tyVar _ y k' rfl fa
    | bound | proj | «opaque» | error | dyn => cases fb
    | _ => exact mismatch _ _ (Ty.eraseLt_ne_of_ctorIdx rfl)
  | raw m ta =>
    cases b with
    | raw m' tb =>
      show motive _ _ (if m ≠ m' then .error .noSolution else rel (v.xform (if m then .inv else .co)) ta tb st)
      by_cases hm : m = m'
      · subst hm; rw [if_neg fun h => h rfl]; exact raw m ta tb
      · rw [if_pos hm]; exact mismatch (.raw m ta) (.raw m' tb) (fun e => hm (Ty.raw.inj e).1)
    | infer y k' => exact tyVar _ y k' rfl fa
    | bound | proj | «opaque» | error | dyn => cases fb
    | _ => exact mismatch _ _ (Ty.eraseLt_ne_of_ctorIdx rfl)
  | ref m la ta =>
    cases b with
    | ref m' lb tb =>
      show motive _ _ (if m ≠ m' then .error .noSolution else
        match relateLifetime (v.xform .contra) la lb st with
        | .error e => .error e
        | .ok st1 => rel (v.xform (if m then .inv else .co)) ta tb st1)
      by_cases hm : m = m'
      · subst hm; rw [if_neg fun h => h rfl]; exact ref m la ta lb tb
      · rw [if_pos hm]; exact mismatch (.ref m la ta) (.ref m' lb tb) (fun e => hm (Ty.ref.inj e).1)
    | infer y k' => exact tyVar _ y k' rfl fa
    | bound | proj | «opaque» | error | dyn => cases fb
    | _ => exact mismatch _ _ (Ty.eraseLt_ne_of_ctorIdx rfl)
  | array ta ka =>
    cases b with
    | array tb kb => exact array ta ka tb kb
    | infer y k' => exact tyVar _ y k' rfl fa
    | bound | proj | «opaque» | error | dyn => cases fb
    | _ => exact mismatch _ _ (Ty.eraseLt_ne_of_ctorIdx rfl)
  | function nb sig as =>
    cases b with
    | function nb' sig' bs =>
      show motive _ _ (if sig = sig' then relateFnBinders rel jf v nb as nb' bs st else .error .noSolution)
      by_cases hs : sig = sig'
      · subst hs; rw [if_pos rfl]; exact function nb sig as nb' bs
      · rw [if_neg hs]
        exact mismatch (.function nb sig as) (.function nb' sig' bs) (fun e => hs (Ty.function.inj e).2.1)
    | infer y k' => exact tyVar _ y k' rfl fa
    | bound | proj | «opaque» | error | dyn => cases fb
    | _ => exact mismatch _ _ (Ty.eraseLt_ne_of_ctorIdx rfl)

theorem relateTyStep_ok_kindOk {rel : RelTy} {db : UDb} {jf : Nat} {v : Variance} {a0 b0 : Ty} {st st' : UState}
    (h : relateTyStep rel db jf v a0 b0 st = .ok st') :
    (st.table.tyKindOk a0 && st.table.tyKindOk b0) = true := by
  cases hk : (st.table.tyKindOk a0 && st.table.tyKindOk b0) with
  | true => rfl
  | false => unfold relateTyStep at h; rw [hk] at h; cases h

end Chalk
