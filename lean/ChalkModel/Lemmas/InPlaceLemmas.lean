/-
  Helper lemmas for C27: exact final states of the in-place and the fallback path of `fallibleMapVec` and
  `fallibleMapBox`, for every list of elements and every callback.  Each loop is run once, over the prefix on which the
  callback answers `ok` (`mapLoop_oks`, `collectLoop_oks`); success is an empty remainder, failure one more step.
-/
import ChalkModel.InPlace

namespace Chalk.InPlace

def deadOf (xs : List Nat) : List Slot := xs.map (fun _ => Slot.dropped)
def movedOf (xs : List Nat) : List Slot := xs.map (fun _ => Slot.moved)
/-- log entries of destructor runs on `xs` at type `ty`: none if the type has no drop glue -/
def logOf (lay : Layout) (ty : ElemTy) (t : Tag) (xs : List Nat) : Log :=
  if lay.glue ty then xs.map (fun x => (x, t)) else []

@[simp] theorem logOf_nil (lay : Layout) (ty : ElemTy) (t : Tag) : logOf lay ty t [] = [] := by
  simp [logOf]

@[simp] theorem logOf_append (lay : Layout) (ty : ElemTy) (t : Tag) (a b : List Nat) :
    logOf lay ty t (a ++ b) = logOf lay ty t a ++ logOf lay ty t b := by
  unfold logOf; split <;> simp

theorem logDrop_eq (lay : Layout) (ty : ElemTy) (id : Nat) (t : Tag) (log : Log) :
    lay.logDrop ty id t log = log ++ logOf lay ty t [id] := by
  unfold Layout.logDrop logOf; split <;> simp

theorem logOf_glue {lay : Layout} {ty : ElemTy} (h : lay.glue ty = true) (t : Tag) (xs : List Nat) :
    logOf lay ty t xs = xs.map (fun x => (x, t)) := if_pos h

theorem logOf_nodup (lay : Layout) (ty : ElemTy) (t : Tag) {xs : List Nat} (h : xs.Nodup) :
    (logOf lay ty t xs).Nodup := by
  unfold logOf; split
  · exact List.Pairwise.map _ (fun a b hab e => hab (congrArg Prod.fst e)) h
  · exact List.Pairwise.nil

theorem mem_logOf_tag {lay : Layout} {ty : ElemTy} {t : Tag} {xs : List Nat} {e : Nat × Tag}
    (he : e ∈ logOf lay ty t xs) : e.2 = t := by
  unfold logOf at he; split at he
  · obtain ⟨_, _, rfl⟩ := List.mem_map.mp he; rfl
  · cases he

theorem logOf_ne {lay : Layout} {ty ty' : ElemTy} {t t' : Tag} {xs ys : List Nat} {a b : Nat × Tag}
    (ht : t ≠ t') (ha : a ∈ logOf lay ty t xs) (hb : b ∈ logOf lay ty' t' ys) : a ≠ b :=
  fun e => ht (by rw [← mem_logOf_tag ha, e, mem_logOf_tag hb])

@[simp] theorem deadOf_length (xs : List Nat) : (deadOf xs).length = xs.length := List.length_map _
@[simp] theorem movedOf_length (xs : List Nat) : (movedOf xs).length = xs.length := List.length_map _

theorem getElem?_at {pre : List Slot} {i : Nat} (hi : pre.length = i) (s : Slot) (tail : List Slot) :
    (pre ++ s :: tail)[i]? = some s := by
  subst hi; simp

theorem set_at {pre : List Slot} {i : Nat} (hi : pre.length = i) (s s' : Slot) (tail : List Slot) :
    (pre ++ s :: tail).set i s' = pre ++ s' :: tail := by
  subst hi; simp

theorem read_at {pre : List Slot} {i : Nat} (hi : pre.length = i) (x : Nat) (tail : List Slot) :
    (Region.mk (pre ++ .liveT x :: tail) .owned).read i = .ok (x, ⟨pre ++ .moved :: tail, .owned⟩) := by
  simp only [Region.read, getElem?_at hi, set_at hi]

theorem write_at {pre : List Slot} {i : Nat} (hi : pre.length = i) (s : Slot) (u : Nat) (tail : List Slot) :
    (Region.mk (pre ++ s :: tail) .owned).write i u = .ok ⟨pre ++ .liveU u :: tail, .owned⟩ := by
  simp only [Region.write, getElem?_at hi, set_at hi]

theorem drop_at (lay : Layout) (ty : ElemTy) {pre : List Slot} {i : Nat} (hi : pre.length = i) (x : Nat)
    (tail : List Slot) (log : Log) :
    (Region.mk (pre ++ ty.live x :: tail) .owned).dropInPlace lay ty i log
      = .ok (⟨pre ++ .dropped :: tail, .owned⟩, log ++ logOf lay ty ty.tag [x]) := by
  cases ty <;> simp only [Region.dropInPlace, ElemTy.live, ElemTy.tag, getElem?_at hi, set_at hi, logDrop_eq]

theorem dropRange_run (lay : Layout) (ty : ElemTy) (tail : List Slot) (xs : List Nat) (pre : List Slot)
    (i : Nat) (log : Log) (hi : pre.length = i) :
    dropRange lay ty xs.length i ⟨pre ++ (xs.map ty.live ++ tail), .owned⟩ log
      = .ok (⟨pre ++ (deadOf xs ++ tail), .owned⟩, log ++ logOf lay ty ty.tag xs) := by
  induction xs generalizing pre i log with
  | nil => simp only [List.length_nil, dropRange, List.map_nil, deadOf, logOf_nil, List.append_nil]
  | cons x xs ih =>
    have ih := ih (pre ++ [.dropped]) (i + 1) (log ++ logOf lay ty ty.tag [x]) (by rw [← hi]; simp)
    simp only [List.append_assoc, List.singleton_append, ← logOf_append] at ih
    simp only [List.length_cons, List.map_cons, List.cons_append, dropRange, drop_at lay ty hi, ih]
    rfl

theorem Oks.nil_inv {cb : Callback} {i : Nat} : ∀ {us : List Nat}, Oks cb i [] us → us = []
  | [], _ => rfl
  | _ :: _, h => h.elim

theorem Oks.cons_inv {cb : Callback} {i x : Nat} {xs : List Nat} : ∀ {us : List Nat},
    Oks cb i (x :: xs) us → ∃ u us', us = u :: us' ∧ cb i x = .ok u ∧ Oks cb (i + 1) xs us'
  | [], h => h.elim
  | u :: us, h => ⟨u, us, rfl, h⟩

theorem Oks.length_eq {cb : Callback} {i : Nat} {xs us : List Nat} (h : Oks cb i xs us) :
    xs.length = us.length := by
  induction xs generalizing i us with
  | nil => cases h.nil_inv; rfl
  | cons x xs ih => obtain ⟨u, us, rfl, -, h⟩ := h.cons_inv; exact congrArg (· + 1) (ih h)

theorem oks_or_first_failure (cb : Callback) (i : Nat) (xs : List Nat) :
    (∃ us, Oks cb i xs us) ∨
    (∃ pre x post us mode, xs = pre ++ x :: post ∧ Oks cb i pre us ∧ cb (i + pre.length) x = FailMode.out mode) := by
  induction xs generalizing i with
  | nil => exact .inl ⟨[], trivial⟩
  | cons x xs ih =>
    cases hx : cb i x with
    | ok u =>
      rcases ih (i + 1) with ⟨us, h⟩ | ⟨pre, y, post, us, mode, he, ho, hc⟩
      · exact .inl ⟨u :: us, hx, h⟩
      · refine .inr ⟨x :: pre, y, post, u :: us, mode, by rw [he]; rfl, ⟨hx, ho⟩, ?_⟩
        rw [← hc, List.length_cons, Nat.add_assoc, Nat.add_comm 1]
    | err => exact .inr ⟨[], x, xs, [], .err, rfl, trivial, hx⟩
    | panic => exact .inr ⟨[], x, xs, [], .panic, rfl, trivial, hx⟩

/-- `mapLoop` never reads the `mapInProgress` it is given: it is set before every callback. -/
theorem mapLoop_guard (lay : Layout) (cb : Callback) (rem i : Nat) (g : Guard) (r : Region) (log : Log) :
    mapLoop lay cb rem i g r log = mapLoop lay cb rem i ⟨g.len, 0⟩ r log := by
  cases rem <;> simp only [mapLoop]

theorem mapLoop_oks (lay : Layout) (cb : Callback) (rest : List Nat) (log : Log) (pre us : List Nat)
    (sl : List Slot) (g : Guard) (h : Oks cb sl.length pre us) :
    mapLoop lay cb (pre ++ rest).length sl.length g ⟨sl ++ (pre ++ rest).map .liveT, .owned⟩ log
      = mapLoop lay cb rest.length (sl ++ us.map Slot.liveU).length ⟨g.len, 0⟩
        ⟨sl ++ us.map Slot.liveU ++ rest.map .liveT, .owned⟩ log := by
  induction pre generalizing us sl g with
  | nil =>
    cases h.nil_inv
    simp only [List.nil_append, List.map_nil, List.append_nil]; exact mapLoop_guard ..
  | cons y pre ih =>
    obtain ⟨u, us, rfl, hu, h⟩ := h.cons_inv
    have ih := ih us (sl ++ [.liveU u]) ⟨g.len, sl.length⟩ (by rw [List.length_append]; exact h)
    simp only [List.cons_append, List.length_cons, List.map_cons, mapLoop, read_at rfl, write_at rfl, hu]
    simp only [List.append_assoc, List.singleton_append, List.length_append, List.length_cons,
      List.length_nil, Nat.zero_add] at ih ⊢
    exact ih

theorem mapLoop_fail_step {lay : Layout} {cb : Callback} {mode : FailMode} {i id : Nat} {r r1 : Region}
    (hr : r.read i = .ok (id, r1)) (hc : cb i id = mode.out) (rem : Nat) (g : Guard) (log : Log) :
    mapLoop lay cb (rem + 1) i g r log = failInPlace lay mode ⟨g.len, i⟩ id r1 log := by
  cases mode <;> simp only [mapLoop, hr] <;> rw [hc] <;> rfl

theorem guardDrop_spec (lay : Layout) (done post : List Nat) (log : Log) (len : Nat)
    (hlen : len = done.length + 1 + post.length) :
    guardDrop lay ⟨len, done.length⟩ ⟨done.map .liveU ++ .moved :: post.map .liveT, .owned⟩ log
      = .ok (⟨deadOf done ++ .moved :: deadOf post, .freed⟩, log ++ logOf lay .U .U done ++ logOf lay .T .T post) := by
  have h1 := dropRange_run lay .U (.moved :: post.map .liveT) done [] 0 log rfl
  have h2 := dropRange_run lay .T [] post (deadOf done ++ [.moved]) (done.length + 1)
    (log ++ logOf lay .U .U done) (by simp)
  have e : len - (done.length + 1) = post.length := by omega
  simp only [List.nil_append, List.append_nil, List.append_assoc, List.singleton_append, ElemTy.live,
    ElemTy.tag] at h1 h2
  simp only [guardDrop, e, h1, h2, Region.free, List.append_assoc]

theorem mapLoop_ok (lay : Layout) (cb : Callback) (ids us : List Nat) (g : Guard) (h : Oks cb 0 ids us) :
    mapLoop lay cb ids.length 0 g ⟨ids.map .liveT, .owned⟩ []
      = .fin .ok ⟨⟨us.map .liveU, .owned⟩, none, []⟩ := by
  have := mapLoop_oks lay cb [] [] ids us [] g h
  simpa only [List.append_nil, List.nil_append, List.map_nil, List.length_nil, mapLoop] using this

theorem mapLoop_fail (lay : Layout) (cb : Callback) (mode : FailMode) (pre : List Nat) (x : Nat)
    (post us : List Nat) (h : Oks cb 0 pre us) (hx : cb pre.length x = mode.out) :
    mapLoop lay cb (pre ++ x :: post).length 0 ⟨(pre ++ x :: post).length, 0⟩
        ⟨(pre ++ x :: post).map .liveT, .owned⟩ []
      = .fin mode.exit ⟨⟨deadOf us ++ .moved :: deadOf post, .freed⟩, none,
          logOf lay .T .cb [x] ++ (logOf lay .U .U us ++ logOf lay .T .T post)⟩ := by
  have hl := Oks.length_eq h
  have := mapLoop_oks lay cb (x :: post) [] pre us [] ⟨(pre ++ x :: post).length, 0⟩ h
  simp only [List.nil_append, List.length_nil, List.length_map] at this
  rw [hl] at hx
  rw [this, List.length_cons, List.map_cons, mapLoop_fail_step (read_at (List.length_map _) ..) hx, failInPlace,
    logDrop_eq, guardDrop_spec lay us post _ _ (by simp [hl]; omega)]
  simp only [List.nil_append, List.append_assoc]

theorem inPlace_ok (lay : Layout) (hl : lay.identical = true) (cb : Callback) (ids us : List Nat)
    (h : Oks cb 0 ids us) :
    mapVecInPlace lay cb ids = .fin .ok ⟨⟨us.map .liveU, .owned⟩, none, []⟩ := by
  simp only [mapVecInPlace, hl, Bool.not_true, Bool.false_eq_true, if_false, mapLoop_ok lay cb ids us _ h]

theorem inPlace_fail (lay : Layout) (hl : lay.identical = true) (cb : Callback) (mode : FailMode)
    (pre : List Nat) (x : Nat) (post us : List Nat)
    (h : Oks cb 0 pre us) (hx : cb pre.length x = mode.out) :
    mapVecInPlace lay cb (pre ++ x :: post)
      = .fin mode.exit ⟨⟨deadOf us ++ .moved :: deadOf post, .freed⟩, none,
          logOf lay .T .cb [x] ++ (logOf lay .U .U us ++ logOf lay .T .T post)⟩ := by
  simp only [mapVecInPlace, hl, Bool.not_true, Bool.false_eq_true, if_false,
    mapLoop_fail lay cb mode pre x post us h hx]

theorem iterDrop_spec (lay : Layout) (gone : List Slot) (rest : List Nat) (log : Log) :
    iterDrop lay gone.length ⟨gone ++ rest.map .liveT, .owned⟩ log
      = .ok (⟨gone ++ deadOf rest, .freed⟩, log ++ logOf lay .T .T rest) := by
  have h := dropRange_run lay .T [] rest gone _ log rfl
  have e : (gone ++ rest.map Slot.liveT).length - gone.length = rest.length := by simp
  simp only [List.append_nil, ElemTy.live, ElemTy.tag] at h
  simp only [iterDrop, e, h, Region.free]

theorem dropVecU_spec (lay : Layout) (us : List Nat) (log : Log) :
    dropVecU lay ⟨us.map .liveU, .owned⟩ log = .ok (⟨deadOf us, .freed⟩, log ++ logOf lay .U .U us) := by
  have h := dropRange_run lay .U [] us [] 0 log rfl
  simp only [List.append_nil, List.nil_append, ElemTy.live, ElemTy.tag] at h
  simp only [dropVecU, List.length_map, h, Region.free]

theorem collectLoop_oks (lay : Layout) (cb : Callback) (rest : List Nat) (log : Log) (pre us : List Nat)
    (sl dl : List Slot) (h : Oks cb sl.length pre us) :
    collectLoop lay cb (pre ++ rest).length sl.length ⟨sl ++ (pre ++ rest).map .liveT, .owned⟩ ⟨dl, .owned⟩ log
      = collectLoop lay cb rest.length (sl ++ movedOf pre).length
        ⟨sl ++ movedOf pre ++ rest.map .liveT, .owned⟩ ⟨dl ++ us.map .liveU, .owned⟩ log := by
  induction pre generalizing us sl dl with
  | nil => cases h.nil_inv; simp only [List.nil_append, movedOf, List.map_nil, List.append_nil]
  | cons y pre ih =>
    obtain ⟨u, us, rfl, hu, h⟩ := h.cons_inv
    have ih := ih us (sl ++ [.moved]) (dl ++ [.liveU u]) (by rw [List.length_append]; exact h)
    simp only [List.cons_append, List.length_cons, List.map_cons, collectLoop, read_at rfl, hu, Region.push]
    simp only [List.append_assoc, List.singleton_append, movedOf, List.map_cons, List.length_append,
      List.length_cons, List.length_nil, Nat.zero_add] at ih ⊢
    exact ih

theorem collectLoop_fail_step {lay : Layout} {cb : Callback} {mode : FailMode} {i id : Nat} {src src1 : Region}
    (hr : src.read i = .ok (id, src1)) (hc : cb i id = mode.out) (rem : Nat) (dst : Region) (log : Log) :
    collectLoop lay cb (rem + 1) i src dst log = failCollect lay mode (i + 1) id src1 dst log := by
  cases mode <;> simp only [collectLoop, hr] <;> rw [hc] <;> rfl

theorem fallback_ok (lay : Layout) (cb : Callback) (ids us : List Nat) (h : Oks cb 0 ids us) :
    mapVecFallback lay cb ids
      = .fin .ok ⟨⟨movedOf ids, .freed⟩, some ⟨us.map .liveU, .owned⟩, []⟩ := by
  have := collectLoop_oks lay cb [] [] ids us [] [] h
  have hi := iterDrop_spec lay (movedOf ids) [] []
  simp only [List.append_nil, List.nil_append, List.map_nil, List.length_nil, deadOf, logOf_nil] at this hi
  rw [mapVecFallback, this, collectLoop, hi]

theorem fallback_fail (lay : Layout) (cb : Callback) (mode : FailMode) (pre : List Nat) (x : Nat) (post us : List Nat)
    (h : Oks cb 0 pre us) (hx : cb pre.length x = mode.out) :
    mapVecFallback lay cb (pre ++ x :: post)
      = .fin mode.exit ⟨⟨movedOf (pre ++ [x]) ++ deadOf post, .freed⟩, some ⟨deadOf us, .freed⟩,
          logOf lay .T .cb [x] ++ (logOf lay .T .T post ++ logOf lay .U .U us)⟩ := by
  have := collectLoop_oks lay cb (x :: post) [] pre us [] [] h
  have hi := iterDrop_spec lay (movedOf pre ++ [.moved]) post (logOf lay .T .cb [x])
  simp only [List.nil_append, List.length_nil, movedOf_length] at this
  simp only [List.length_append, movedOf_length, List.length_singleton, List.append_assoc,
    List.singleton_append] at hi
  rw [mapVecFallback, this, List.length_cons, List.map_cons,
    collectLoop_fail_step (read_at (movedOf_length _) ..) hx, failCollect, logDrop_eq, List.nil_append, hi]
  simp only [dropVecU_spec, movedOf, List.map_append, List.map_cons, List.map_nil, List.append_assoc,
    List.singleton_append]

/-- the branch condition of `fallible_map_vec` / `fallible_map_box` -/
def usesFallback (lay : Layout) : Bool := !lay.identical || lay.zst

/-- final memory after a successful run -/
def okFinal (lay : Layout) (ids us : List Nat) : St :=
  if usesFallback lay then ⟨⟨movedOf ids, .freed⟩, some ⟨us.map .liveU, .owned⟩, []⟩
  else ⟨⟨us.map .liveU, .owned⟩, none, []⟩

/-- final memory after a failure on `x`, with `us` already mapped and `post` not yet mapped -/
def failFinal (lay : Layout) (pre : List Nat) (x : Nat) (post us : List Nat) : St :=
  if usesFallback lay then
    ⟨⟨movedOf (pre ++ [x]) ++ deadOf post, .freed⟩, some ⟨deadOf us, .freed⟩,
      logOf lay .T .cb [x] ++ (logOf lay .T .T post ++ logOf lay .U .U us)⟩
  else
    ⟨⟨deadOf us ++ .moved :: deadOf post, .freed⟩, none, logOf lay .T .cb [x] ++ (logOf lay .U .U us ++ logOf lay .T .T post)⟩

theorem identical_of_not_fallback {lay : Layout} (hb : ¬ usesFallback lay = true) :
    lay.identical = true := by
  cases hi : lay.identical <;> simp [usesFallback, hi] at hb ⊢

theorem vec_run_ok (lay : Layout) (cb : Callback) (ids us : List Nat) (h : Oks cb 0 ids us) :
    fallibleMapVec lay cb ids = .fin .ok (okFinal lay ids us) := by
  unfold fallibleMapVec okFinal usesFallback
  split
  · exact fallback_ok lay cb ids us h
  · next hb => exact inPlace_ok lay (identical_of_not_fallback hb) cb ids us h

theorem vec_run_fail (lay : Layout) (cb : Callback) (mode : FailMode)
    (pre : List Nat) (x : Nat) (post us : List Nat)
    (h : Oks cb 0 pre us) (hx : cb pre.length x = mode.out) :
    fallibleMapVec lay cb (pre ++ x :: post) = .fin mode.exit (failFinal lay pre x post us) := by
  unfold fallibleMapVec failFinal usesFallback
  split
  · exact fallback_fail lay cb mode pre x post us h hx
  · next hb => exact inPlace_fail lay (identical_of_not_fallback hb) cb mode pre x post us h hx

theorem nothingLive_dead_moved_dead (a b : List Nat) :
    (Region.mk (deadOf a ++ .moved :: deadOf b) .freed).nothingLive := by
  intro s hs
  simp only [deadOf, List.mem_append, List.mem_map, List.mem_cons] at hs
  rcases hs with ⟨_, _, rfl⟩ | rfl | ⟨_, _, rfl⟩ <;> simp

theorem nothingLive_moved_dead (a b : List Nat) :
    (Region.mk (movedOf a ++ deadOf b) .freed).nothingLive := by
  intro s hs
  simp only [deadOf, movedOf, List.mem_append, List.mem_map] at hs
  rcases hs with ⟨_, _, rfl⟩ | ⟨_, _, rfl⟩ <;> simp

theorem nothingLive_dead (a : List Nat) : (Region.mk (deadOf a) .freed).nothingLive := by
  intro s hs
  simp only [deadOf, List.mem_map] at hs
  rcases hs with ⟨_, _, rfl⟩; simp

theorem box_read (id : Nat) :
    (Region.mk [.liveT id] .owned).read 0 = .ok (id, ⟨[.moved], .owned⟩) := rfl

theorem box_run_ok (lay : Layout) (cb : Callback) (id u : Nat) (h : cb 0 id = .ok u) :
    fallibleMapBox lay cb id = .fin .ok
      (if usesFallback lay then ⟨⟨[.moved], .freed⟩, some ⟨[.liveU u], .owned⟩, []⟩
       else ⟨⟨[.liveU u], .owned⟩, none, []⟩) := by
  unfold fallibleMapBox usesFallback
  split
  · simp only [mapBoxFallback, box_read, h]; rfl
  · simp only [mapBoxInPlace, box_read, h]; rfl

theorem box_run_fail (lay : Layout) (cb : Callback) (mode : FailMode) (id : Nat) (h : cb 0 id = mode.out) :
    fallibleMapBox lay cb id = .fin mode.exit ⟨⟨[.moved], .freed⟩, none, logOf lay .T .cb [id]⟩ := by
  have e := logDrop_eq lay .T id .cb []
  unfold fallibleMapBox
  split <;> cases mode <;> simp only [mapBoxFallback, mapBoxInPlace, box_read, h, FailMode.out, e] <;> rfl

end Chalk.InPlace
