/-
  Lemmas about the coherence model (`ChalkModel/Coherence.lean`) used by `Props/C19.lean`.
-/
import ChalkModel.Coherence
import ChalkModel.Lemmas.ListLemmas

namespace Chalk.Coherence

theorem mem_pairs_range' (s k a b : Nat) :
    (a, b) ∈ pairs (List.range' s k) ↔ s ≤ a ∧ a < b ∧ b < s + k := by
  induction k generalizing s with
  | zero => exact iff_of_false (nomatch ·) (by omega)
  | succ k ih =>
    simp only [List.range'_succ, pairs, List.mem_append, List.mem_map, Prod.mk.injEq, ih,
      List.mem_range'_1]
    constructor
    · rintro (⟨y, hy, rfl, rfl⟩ | h) <;> omega
    · intro h
      by_cases ha : a = s
      · left; exact ⟨b, by omega, ha.symm, rfl⟩
      · right; omega

theorem mem_pairs_range (n a b : Nat) : (a, b) ∈ pairs (List.range n) ↔ a < b ∧ b < n := by
  rw [List.range_eq_range', mem_pairs_range']; omega

/-- What the loop body does with one pair. -/
inductive Step where
  | skip
  | edge (e : Nat × Nat)
  | err

def step (inp : Input) (l r : Nat) : Step :=
  if inp.negative l && inp.negative r then .skip
  else if !(inp.oracle l r).disjoint then
    match (inp.oracle l r).specLR, (inp.oracle l r).specRL with
    | true, false => .edge (l, r)
    | false, true => .edge (r, l)
    | _, _ => .err
  else .skip

theorem step_cases (inp : Input) (l r : Nat) :
    (step inp l r = .skip ∧
      ((inp.negative l = true ∧ inp.negative r = true) ∨ (inp.oracle l r).disjoint = true)) ∨
    (¬ (inp.negative l = true ∧ inp.negative r = true) ∧ (inp.oracle l r).disjoint = false ∧
      ((step inp l r = .edge (l, r) ∧ (inp.oracle l r).specLR = true ∧ (inp.oracle l r).specRL = false) ∨
       (step inp l r = .edge (r, l) ∧ (inp.oracle l r).specLR = false ∧ (inp.oracle l r).specRL = true) ∨
       (step inp l r = .err ∧ (inp.oracle l r).specLR = (inp.oracle l r).specRL))) := by
  unfold step
  split
  · next h => exact .inl ⟨rfl, .inl (Bool.and_eq_true _ _ ▸ h)⟩
  · next hn =>
    split
    · next hd =>
      refine .inr ⟨Bool.and_eq_true _ _ ▸ hn, Bool.not_eq_true' _ ▸ hd, ?_⟩
      cases (inp.oracle l r).specLR <;> cases (inp.oracle l r).specRL <;> simp
    · next hd => exact .inl ⟨rfl, .inr (by simpa using hd)⟩

theorem visitPairs_cons (inp : Input) (l r : Nat) (rest acc : List (Nat × Nat)) :
    visitPairs inp ((l, r) :: rest) acc =
      match step inp l r with
      | .skip => visitPairs inp rest acc
      | .edge e => visitPairs inp rest (acc ++ [e])
      | .err => none := by
  rw [visitPairs, step]
  split
  · rfl
  · split
    · cases (inp.oracle l r).specLR <;> cases (inp.oracle l r).specRL <;> rfl
    · rfl

theorem visitPairs_some (inp : Input) (ps acc out : List (Nat × Nat))
    (h : visitPairs inp ps acc = some out) :
    (∀ p ∈ ps, step inp p.1 p.2 ≠ .err) ∧
      ∀ e, e ∈ out ↔ e ∈ acc ∨ ∃ p ∈ ps, step inp p.1 p.2 = .edge e := by
  induction ps generalizing acc with
  | nil =>
    cases h
    exact ⟨nofun, fun e => ⟨.inl, fun h => h.elim id nofun⟩⟩
  | cons p ps ih =>
    obtain ⟨l, r⟩ := p
    rw [visitPairs_cons] at h
    cases hs : step inp l r <;> rw [hs] at h
    case err => cases h
    case skip =>
      obtain ⟨h1, h2⟩ := ih acc h
      refine ⟨List.forall_mem_cons.2 ⟨by rw [hs]; nofun, h1⟩, fun e => ?_⟩
      simp only [h2, List.mem_cons, exists_eq_or_imp, hs, reduceCtorEq, false_or]
    case edge e' =>
      obtain ⟨h1, h2⟩ := ih (acc ++ [e']) h
      refine ⟨List.forall_mem_cons.2 ⟨by rw [hs]; nofun, h1⟩, fun e => ?_⟩
      simp only [h2, List.mem_cons, exists_eq_or_imp, hs, Step.edge.injEq, List.mem_append,
        List.not_mem_nil, or_false, or_assoc, @eq_comm _ e' e]

theorem visit_some (inp : Input) (recs : List (Nat × Nat)) (hm : inp.marker = false)
    (h : visit inp = some recs) :
    (∀ l r, l < r → r < inp.n → step inp l r ≠ .err) ∧
    (∀ e, e ∈ recs ↔ ∃ l r, l < r ∧ r < inp.n ∧ step inp l r = .edge e) := by
  rw [visit, hm, if_neg Bool.false_ne_true] at h
  obtain ⟨h1, h2⟩ := visitPairs_some inp _ _ _ h
  refine ⟨fun l r hlr hr => h1 (l, r) ((mem_pairs_range _ _ _).2 ⟨hlr, hr⟩), fun e => (h2 e).trans ?_⟩
  constructor
  · rintro (h | ⟨⟨l, r⟩, hp, he⟩)
    · cases h
    · exact ⟨l, r, ((mem_pairs_range _ _ _).1 hp).1, ((mem_pairs_range _ _ _).1 hp).2, he⟩
  · rintro ⟨l, r, hlr, hr, hs⟩
    exact .inr ⟨(l, r), (mem_pairs_range _ _ _).2 ⟨hlr, hr⟩, hs⟩

theorem visit_marker (inp : Input) (hm : inp.marker = true) : visit inp = some [] := by
  rw [visit, if_pos hm]

/-- `or_insert_with` / `update_edge`: append unless present -/
theorem mem_ite_append {α : Type} [DecidableEq α] (l : List α) (x y : α) :
    y ∈ (if x ∈ l then l else l ++ [x]) ↔ y ∈ l ∨ y = x := by
  split
  · next h => exact ⟨.inl, fun h' => h'.elim id (· ▸ h)⟩
  · rw [List.mem_append, List.mem_singleton]

theorem mem_addNode (g : Graph) (v w : Nat) : w ∈ (g.addNode v).nodes ↔ w ∈ g.nodes ∨ w = v := by
  rw [← mem_ite_append]; unfold Graph.addNode; split <;> rfl

theorem addNode_edges (g : Graph) (v : Nat) : (g.addNode v).edges = g.edges := by
  unfold Graph.addNode; split <;> rfl

theorem mem_updateEdge (g : Graph) (a b : Nat) (e : Nat × Nat) :
    e ∈ (g.updateEdge a b).edges ↔ e ∈ g.edges ∨ e = (a, b) := by
  rw [← mem_ite_append]; unfold Graph.updateEdge; split <;> rfl

theorem updateEdge_nodes (g : Graph) (a b : Nat) : (g.updateEdge a b).nodes = g.nodes := by
  unfold Graph.updateEdge; split <;> rfl

theorem mem_record_edges (g : Graph) (x e : Nat × Nat) :
    e ∈ (record g x).edges ↔ e ∈ g.edges ∨ e = x := by
  simp [record, mem_updateEdge, addNode_edges]

theorem mem_record_nodes (g : Graph) (x : Nat × Nat) (v : Nat) :
    v ∈ (record g x).nodes ↔ v ∈ g.nodes ∨ v = x.1 ∨ v = x.2 := by
  simp [record, updateEdge_nodes, mem_addNode, or_assoc]

theorem mem_foldl_record_edges (recs : List (Nat × Nat)) (g : Graph) (e : Nat × Nat) :
    e ∈ (recs.foldl record g).edges ↔ e ∈ g.edges ∨ e ∈ recs := by
  induction recs generalizing g with
  | nil => simp
  | cons x xs ih =>
    simp only [List.foldl_cons, ih, mem_record_edges, List.mem_cons]
    constructor
    · rintro ((h | h) | h) <;> simp [h]
    · rintro (h | h | h) <;> simp [h]

theorem mem_foldl_record_nodes (recs : List (Nat × Nat)) (g : Graph) (v : Nat) :
    v ∈ (recs.foldl record g).nodes ↔ v ∈ g.nodes ∨ ∃ e ∈ recs, v = e.1 ∨ v = e.2 := by
  induction recs generalizing g with
  | nil => simp
  | cons x xs ih =>
    simp only [List.foldl_cons, ih, mem_record_nodes, List.mem_cons]
    constructor
    · rintro ((h | h) | ⟨e, he, h⟩)
      · exact Or.inl h
      · exact Or.inr ⟨x, Or.inl rfl, h⟩
      · exact Or.inr ⟨e, Or.inr he, h⟩
    · rintro (h | ⟨e, rfl | he, h⟩)
      · exact Or.inl (Or.inl h)
      · exact Or.inl (Or.inr h)
      · exact Or.inr ⟨e, he, h⟩

def Graph.Closed (g : Graph) : Prop := ∀ a b, (a, b) ∈ g.edges → a ∈ g.nodes ∧ b ∈ g.nodes

theorem buildForest_some (inp : Input) (g : Graph) (h : buildForest inp = some g) :
    ∃ recs, visit inp = some recs ∧ (∀ e, e ∈ g.edges ↔ e ∈ recs) ∧
      (∀ v, v ∈ g.nodes ↔ ∃ e ∈ recs, v = e.1 ∨ v = e.2) := by
  unfold buildForest at h
  split at h
  · cases h
  · next recs hv =>
    cases h
    exact ⟨recs, hv, fun e => (mem_foldl_record_edges recs _ e).trans (or_iff_right List.not_mem_nil),
      fun v => (mem_foldl_record_nodes recs _ v).trans (or_iff_right List.not_mem_nil)⟩

theorem buildForest_closed (inp : Input) (g : Graph) (h : buildForest inp = some g) : g.Closed := by
  obtain ⟨recs, _, he, hn⟩ := buildForest_some inp g h
  intro a b hab
  have := (he (a, b)).1 hab
  exact ⟨(hn a).2 ⟨(a, b), this, Or.inl rfl⟩, (hn b).2 ⟨(a, b), this, Or.inr rfl⟩⟩

theorem mem_neighbors (g : Graph) (u y : Nat) : y ∈ g.neighbors u ↔ (u, y) ∈ g.edges := by
  simp only [Graph.neighbors, List.mem_reverse, List.mem_map, List.mem_filter, beq_iff_eq]
  exact ⟨fun ⟨⟨a, b⟩, ⟨h1, h2⟩, h3⟩ => by cases h2; cases h3; exact h1, fun h => ⟨(u, y), ⟨h, rfl⟩, rfl⟩⟩

theorem mem_externals (g : Graph) (r : Nat) :
    r ∈ g.externalsIncoming ↔ r ∈ g.nodes ∧ ∀ a, (a, r) ∉ g.edges := by
  simp only [Graph.externalsIncoming, List.mem_filter, Bool.not_eq_true', List.any_eq_false,
    beq_iff_eq]
  exact and_congr_right fun _ =>
    ⟨fun h a ha => h (a, r) ha rfl, fun h ⟨a, b⟩ hab hb => by cases hb; exact h a hab⟩

theorem PMap.insert_spec (m : PMap) (k p : Nat) :
    (∀ i, i ≠ k → (PMap.insert m k p).1.get? i = m.get? i) ∧
    ((PMap.insert m k p).2 = false → (PMap.insert m k p).1 = m ∧ ∃ v, m.get? k = some v ∧ p ≤ v) ∧
    ((PMap.insert m k p).2 = true →
      (PMap.insert m k p).1.get? k = some p ∧ ∀ v, m.get? k = some v → v < p) := by
  induction m with
  | nil => exact ⟨fun i hi => if_neg (Ne.symm hi), nofun, fun _ => ⟨if_pos rfl, nofun⟩⟩
  | cons e m ih =>
    obtain ⟨k', v⟩ := e
    obtain ⟨ih1, ih2, ih3⟩ := ih
    rw [PMap.insert]
    split
    · next hk =>
      subst hk
      split
      · next hv => exact ⟨fun _ _ => rfl, fun _ => ⟨rfl, v, if_pos rfl, hv⟩, nofun⟩
      · next hv =>
        refine ⟨fun i hi => ?_, nofun, fun _ => ⟨if_pos rfl, fun v' hv' => ?_⟩⟩
        · rw [PMap.get?, PMap.get?, if_neg (Ne.symm hi), if_neg (Ne.symm hi)]
        · rw [PMap.get?, if_pos rfl] at hv'; cases hv'; exact Nat.lt_of_not_le hv
    · next hk =>
      refine ⟨fun i hi => ?_, fun hb => ?_, fun hb => ?_⟩
      · rw [PMap.get?, PMap.get?, ih1 i hi]
      · obtain ⟨e1, w, e2, e3⟩ := ih2 hb
        exact ⟨by rw [e1], w, by rw [PMap.get?, if_neg hk]; exact e2, e3⟩
      · obtain ⟨e1, e2⟩ := ih3 hb
        refine ⟨by rw [PMap.get?, if_neg hk]; exact e1, fun v' hv' => e2 v' ?_⟩
        rwa [PMap.get?, if_neg hk] at hv'

def Le (m m' : PMap) : Prop := ∀ i v, m.get? i = some v → ∃ v', m'.get? i = some v' ∧ v ≤ v'

theorem Le.refl (m : PMap) : Le m m := fun _ v h => ⟨v, h, Nat.le_refl _⟩

theorem Le.trans {a b c : PMap} (h1 : Le a b) (h2 : Le b c) : Le a c := by
  intro i v h
  obtain ⟨v', h', hle⟩ := h1 i v h
  obtain ⟨v'', h'', hle'⟩ := h2 i v' h'
  exact ⟨v'', h'', Nat.le_trans hle hle'⟩

/-- The edge `x → y` is respected by `m`: if `x` has a priority, `y` has a higher one. -/
def Good (m : PMap) (x y : Nat) : Prop :=
  ∀ vx, m.get? x = some vx → ∃ vy, m.get? y = some vy ∧ vx < vy

/-- Every edge is respected afterwards, or was violated before at an untouched source. -/
def EdgesKept (g : Graph) (m m' : PMap) : Prop :=
  ∀ x y, (x, y) ∈ g.edges → Good m' x y ∨ (¬ Good m x y ∧ m'.get? x = m.get? x)

/-- Postcondition of `set_priorities(u, _, p, map)` returning `Ok`. -/
def Post (g : Graph) (m m' : PMap) (u p : Nat) : Prop :=
  Le m m' ∧ (∃ v, m'.get? u = some v ∧ p ≤ v) ∧ EdgesKept g m m'

/-- Postcondition of the loop `for c in cs { set_priorities(c, _, q, map)? }`. -/
def LoopPost (g : Graph) (m m' : PMap) (cs : List Nat) (q : Nat) : Prop :=
  Le m m' ∧ (∀ c ∈ cs, ∃ v, m'.get? c = some v ∧ q ≤ v) ∧ EdgesKept g m m'

theorem EdgesKept.refl (g : Graph) (m : PMap) : EdgesKept g m m := by
  intro x y _
  by_cases h : Good m x y
  · exact Or.inl h
  · exact Or.inr ⟨h, rfl⟩

theorem EdgesKept.trans {g : Graph} {a b c : PMap} (h1 : EdgesKept g a b) (h2 : EdgesKept g b c) :
    EdgesKept g a c := by
  intro x y hxy
  rcases h2 x y hxy with h | ⟨hb, hc⟩
  · exact Or.inl h
  · rcases h1 x y hxy with h | ⟨ha, hb'⟩
    · exact absurd h hb
    · exact Or.inr ⟨ha, hc.trans hb'⟩

theorem forEach_post (g : Graph) (f : Nat → PMap → Res PMap) (q : Nat)
    (hf : ∀ c m a, f c m = .ok a → Post g m a c q) :
    ∀ (cs : List Nat) (m m' : PMap), forEach f cs m = .ok m' → LoopPost g m m' cs q := by
  intro cs
  induction cs with
  | nil =>
    intro m m' h
    simp only [forEach, Res.ok.injEq] at h
    subst h
    exact ⟨Le.refl _, by simp, EdgesKept.refl _ _⟩
  | cons c cs ih =>
    intro m m' h
    simp only [forEach] at h
    cases hc : f c m with
    | ok m2 =>
      rw [hc] at h
      obtain ⟨l1, ⟨v, hv, hqv⟩, k1⟩ := hf c m m2 hc
      obtain ⟨l2, p2, k2⟩ := ih m2 m' h
      refine ⟨l1.trans l2, ?_, k1.trans k2⟩
      intro c' hc'
      rcases List.mem_cons.1 hc' with rfl | hc'
      · obtain ⟨v', hv', hle⟩ := l2 _ v hv
        exact ⟨v', hv', Nat.le_trans hqv hle⟩
      · exact p2 c' hc'
    | overlap => rw [hc] at h; simp at h
    | panic => rw [hc] at h; simp at h

theorem setPriorities_post (g : Graph) :
    ∀ (d u p : Nat) (m m' : PMap), setPriorities g d u p m = .ok m' → Post g m m' u p := by
  intro d
  induction d with
  | zero => intro u p m m' h; simp [setPriorities] at h
  | succ d ih =>
    intro u p m m' h
    simp only [setPriorities] at h
    split at h
    · obtain ⟨s1, s2, s3⟩ := PMap.insert_spec m u p
      generalize hr : PMap.insert m u p = r at h s1 s2 s3
      obtain ⟨m1, b⟩ := r
      cases b with
      | false =>
        simp only [Res.ok.injEq] at h
        subst h
        obtain ⟨e1, v, hv, hpv⟩ := s2 rfl
        simp only at e1
        subst e1
        exact ⟨Le.refl _, ⟨v, hv, hpv⟩, EdgesKept.refl _ _⟩
      | true =>
        simp only at h s1 s3
        obtain ⟨e1, e2⟩ := s3 trivial
        obtain ⟨l2, p2, k2⟩ :=
          forEach_post g _ (p + 1) (fun c m a hc => ih c (p + 1) m a hc) _ _ _ h
        have l1 : Le m m1 := by
          intro i v hv
          by_cases hi : i = u
          · subst hi
            exact ⟨p, e1, Nat.le_of_lt (e2 v hv)⟩
          · exact ⟨v, by rw [s1 i hi]; exact hv, Nat.le_refl _⟩
        refine ⟨l1.trans l2, ?_, ?_⟩
        · obtain ⟨v', hv', hle⟩ := l2 u p e1
          exact ⟨v', hv', hle⟩
        · intro x y hxy
          -- An edge the children's loop left violated has a source the loop did not touch.  If
          -- that source is `u`, it now holds `p` and the loop gave the child `y` at least `p + 1`;
          -- otherwise the insertion did not touch it either, and it was violated before.
          rcases k2 x y hxy with hgood | ⟨hbad, hsame⟩
          · exact Or.inl hgood
          · by_cases hx : x = u
            · subst hx
              left
              intro vx hvx
              rw [hsame, e1] at hvx
              obtain ⟨vy, hvy, hle⟩ := p2 y ((mem_neighbors g x y).2 hxy)
              refine ⟨vy, hvy, ?_⟩
              simp only [Option.some.injEq] at hvx
              omega
            · right
              refine ⟨?_, by rw [hsame, s1 x hx]⟩
              intro hg
              apply hbad
              intro vx hvx
              rw [s1 x hx] at hvx
              obtain ⟨vy, hvy, hlt⟩ := hg vx hvx
              obtain ⟨vy', hvy', hle⟩ := l1 y vy hvy
              exact ⟨vy', hvy', Nat.lt_of_lt_of_le hlt hle⟩
    · simp at h

theorem forEach_ne_panic (f : Nat → PMap → Res PMap) :
    ∀ (cs : List Nat) (m : PMap), (∀ c ∈ cs, ∀ m, f c m ≠ .panic) → forEach f cs m ≠ .panic := by
  intro cs
  induction cs with
  | nil => intro m _; simp [forEach]
  | cons c cs ih =>
    intro m hf
    simp only [forEach]
    cases hc : f c m with
    | ok m2 => exact ih m2 (fun c' hc' => hf c' (List.mem_cons_of_mem _ hc'))
    | overlap => simp
    | panic => exact absurd hc (hf c (List.mem_cons_self ..) m)

theorem setPriorities_ne_panic (g : Graph) (hg : g.Closed) :
    ∀ (d u p : Nat) (m : PMap), u ∈ g.nodes → setPriorities g d u p m ≠ .panic := by
  intro d
  induction d with
  | zero => intro u p m _; simp [setPriorities]
  | succ d ih =>
    intro u p m hu
    simp only [setPriorities, hu, if_true]
    generalize PMap.insert m u p = r
    obtain ⟨m1, b⟩ := r
    cases b with
    | false => simp
    | true =>
      simp only
      apply forEach_ne_panic
      intro c hc m'
      exact ih c (p + 1) m' (hg u c ((mem_neighbors g u c).1 hc)).2

theorem specializationPriorities_ne_panic (inp : Input) : specializationPriorities inp ≠ .panic := by
  simp only [specializationPriorities]
  cases hb : buildForest inp with
  | none => simp
  | some g =>
    simp only
    apply forEach_ne_panic
    intro r hr m
    exact setPriorities_ne_panic g (buildForest_closed inp g hb) _ r 0 m ((mem_externals g r).1 hr).1

theorem get?_nil (i : Nat) : PMap.get? [] i = none := rfl

theorem specializationPriorities_ok (inp : Input) (pm : PMap)
    (h : specializationPriorities inp = .ok pm) :
    ∃ g, buildForest inp = some g ∧
      (∀ r ∈ g.externalsIncoming, ∃ v, pm.get? r = some v) ∧
      (∀ x y, (x, y) ∈ g.edges → Good pm x y) := by
  simp only [specializationPriorities] at h
  cases hb : buildForest inp with
  | none => rw [hb] at h; simp at h
  | some g =>
    rw [hb] at h
    simp only at h
    obtain ⟨_, p2, k2⟩ :=
      forEach_post g _ 0 (fun c m a hc => setPriorities_post g _ c 0 m a hc) _ _ _ h
    refine ⟨g, rfl, ?_, ?_⟩
    · intro r hr
      obtain ⟨v, hv, _⟩ := p2 r hr
      exact ⟨v, hv⟩
    · intro x y hxy
      rcases k2 x y hxy with hgood | ⟨hbad, _⟩
      · exact hgood
      · exact absurd (fun vx hvx => by simp [get?_nil] at hvx) hbad

/-! ### every node gets a priority: induction on the number of elements strictly above it -/

open Classical in
noncomputable def above (R : Nat → Nat → Prop) (n v : Nat) : Nat :=
  (List.range n).countP (fun k => decide (R k v))

open Classical in
theorem above_lt (R : Nat → Nat → Prop) (n : Nat) (irrefl : ∀ a, ¬ R a a)
    (trans : ∀ a b c, R a b → R b c → R a c) (k v : Nat) (hk : k < n) (hkv : R k v) :
    above R n k < above R n v :=
  countP_lt_of (fun _ _ hx => decide_eq_true (trans _ _ _ (of_decide_eq_true hx) hkv))
    (List.mem_range.2 hk) (decide_eq_true hkv) (decide_eq_false (irrefl k))

theorem all_nodes_present (g : Graph) (pm : PMap) (n : Nat) (R : Nat → Nat → Prop)
    (irrefl : ∀ a, ¬ R a a) (trans : ∀ a b c, R a b → R b c → R a c)
    (hE : ∀ a b, (a, b) ∈ g.edges → R a b ∧ a < n) (hc : g.Closed)
    (hroots : ∀ r ∈ g.externalsIncoming, ∃ v, pm.get? r = some v)
    (hgood : ∀ x y, (x, y) ∈ g.edges → Good pm x y) :
    ∀ v ∈ g.nodes, ∃ p, pm.get? v = some p := by
  suffices H : ∀ c v, above R n v < c → v ∈ g.nodes → ∃ p, pm.get? v = some p from
    fun v hv => H _ v (Nat.lt_succ_self _) hv
  intro c
  induction c with
  | zero => intro v h; omega
  | succ c ih =>
    intro v hlt hv
    by_cases hr : v ∈ g.externalsIncoming
    · exact hroots v hr
    · obtain ⟨a, ha⟩ := Classical.not_forall_not.1 fun hno => hr ((mem_externals g v).2 ⟨hv, hno⟩)
      obtain ⟨hRa, han⟩ := hE a v ha
      have hlt' := above_lt R n irrefl trans a v han hRa
      obtain ⟨pa, hpa⟩ := ih a (by omega) (hc a v ha).1
      obtain ⟨pv, hpv, _⟩ := hgood a v ha pa hpa
      exact ⟨pv, hpv⟩

section SetOracle
variable {τ : Type}

/-- `A` is a strict subset of `B` (sets of trait references as predicates). -/
def StrictSub (A B : τ → Prop) : Prop := (∀ x, A x → B x) ∧ ∃ x, B x ∧ ¬ A x

def Overlap (A B : τ → Prop) : Prop := ∃ x, A x ∧ B x

/-- Impl `i` applies exactly to the trait references in `S i`, and the solver answers are the
    set-theoretic ones: `disjoint` = empty intersection, `specializes(less, more)` = the trait
    references of `more` are a strict subset of those of `less`. -/
structure SetOracle (S : Nat → τ → Prop) (inp : Input) : Prop where
  disjoint_iff : ∀ l r, l < r → r < inp.n →
    ((inp.oracle l r).disjoint = true ↔ ¬ Overlap (S l) (S r))
  specLR_iff : ∀ l r, l < r → r < inp.n →
    ((inp.oracle l r).specLR = true ↔ StrictSub (S r) (S l))
  specRL_iff : ∀ l r, l < r → r < inp.n →
    ((inp.oracle l r).specRL = true ↔ StrictSub (S l) (S r))

theorem SetOracle.of_pairs {S : Nat → τ → Prop} {inp : Input}
    (h : ∀ l r, l < r → r < inp.n →
      ((inp.oracle l r).disjoint = true ↔ ¬ Overlap (S l) (S r)) ∧
      ((inp.oracle l r).specLR = true ↔ StrictSub (S r) (S l)) ∧
      ((inp.oracle l r).specRL = true ↔ StrictSub (S l) (S r))) : SetOracle S inp :=
  ⟨fun l r a b => (h l r a b).1, fun l r a b => (h l r a b).2.1, fun l r a b => (h l r a b).2.2⟩

theorem StrictSub.irrefl (A : τ → Prop) : ¬ StrictSub A A := by
  rintro ⟨_, x, h1, h2⟩; exact h2 h1

theorem StrictSub.trans {A B C : τ → Prop} (h1 : StrictSub A B) (h2 : StrictSub B C) :
    StrictSub A C := by
  obtain ⟨s1, x, hx1, hx2⟩ := h1
  obtain ⟨s2, _⟩ := h2
  exact ⟨fun y hy => s2 y (s1 y hy), x, s2 x hx1, hx2⟩

theorem StrictSub.asymm {A B : τ → Prop} (h1 : StrictSub A B) : ¬ StrictSub B A := by
  intro h2; exact StrictSub.irrefl A (h1.trans h2)

theorem Overlap.symm {A B : τ → Prop} (h : Overlap A B) : Overlap B A := by
  obtain ⟨x, h1, h2⟩ := h; exact ⟨x, h2, h1⟩

theorem step_edge_sub (S : Nat → τ → Prop) (inp : Input) (hS : SetOracle S inp) (l r : Nat)
    (hlr : l < r) (hr : r < inp.n) (e : Nat × Nat) (h : step inp l r = .edge e) :
    (e = (l, r) ∧ StrictSub (S r) (S l)) ∨ (e = (r, l) ∧ StrictSub (S l) (S r)) := by
  rcases step_cases inp l r with ⟨hs, _⟩ | ⟨_, _, ⟨hs, h1, _⟩ | ⟨hs, _, h2⟩ | ⟨hs, _⟩⟩ <;>
    rw [hs] at h <;> cases h
  · exact .inl ⟨rfl, (hS.specLR_iff l r hlr hr).1 h1⟩
  · exact .inr ⟨rfl, (hS.specRL_iff l r hlr hr).1 h2⟩

theorem step_of_overlap (S : Nat → τ → Prop) (inp : Input) (hS : SetOracle S inp) (l r : Nat)
    (hlr : l < r) (hr : r < inp.n) (hneg : ¬ (inp.negative l = true ∧ inp.negative r = true))
    (hov : Overlap (S l) (S r)) (hne : step inp l r ≠ .err) :
    (step inp l r = .edge (l, r) ∧ ¬ StrictSub (S l) (S r)) ∨
    (step inp l r = .edge (r, l) ∧ ¬ StrictSub (S r) (S l)) := by
  rcases step_cases inp l r with ⟨_, hn | hd⟩ | ⟨_, _, ⟨hs, _, h2⟩ | ⟨hs, h1, _⟩ | ⟨hs, _⟩⟩
  · exact absurd hn hneg
  · exact absurd hov ((hS.disjoint_iff l r hlr hr).1 hd)
  · exact .inl ⟨hs, fun h => Bool.false_ne_true (h2.symm.trans ((hS.specRL_iff l r hlr hr).2 h))⟩
  · exact .inr ⟨hs, fun h => Bool.false_ne_true (h1.symm.trans ((hS.specLR_iff l r hlr hr).2 h))⟩
  · exact absurd hs hne

theorem overlap_priorities_lt (S : Nat → τ → Prop) (inp : Input) (pm : PMap) (hS : SetOracle S inp)
    (hm : inp.marker = false) (h : specializationPriorities inp = .ok pm)
    (l r : Nat) (hlr : l < r) (hr : r < inp.n)
    (hneg : ¬ (inp.negative l = true ∧ inp.negative r = true)) (hov : Overlap (S l) (S r)) :
    ∃ pl pr, pm.get? l = some pl ∧ pm.get? r = some pr ∧
      ((pl < pr ∧ ¬ StrictSub (S l) (S r)) ∨ (pr < pl ∧ ¬ StrictSub (S r) (S l))) := by
  obtain ⟨g, hb', hroots, hgood⟩ := specializationPriorities_ok inp pm h
  obtain ⟨recs, hv, hedges, _⟩ := buildForest_some inp g hb'
  obtain ⟨hnoerr, hrecs⟩ := visit_some inp recs hm hv
  have hclosed := buildForest_closed inp g hb'
  have hE : ∀ x y, (x, y) ∈ g.edges → StrictSub (S y) (S x) ∧ x < inp.n := by
    intro x y hxy
    obtain ⟨l, r, hlr, hr, hs⟩ := (hrecs (x, y)).1 ((hedges (x, y)).1 hxy)
    rcases step_edge_sub S inp hS l r hlr hr (x, y) hs with ⟨he, hsub⟩ | ⟨he, hsub⟩ <;> cases he
    · exact ⟨hsub, Nat.lt_trans hlr hr⟩
    · exact ⟨hsub, hr⟩
  have hall := all_nodes_present g pm inp.n (fun x y => StrictSub (S y) (S x))
    (fun x => StrictSub.irrefl (S x)) (fun _ _ _ h1 h2 => StrictSub.trans h2 h1) hE hclosed
    hroots hgood
  have hedge : ∀ x y, step inp l r = .edge (x, y) →
      ∃ px py, pm.get? x = some px ∧ pm.get? y = some py ∧ px < py := by
    intro x y hs
    have hxy := (hedges _).2 ((hrecs _).2 ⟨l, r, hlr, hr, hs⟩)
    obtain ⟨px, hpx⟩ := hall x (hclosed x y hxy).1
    obtain ⟨py, hpy, hlt⟩ := hgood x y hxy px hpx
    exact ⟨px, py, hpx, hpy, hlt⟩
  rcases step_of_overlap S inp hS l r hlr hr hneg hov (hnoerr l r hlr hr) with ⟨hs, hsub⟩ | ⟨hs, hsub⟩
  · obtain ⟨px, py, hpx, hpy, hl⟩ := hedge _ _ hs
    exact ⟨px, py, hpx, hpy, .inl ⟨hl, hsub⟩⟩
  · obtain ⟨px, py, hpx, hpy, hl⟩ := hedge _ _ hs
    exact ⟨py, px, hpy, hpx, .inr ⟨hl, hsub⟩⟩

/-- Core of `priorities_consistent`. -/
theorem overlap_priorities (S : Nat → τ → Prop) (inp : Input) (pm : PMap) (hS : SetOracle S inp)
    (hm : inp.marker = false) (h : specializationPriorities inp = .ok pm)
    (a b : Nat) (ha : a < inp.n) (hb : b < inp.n) (hab : a ≠ b)
    (hneg : ¬ (inp.negative a = true ∧ inp.negative b = true)) (hov : Overlap (S a) (S b)) :
    ∃ pa pb, pm.get? a = some pa ∧ pm.get? b = some pb ∧ pa ≠ pb ∧
      (StrictSub (S b) (S a) → pa < pb) := by
  rcases Nat.lt_or_gt_of_ne hab with hlt | hgt
  · obtain ⟨pa, pb, hpa, hpb, ⟨hl, _⟩ | ⟨hl, hsub⟩⟩ :=
      overlap_priorities_lt S inp pm hS hm h a b hlt hb hneg hov
    · exact ⟨pa, pb, hpa, hpb, Nat.ne_of_lt hl, fun _ => hl⟩
    · exact ⟨pa, pb, hpa, hpb, Nat.ne_of_gt hl, fun hs => absurd hs hsub⟩
  · obtain ⟨pb, pa, hpb, hpa, ⟨hl, hsub⟩ | ⟨hl, _⟩⟩ :=
      overlap_priorities_lt S inp pm hS hm h b a hgt ha (fun ⟨x, y⟩ => hneg ⟨y, x⟩) hov.symm
    · exact ⟨pa, pb, hpa, hpb, Nat.ne_of_gt hl, fun hs => absurd hs hsub⟩
    · exact ⟨pa, pb, hpa, hpb, Nat.ne_of_lt hl, fun _ => hl⟩

end SetOracle

end Chalk.Coherence
