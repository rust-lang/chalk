/-
  The unifier on types without type or const inference variables (no bound variables, no aliases, no
  `dyn`, no error type, fn pointers without binders): it succeeds exactly when the lifetime-erased
  types are equal and otherwise answers `NoSolution`. The traversal is done once, for types whose
  lifetime variables lie in a set `S` (`okT`, suffix `T`: rigid in types and constants only), and
  abstractly in what relating two lifetimes does to the state (`Frag`). This file instantiates it for
  `S` empty, the rigid fragment: the table is never touched and the goals pushed are exactly the
  outlives constraints dictated by variance (`subConstraints`, `Lemmas/UnifyDefs.lean`).
  `UnifyRigidLt.lean` instantiates it for lifetime variables.
-/
import ChalkModel.Lemmas.UnifyStep

namespace Chalk

def outlivesGoals (l : List (Lifetime × Lifetime)) : List UGoal := l.map fun p => UGoal.outlives p.1 p.2

def UState.addG (st : UState) (l : List (Lifetime × Lifetime)) : UState :=
  { st with goals := st.goals ++ outlivesGoals l }

@[simp] theorem outlivesGoals_nil : outlivesGoals [] = [] := rfl
@[simp] theorem outlivesGoals_append (l1 l2) :
    outlivesGoals (l1 ++ l2) = outlivesGoals l1 ++ outlivesGoals l2 := by
  simp [outlivesGoals]

@[simp] theorem UState.addG_nil (st : UState) : st.addG [] = st := by
  cases st; simp [UState.addG]

@[simp] theorem UState.addG_addG (st : UState) (l1 l2) : (st.addG l1).addG l2 = st.addG (l1 ++ l2) := by
  simp [UState.addG, List.append_assoc]

theorem ltKindOk_rigid (t : Table) (a : Lifetime) (h : a.rigid = true) : t.ltKindOk a = true := by
  cases a <;> simp_all [Lifetime.rigid, Table.ltKindOk]

theorem normalizeLifetimeShallow_rigid (t : Table) (a : Lifetime) (h : a.rigid = true) :
    t.normalizeLifetimeShallow a = none := by
  cases a <;> simp_all [Lifetime.rigid, Table.normalizeLifetimeShallow]

theorem pushOutlives_eq (v : Variance) {a b : Lifetime} (st : UState)
    (h : ¬ (a = b ∨ a = .error ∨ b = .error)) : pushOutlives v a b st = st.addG (ltConstraints v a b) := by
  unfold ltConstraints; rw [if_neg h]; cases v <;> rfl

theorem relateLifetime_rigid_eq (v : Variance) (la lb : Lifetime) (st : UState)
    (ha : la.rigid = true) (hb : lb.rigid = true) :
    relateLifetime v la lb st =
      if la = .error ∨ lb = .error then .ok st
      else if la ≠ lb then .ok (pushOutlives v la lb st) else .ok st := by
  cases la with
  | infer | bound => cases ha
  | _ =>
    cases lb with
    | infer | bound => cases hb
    | _ => rfl

theorem relateLifetime_rigid (v : Variance) (la lb : Lifetime) (st : UState)
    (ha : la.rigid = true) (hb : lb.rigid = true) :
    relateLifetime v la lb st = .ok (st.addG (ltConstraints v la lb)) := by
  rw [relateLifetime_rigid_eq v la lb st ha hb]
  by_cases he : la = .error ∨ lb = .error
  · unfold ltConstraints; rw [if_pos he, if_pos (.inr he), UState.addG_nil]
  rw [if_neg he]
  by_cases hab : la = lb
  · unfold ltConstraints; rw [if_neg (not_not_intro hab), if_pos (.inl hab), UState.addG_nil]
  · rw [if_pos hab, pushOutlives_eq v st fun h => h.elim hab he]

@[simp] theorem ltConstraints_refl (v : Variance) (a : Lifetime) : ltConstraints v a a = [] := by
  simp [ltConstraints]

mutual
  theorem subConstraints_refl (db : UDb) : (v : Variance) → (x : Ty) → subConstraints db v x x = []
    | v, .app n args => subConstraintsArgs_refl db v _ 0 args
    | v, .scalar s => rfl
    | v, .str => rfl
    | v, .never => rfl
    | v, .foreign id => rfl
    | v, .error => rfl
    | v, .array t (.mk ty cv) => by
        simp only [subConstraints, subConstraints_refl db v t, subConstraints_refl db v ty, List.append_nil]
    | v, .slice t => subConstraints_refl db v t
    | v, .raw m t => subConstraints_refl db _ t
    | v, .ref m l t => by
        simp only [subConstraints, ltConstraints_refl, subConstraints_refl db _ t, List.append_nil]
    | v, .placeholder ui idx => rfl
    | v, .dyn kinds bounds l => rfl
    | v, .proj id args => rfl
    | v, .opaque id args => rfl
    | v, .function nb sig args => by
        cases v <;> simp only [subConstraints, subConstraintsFn_refl db _ args, List.append_nil]
    | v, .bound d idx => rfl
    | v, .infer x k => rfl
  theorem subConstraintsGArg_refl (db : UDb) : (v : Variance) → (x : GArg) → subConstraintsGArg db v x x = []
    | v, .ty t => subConstraints_refl db v t
    | v, .lt l => ltConstraints_refl v l
    | v, .ct (.mk ty _) => subConstraints_refl db v ty
  theorem subConstraintsArgs_refl (db : UDb) : (v : Variance) → (vs : Option (List Variance)) → (i : Nat) →
      (x : Args) → subConstraintsArgs db v vs i x x = []
    | v, vs, i, .nil => rfl
    | v, vs, i, .cons a as => by
        simp only [subConstraintsArgs, subConstraintsGArg_refl db _ a, subConstraintsArgs_refl db v vs (i + 1) as,
          List.append_nil]
  theorem subConstraintsFn_refl (db : UDb) : (v : Variance) → (x : Args) → subConstraintsFn db v x x = []
    | v, .nil => rfl
    | v, .cons a .nil => subConstraintsGArg_refl db _ a
    | v, .cons a (.cons a' as) => by
        simp only [subConstraintsFn, subConstraintsGArg_refl db _ a, subConstraintsFn_refl db v (.cons a' as),
          List.append_nil]
end

/-- `r` succeeds with a state satisfying `Φ` when `P`, and is `NoSolution` otherwise -/
def Outcome (Φ : UState → Prop) (P : Prop) (r : URes UState) : Prop :=
  (P → ∃ st', r = .ok st' ∧ Φ st') ∧ (¬ P → r = .error .noSolution)

theorem Outcome.of_ok {Φ : UState → Prop} {st' : UState} {P : Prop} (hP : P) (h : Φ st') :
    Outcome Φ P (.ok st') :=
  ⟨fun _ => ⟨st', rfl, h⟩, fun hn => absurd hP hn⟩

theorem Outcome.of_err {Φ : UState → Prop} {P : Prop} (hP : ¬ P) : Outcome Φ P (.error .noSolution) :=
  ⟨fun h => absurd h hP, fun _ => rfl⟩

theorem Outcome.imp {Φ Ψ : UState → Prop} {P Q : Prop} {r : URes UState} (h : Outcome Φ P r)
    (hΦ : ∀ s, Φ s → Ψ s) (hPQ : P ↔ Q) : Outcome Ψ Q r :=
  ⟨fun hq => (h.1 (hPQ.mpr hq)).imp fun _ h => ⟨h.1, hΦ _ h.2⟩, fun hq => h.2 (fun hp => hq (hPQ.mp hp))⟩

theorem Outcome.congr {Φ : UState → Prop} {P Q : Prop} {r : URes UState} (hPQ : P ↔ Q)
    (h : Outcome Φ P r) : Outcome Φ Q r :=
  h.imp (fun _ h => h) hPQ

theorem Outcome.cases {Φ : UState → Prop} {P : Prop} {r : URes UState} (h : Outcome Φ P r) :
    (P ∧ ∃ st', r = .ok st' ∧ Φ st') ∨ (¬ P ∧ r = .error .noSolution) := by
  by_cases hP : P
  · exact .inl ⟨hP, h.1 hP⟩
  · exact .inr ⟨hP, h.2 hP⟩

/-- sequencing, in continuation form: `k` is "match on the result, propagate errors" -/
theorem Outcome.bind {Φ Ξ : UState → Prop} {Ψ : UState → UState → Prop} {P Q : Prop} {r : URes UState}
    (k : URes UState → URes UState) (f : UState → URes UState)
    (hok : ∀ s, k (.ok s) = f s) (herr : ∀ e, k (.error e) = .error e)
    (h1 : Outcome Φ P r) (h2 : ∀ s, Φ s → Outcome (Ψ s) Q (f s)) (hc : ∀ s s', Φ s → Ψ s s' → Ξ s') :
    Outcome Ξ (P ∧ Q) (k r) := by
  rcases h1.cases with ⟨hP, s1, hr, hs⟩ | ⟨hP, hr⟩
  · rw [hr, hok]
    rcases (h2 s1 hs).cases with ⟨hQ, s2, hr2, hs2⟩ | ⟨hQ, hr2⟩
    · rw [hr2]; exact Outcome.of_ok ⟨hP, hQ⟩ (hc s1 s2 hs hs2)
    · rw [hr2]; exact Outcome.of_err (fun h => hQ h.2)
  · rw [hr, herr]; exact Outcome.of_err (fun h => hP h.1)

theorem Outcome.eq_ite {P : Prop} [Decidable P] {s : UState} {r : URes UState} (h : Outcome (· = s) P r) :
    r = if P then .ok s else .error .noSolution := by
  by_cases hP : P
  · obtain ⟨_, hr, rfl⟩ := h.1 hP; rw [if_pos hP, hr]
  · rw [if_neg hP, h.2 hP]

theorem UState.addG_trans {st s s' : UState} {l1 l2 : List (Lifetime × Lifetime)}
    (h1 : s = st.addG l1) (h2 : s' = s.addG l2) : s' = st.addG (l1 ++ l2) := by
  rw [h2, h1, UState.addG_addG]

theorem relateConst_outcome {Φ : UState → Prop} {rel : RelTy} {v : Variance} {ta tb : Ty} {va vb : ConstValue}
    {st : UState} (jf : Nat) (ha : va.rigid = true) (hb : vb.rigid = true)
    (h : Outcome Φ (ta.eraseLt = tb.eraseLt) (rel v ta tb st)) :
    Outcome Φ ((Const.mk ta va).eraseLt = (Const.mk tb vb).eraseLt)
      (relateConst rel jf v (.mk ta va) (.mk tb vb) st) := by
  have e : relateConst rel jf v (.mk ta va) (.mk tb vb) st =
      match rel v ta tb st with
      | .error e => .error e
      | .ok st1 => if va = vb then .ok st1 else .error .noSolution := by
    cases va with
    | infer | bound => cases ha
    | concrete k1 =>
      cases vb with
      | infer | bound => cases hb
      | concrete k2 => simp only [ConstValue.concrete.injEq]; rfl
      | placeholder u2 i2 => simp only [reduceCtorEq, if_false]; rfl
    | placeholder u1 i1 =>
      cases vb with
      | infer | bound => cases hb
      | concrete k2 => simp only [reduceCtorEq, if_false]; rfl
      | placeholder u2 i2 => simp only [ConstValue.placeholder.injEq]; rfl
  rw [e]
  refine (Outcome.bind (Ψ := fun s s' => s' = s) (Q := va = vb)
    (fun r => match r with
      | .error e => .error e
      | .ok st1 => if va = vb then .ok st1 else .error .noSolution)
    (fun st1 => if va = vb then .ok st1 else .error .noSolution) (fun _ => rfl) (fun _ => rfl) h
    (fun s _ => ?_) (fun s s' hs e => e ▸ hs)).congr
    ⟨fun ⟨h1, h2⟩ => by rw [Const.eraseLt, Const.eraseLt, h1, h2], fun h => by
      rw [Const.eraseLt, Const.eraseLt] at h; exact ⟨(Const.mk.inj h).1, (Const.mk.inj h).2⟩⟩
  by_cases hv : va = vb
  · rw [if_pos hv]; exact Outcome.of_ok hv rfl
  · rw [if_neg hv]; exact Outcome.of_err hv

theorem Args.eraseLt_cons_eq (a b : GArg) (as bs : Args) :
    (Args.cons a as).eraseLt = (Args.cons b bs).eraseLt ↔ a.eraseLt = b.eraseLt ∧ as.eraseLt = bs.eraseLt :=
  ⟨fun h => Args.cons.inj h, fun h => by show Args.cons _ _ = Args.cons _ _; rw [h.1, h.2]⟩

theorem Args.eraseLt_length : (a : Args) → a.eraseLt.toList.length = a.toList.length
  | .nil => rfl
  | .cons _ as => congrArg (· + 1) (Args.eraseLt_length as)

theorem Args.eraseLt_ne_of_length {as bs : Args} (h : as.toList.length ≠ bs.toList.length) :
    as.eraseLt ≠ bs.eraseLt :=
  fun e => h (by rw [← as.eraseLt_length, e, bs.eraseLt_length])

theorem zipSubsts_cons (rel : RelTy) (jf : Nat) (v : Variance) (vs : Option (List Variance)) (i : Nat)
    (a b : GArg) (as bs : Args) (st : UState) (hvs : ∀ l, vs = some l → i < l.length) :
    zipSubsts rel jf v vs i (.cons a as) (.cons b bs) st =
      match relateGArg rel jf (v.xform (positionVariance vs i)) a b st with
      | .ok st' => zipSubsts rel jf v vs (i + 1) as bs st'
      | .error e => .error e := by
  cases vs with
  | none => rfl
  | some l =>
    have hi := hvs l rfl
    simp only [zipSubsts, positionVariance, List.getD_eq_getElem?_getD, List.getElem?_eq_getElem hi,
      Option.getD_some]
    rfl

theorem zipFnSubst_cons_cons (rel : RelTy) (jf : Nat) (v : Variance) (a a' : GArg) (as : Args)
    (b b' : GArg) (bs : Args) (st : UState) (hlen : as.toList.length = bs.toList.length) :
    zipFnSubst rel jf v (.cons a (.cons a' as)) (.cons b (.cons b' bs)) st =
      match relateGArg rel jf (v.xform .contra) a b st with
      | .ok st' => zipFnSubst rel jf v (.cons a' as) (.cons b' bs) st'
      | .error e => .error e := by
  simp only [zipFnSubst, Args.toList, List.length_cons, hlen, Nat.succ_ne_zero, or_self, ne_eq,
    not_true_eq_false, if_false, List.dropLast_cons_cons, List.getLast?_cons_cons, zipSlice]
  cases relateGArg rel jf (v.xform .contra) a b st <;> rfl

theorem zipFnSubst_length_ne (rel : RelTy) (jf : Nat) (v : Variance) (a b : GArg) (as bs : Args) (st : UState)
    (hlen : as.toList.length ≠ bs.toList.length) :
    zipFnSubst rel jf v (.cons a as) (.cons b bs) st = .error .noSolution := by
  simp only [zipFnSubst, Args.toList, List.length_cons, Nat.succ_ne_zero, or_self, if_false, ne_eq,
    Nat.add_right_cancel_iff, hlen, not_false_eq_true, if_true]

def Lifetime.rigidT : Lifetime → Bool
  | .bound _ _ => false
  | _ => true

mutual
  def Ty.rigidT : Ty → Bool
    | .app _ args => args.rigidT
    | .scalar _ => true
    | .str => true
    | .never => true
    | .foreign _ => true
    | .placeholder _ _ => true
    | .array t c => t.rigidT && c.rigidT
    | .slice t => t.rigidT
    | .raw _ t => t.rigidT
    | .ref _ l t => l.rigidT && t.rigidT
    | .function nb _ args => nb == 0 && !args.isNil && args.rigidT
    | _ => false
  def Const.rigidT : Const → Bool
    | .mk ty v => ty.rigidT && v.rigid
  def GArg.rigidT : GArg → Bool
    | .ty t => t.rigidT
    | .lt l => l.rigidT
    | .ct c => c.rigidT
  def Args.rigidT : Args → Bool
    | .nil => true
    | .cons a as => a.rigidT && as.rigidT
end

def Lifetime.ltVars : Lifetime → List Nat
  | .infer v => [v]
  | _ => []

mutual
  def Ty.ltVars : Ty → List Nat
    | .app _ args => args.ltVars
    | .array t c => t.ltVars ++ c.ltVars
    | .slice t => t.ltVars
    | .raw _ t => t.ltVars
    | .ref _ l t => l.ltVars ++ t.ltVars
    | .function _ _ args => args.ltVars
    | .proj _ args => args.ltVars
    | .opaque _ args => args.ltVars
    | _ => []
  def Const.ltVars : Const → List Nat
    | .mk ty _ => ty.ltVars
  def GArg.ltVars : GArg → List Nat
    | .ty t => t.ltVars
    | .lt l => l.ltVars
    | .ct c => c.ltVars
  def Args.ltVars : Args → List Nat
    | .nil => []
    | .cons a as => a.ltVars ++ as.ltVars
end

theorem Lifetime.rigidT_of_rigid {l : Lifetime} (h : l.rigid = true) : l.rigidT = true ∧ l.ltVars = [] := by
  cases l <;> first | exact ⟨rfl, rfl⟩ | cases h

mutual
  theorem Ty.rigidT_of_rigid : (a : Ty) → a.rigid = true → a.rigidT = true ∧ a.ltVars = []
    | .app _ args, h => Args.rigidT_of_rigid args h
    | .scalar _, _ | .str, _ | .never, _ | .foreign _, _ | .placeholder _ _, _ => ⟨rfl, rfl⟩
    | .array t c, h => by
        have h := Bool.and_eq_true_iff.mp h
        simp only [Ty.rigidT, Ty.ltVars, Ty.rigidT_of_rigid t h.1, Const.rigidT_of_rigid c h.2, Bool.and_self,
          List.append_nil, and_self]
    | .slice t, h => Ty.rigidT_of_rigid t h
    | .raw _ t, h => Ty.rigidT_of_rigid t h
    | .ref _ l t, h => by
        have h := Bool.and_eq_true_iff.mp h
        simp only [Ty.rigidT, Ty.ltVars, Lifetime.rigidT_of_rigid h.1, Ty.rigidT_of_rigid t h.2, Bool.and_self,
          List.append_nil, and_self]
    | .function _ _ args, h => by
        have h := Bool.and_eq_true_iff.mp h
        simp only [Ty.rigidT, Ty.ltVars, h.1, Args.rigidT_of_rigid args h.2, Bool.and_self, and_self]
    | .error, h | .dyn _ _ _, h | .proj _ _, h | .opaque _ _, h | .bound _ _, h | .infer _ _, h => nomatch h
  theorem Const.rigidT_of_rigid : (c : Const) → c.rigid = true → c.rigidT = true ∧ c.ltVars = []
    | .mk ty _, h => by
        have h := Bool.and_eq_true_iff.mp h
        simp only [Const.rigidT, Const.ltVars, Ty.rigidT_of_rigid ty h.1, h.2, Bool.and_self, and_self]
  theorem GArg.rigidT_of_rigid : (g : GArg) → g.rigid = true → g.rigidT = true ∧ g.ltVars = []
    | .ty t, h => Ty.rigidT_of_rigid t h
    | .lt _, h => Lifetime.rigidT_of_rigid h
    | .ct c, h => Const.rigidT_of_rigid c h
  theorem Args.rigidT_of_rigid : (as : Args) → as.rigid = true → as.rigidT = true ∧ as.ltVars = []
    | .nil, _ => ⟨rfl, rfl⟩
    | .cons a as, h => by
        have h := Bool.and_eq_true_iff.mp h
        simp only [Args.rigidT, Args.ltVars, GArg.rigidT_of_rigid a h.1, Args.rigidT_of_rigid as h.2, Bool.and_self,
          List.append_nil, and_self]
end

/-- a folder that substitutes nothing that occurs in `t` returns `t` -/
theorem foldLifetime_eq_self (f : Folder) (h2 : f.phLt = none) (outer : Nat) (l : Lifetime)
    (h : l.rigidT = true) (h4 : f.inferLt = none ∨ l.ltVars = []) : foldLifetime f outer l = .ok l := by
  cases l with
  | placeholder ui idx => simp only [foldLifetime, h2]
  | infer v => simp only [foldLifetime, h4.resolve_right (List.cons_ne_nil _ _)]
  | bound => cases h
  | _ => rfl

theorem inferLt_or_append {f : Folder} {l1 l2 : List Nat} (h : f.inferLt = none ∨ l1 ++ l2 = []) :
    (f.inferLt = none ∨ l1 = []) ∧ (f.inferLt = none ∨ l2 = []) :=
  ⟨h.imp_right fun e => (List.append_eq_nil_iff.mp e).1, h.imp_right fun e => (List.append_eq_nil_iff.mp e).2⟩

mutual
  theorem foldTy_eq_self (f : Folder) (h1 : f.phTy = none) (h2 : f.phLt = none) (h3 : f.phConst = none)
      (outer : Nat) : (t : Ty) → t.rigidT = true → f.inferLt = none ∨ t.ltVars = [] → foldTy f outer t = .ok t
    | .app n args, h, h4 => by simp only [foldTy, foldArgs_eq_self f h1 h2 h3 outer args h h4]
    | .scalar s, _, _ => rfl
    | .str, _, _ => rfl
    | .never, _, _ => rfl
    | .foreign id, _, _ => rfl
    | .error, h, _ => nomatch h
    | .array t c, h, h4 => by
        have h := Bool.and_eq_true_iff.mp h
        have h4 := inferLt_or_append h4
        simp only [foldTy, foldTy_eq_self f h1 h2 h3 outer t h.1 h4.1, foldConst_eq_self f h1 h2 h3 outer c h.2 h4.2]
    | .slice t, h, h4 => by simp only [foldTy, foldTy_eq_self f h1 h2 h3 outer t h h4]
    | .raw m t, h, h4 => by simp only [foldTy, foldTy_eq_self f h1 h2 h3 outer t h h4]
    | .ref m l t, h, h4 => by
        have h := Bool.and_eq_true_iff.mp h
        have h4 := inferLt_or_append h4
        simp only [foldTy, foldTy_eq_self f h1 h2 h3 outer t h.2 h4.2, foldLifetime_eq_self f h2 outer l h.1 h4.1]
    | .placeholder ui idx, _, _ => by simp only [foldTy, h1]
    | .dyn kinds bounds l, h, _ => nomatch h
    | .proj id args, h, _ => nomatch h
    | .opaque id args, h, _ => nomatch h
    | .function nb sig args, h, h4 => by
        have h := Bool.and_eq_true_iff.mp h
        simp only [foldTy, foldArgs_eq_self f h1 h2 h3 (outer + 1) args h.2 h4]
    | .bound db idx, h, _ => nomatch h
    | .infer v k, h, _ => nomatch h
  theorem foldConst_eq_self (f : Folder) (h1 : f.phTy = none) (h2 : f.phLt = none) (h3 : f.phConst = none)
      (outer : Nat) : (c : Const) → c.rigidT = true → f.inferLt = none ∨ c.ltVars = [] → foldConst f outer c = .ok c
    | .mk ty (.bound db idx), h, _ => nomatch (Bool.and_eq_true_iff.mp h).2
    | .mk ty (.infer v), h, _ => nomatch (Bool.and_eq_true_iff.mp h).2
    | .mk ty (.placeholder ui idx), h, h4 => by
        simp only [foldConst, h3, foldTy_eq_self f h1 h2 h3 outer ty (Bool.and_eq_true_iff.mp h).1 h4]
    | .mk ty (.concrete k), h, h4 => by
        simp only [foldConst, foldTy_eq_self f h1 h2 h3 outer ty (Bool.and_eq_true_iff.mp h).1 h4]
  theorem foldGArg_eq_self (f : Folder) (h1 : f.phTy = none) (h2 : f.phLt = none) (h3 : f.phConst = none)
      (outer : Nat) : (a : GArg) → a.rigidT = true → f.inferLt = none ∨ a.ltVars = [] → foldGArg f outer a = .ok a
    | .ty t, h, h4 => by simp only [foldGArg, foldTy_eq_self f h1 h2 h3 outer t h h4]
    | .lt l, h, h4 => by simp only [foldGArg, foldLifetime_eq_self f h2 outer l h h4]
    | .ct c, h, h4 => by simp only [foldGArg, foldConst_eq_self f h1 h2 h3 outer c h h4]
  theorem foldArgs_eq_self (f : Folder) (h1 : f.phTy = none) (h2 : f.phLt = none) (h3 : f.phConst = none)
      (outer : Nat) : (a : Args) → a.rigidT = true → f.inferLt = none ∨ a.ltVars = [] → foldArgs f outer a = .ok a
    | .nil, _, _ => rfl
    | .cons a as, h, h4 => by
        have h := Bool.and_eq_true_iff.mp h
        have h4 := inferLt_or_append h4
        simp only [foldArgs, foldGArg_eq_self f h1 h2 h3 outer a h.1 h4.1, foldArgs_eq_self f h1 h2 h3 outer as h.2 h4.2]
end

theorem foldTy_rigidT (f : Folder) (h1 : f.phTy = none) (h2 : f.phLt = none) (h3 : f.phConst = none)
      (h4 : f.inferLt = none) (outer : Nat) : (t : Ty) → t.rigidT = true → foldTy f outer t = .ok t :=
  fun t h => foldTy_eq_self f h1 h2 h3 outer t h (.inl h4)
theorem foldConst_rigidT (f : Folder) (h1 : f.phTy = none) (h2 : f.phLt = none) (h3 : f.phConst = none)
      (h4 : f.inferLt = none) (outer : Nat) : (c : Const) → c.rigidT = true → foldConst f outer c = .ok c :=
  fun c h => foldConst_eq_self f h1 h2 h3 outer c h (.inl h4)
theorem foldGArg_rigidT (f : Folder) (h1 : f.phTy = none) (h2 : f.phLt = none) (h3 : f.phConst = none)
      (h4 : f.inferLt = none) (outer : Nat) : (a : GArg) → a.rigidT = true → foldGArg f outer a = .ok a :=
  fun a h => foldGArg_eq_self f h1 h2 h3 outer a h (.inl h4)
theorem foldArgs_rigidT (f : Folder) (h1 : f.phTy = none) (h2 : f.phLt = none) (h3 : f.phConst = none)
      (h4 : f.inferLt = none) (outer : Nat) : (a : Args) → a.rigidT = true → foldArgs f outer a = .ok a :=
  fun a h => foldArgs_eq_self f h1 h2 h3 outer a h (.inl h4)

theorem foldTy_rigid (f : Folder) (h1 : f.phTy = none) (h2 : f.phLt = none) (h3 : f.phConst = none)
      (outer : Nat) : (t : Ty) → t.rigid = true → foldTy f outer t = .ok t :=
  fun t h => have h := Ty.rigidT_of_rigid t h; foldTy_eq_self f h1 h2 h3 outer t h.1 (.inr h.2)
theorem foldConst_rigid (f : Folder) (h1 : f.phTy = none) (h2 : f.phLt = none) (h3 : f.phConst = none)
      (outer : Nat) : (c : Const) → c.rigid = true → foldConst f outer c = .ok c :=
  fun c h => have h := Const.rigidT_of_rigid c h; foldConst_eq_self f h1 h2 h3 outer c h.1 (.inr h.2)
theorem foldGArg_rigid (f : Folder) (h1 : f.phTy = none) (h2 : f.phLt = none) (h3 : f.phConst = none)
      (outer : Nat) : (a : GArg) → a.rigid = true → foldGArg f outer a = .ok a :=
  fun a h => have h := GArg.rigidT_of_rigid a h; foldGArg_eq_self f h1 h2 h3 outer a h.1 (.inr h.2)
theorem foldArgs_rigid (f : Folder) (h1 : f.phTy = none) (h2 : f.phLt = none) (h3 : f.phConst = none)
      (outer : Nat) : (a : Args) → a.rigid = true → foldArgs f outer a = .ok a :=
  fun a h => have h := Args.rigidT_of_rigid a h; foldArgs_eq_self f h1 h2 h3 outer a h.1 (.inr h.2)

theorem instFnUniversally_rigidT (args : Args) (st : UState) (h : args.rigidT = true) :
    instFnUniversally 0 args st = .ok (args, st) := by
  simp [instFnUniversally, Args.subst, foldArgs_rigidT (substFolder []) rfl rfl rfl rfl 0 args h, liftRes]

theorem instFnExistentially_rigidT (args : Args) (st : UState) (h : args.rigidT = true) :
    instFnExistentially 0 args st = .ok (args, st) := by
  simp [instFnExistentially, freshLifetimeVars, foldArgs_rigidT (applyFolder []) rfl rfl rfl rfl 0 args h,
    liftRes]

def Lifetime.okT (S : Nat → Prop) (l : Lifetime) : Prop := l.rigidT = true ∧ ∀ x ∈ l.ltVars, S x
def Ty.okT (ar : TyName → Nat) (S : Nat → Prop) (a : Ty) : Prop :=
  a.rigidT = true ∧ (∀ x ∈ a.ltVars, S x) ∧ a.arityOk ar = true
def Const.okT (ar : TyName → Nat) (S : Nat → Prop) (a : Const) : Prop :=
  a.rigidT = true ∧ (∀ x ∈ a.ltVars, S x) ∧ a.arityOk ar = true
def GArg.okT (ar : TyName → Nat) (S : Nat → Prop) (a : GArg) : Prop :=
  a.rigidT = true ∧ (∀ x ∈ a.ltVars, S x) ∧ a.arityOk ar = true
def Args.okT (ar : TyName → Nat) (S : Nat → Prop) (a : Args) : Prop :=
  a.rigidT = true ∧ (∀ x ∈ a.ltVars, S x) ∧ a.arityOk ar = true

section okT
variable {ar : TyName → Nat} {S : Nat → Prop}

theorem Ty.okT_app {n : TyName} {as : Args} (h : (Ty.app n as).okT ar S) :
    as.toList.length = ar n ∧ as.okT ar S :=
  have ha := Bool.and_eq_true_iff.mp h.2.2
  ⟨beq_iff_eq.mp ha.1, h.1, h.2.1, ha.2⟩
theorem Ty.okT_array {t : Ty} {c : Const} (h : (Ty.array t c).okT ar S) : t.okT ar S ∧ c.okT ar S :=
  have hr := Bool.and_eq_true_iff.mp h.1
  have ha := Bool.and_eq_true_iff.mp h.2.2
  ⟨⟨hr.1, fun x hx => h.2.1 x (List.mem_append_left _ hx), ha.1⟩,
   ⟨hr.2, fun x hx => h.2.1 x (List.mem_append_right _ hx), ha.2⟩⟩
theorem Ty.okT_slice {t : Ty} (h : (Ty.slice t).okT ar S) : t.okT ar S := h
theorem Ty.okT_raw {m : Bool} {t : Ty} (h : (Ty.raw m t).okT ar S) : t.okT ar S := h
theorem Ty.okT_ref {m : Bool} {l : Lifetime} {t : Ty} (h : (Ty.ref m l t).okT ar S) :
    l.okT S ∧ t.okT ar S :=
  have hr := Bool.and_eq_true_iff.mp h.1
  ⟨⟨hr.1, fun x hx => h.2.1 x (List.mem_append_left _ hx)⟩,
   ⟨hr.2, fun x hx => h.2.1 x (List.mem_append_right _ hx), h.2.2⟩⟩
theorem Ty.okT_function {nb sig : Nat} {as : Args} (h : (Ty.function nb sig as).okT ar S) :
    nb = 0 ∧ as.isNil = false ∧ as.okT ar S :=
  have hr := Bool.and_eq_true_iff.mp h.1
  have hr1 := Bool.and_eq_true_iff.mp hr.1
  ⟨beq_iff_eq.mp hr1.1, (Bool.not_eq_true' _).mp hr1.2, hr.2, h.2.1, h.2.2⟩
theorem Const.okT_mk {ty : Ty} {v : ConstValue} (h : (Const.mk ty v).okT ar S) :
    ty.okT ar S ∧ v.rigid = true :=
  have hr := Bool.and_eq_true_iff.mp h.1
  ⟨⟨hr.1, h.2.1, h.2.2⟩, hr.2⟩
theorem GArg.okT_ty {t : Ty} (h : (GArg.ty t).okT ar S) : t.okT ar S := h
theorem GArg.okT_lt {l : Lifetime} (h : (GArg.lt l).okT ar S) : l.okT S := ⟨h.1, h.2.1⟩
theorem GArg.okT_ct {c : Const} (h : (GArg.ct c).okT ar S) : c.okT ar S := h
theorem Args.okT_cons {a : GArg} {as : Args} (h : (Args.cons a as).okT ar S) : a.okT ar S ∧ as.okT ar S :=
  have hr := Bool.and_eq_true_iff.mp h.1
  have ha := Bool.and_eq_true_iff.mp h.2.2
  ⟨⟨hr.1, fun x hx => h.2.1 x (List.mem_append_left _ hx), ha.1⟩,
   ⟨hr.2, fun x hx => h.2.1 x (List.mem_append_right _ hx), ha.2⟩⟩

end okT

theorem Lifetime.rigid_of_okT {l : Lifetime} (h : l.okT fun _ => False) : l.rigid = true := by
  cases l with
  | infer x => exact (h.2 x (List.Mem.head _)).elim
  | bound => cases h.1
  | _ => rfl

/-- a variable-free type lies in the fragment whatever `S` is, in particular for the empty `S` -/
theorem Ty.okT_of_rigid {ar : TyName → Nat} {S : Nat → Prop} {a : Ty} (h : a.rigid = true)
    (haa : a.arityOk ar = true) : a.okT ar S :=
  have h := Ty.rigidT_of_rigid a h
  ⟨h.1, by rw [h.2]; nofun, haa⟩

theorem Ty.rigidT_head {a : Ty} (h : a.rigidT = true) : a.plain = true ∧ a.isInfer = false := by
  cases a <;> first | exact ⟨rfl, rfl⟩ | cases h

/-- What the traversal needs to know of the lifetimes, for types whose lifetime variables lie in `S`:
    `Pre` is the invariant of the state, `Post st l st'` says what relating two types whose variance
    constraints are `l` does to it. Two instances: without variables the state gains exactly the
    goals `l` (`Frag.rigid`); with them the table changes and only its invariant is kept
    (`Frag.ltVars`, `UnifyRigidLt.lean`). -/
structure Frag (S : Nat → Prop) (Pre : UState → Prop)
    (Post : UState → List (Lifetime × Lifetime) → UState → Prop) : Prop where
  refl : ∀ {st}, Pre st → Post st [] st
  trans : ∀ {st s s' l1 l2}, Post st l1 s → Post s l2 s' → Post st (l1 ++ l2) s'
  pre : ∀ {st l s}, Post st l s → Pre s
  lifetime : ∀ {st} (v : Variance) (la lb : Lifetime), Pre st → la.okT S → lb.okT S →
    ∃ st', relateLifetime v la lb st = .ok st' ∧ Post st (ltConstraints v la lb) st'

/-- the induction hypothesis on the nested `relate_ty_ty`, for types of depth at most `n` -/
def RelOK (db : UDb) (ar : TyName → Nat) (S : Nat → Prop) (Pre : UState → Prop)
    (Post : UState → List (Lifetime × Lifetime) → UState → Prop) (rel : RelTy) (n : Nat) : Prop :=
  ∀ (v : Variance) (a b : Ty) (st : UState), Pre st → a.okT ar S → b.okT ar S → a.depth ≤ n →
    Outcome (Post st (subConstraints db v a b)) (a.eraseLt = b.eraseLt) (rel v a b st)

section rel
variable {db : UDb} {ar : TyName → Nat} {S : Nat → Prop} {Pre : UState → Prop}
  {Post : UState → List (Lifetime × Lifetime) → UState → Prop} {rel : RelTy} {n : Nat}

theorem relateGArg_ok (F : Frag S Pre Post) (hrel : RelOK db ar S Pre Post rel n) (jf : Nat) (v : Variance)
    (a b : GArg) (st : UState) (hp : Pre st) (ha : a.okT ar S) (hb : b.okT ar S) (hd : a.depth ≤ n) :
    Outcome (Post st (subConstraintsGArg db v a b)) (a.eraseLt = b.eraseLt) (relateGArg rel jf v a b st) := by
  cases a with
  | ty ta =>
    cases b with
    | ty tb =>
      exact (hrel v ta tb st hp (GArg.okT_ty ha) (GArg.okT_ty hb) hd).congr ⟨congrArg GArg.ty, GArg.ty.inj⟩
    | _ => exact Outcome.of_err nofun
  | lt la =>
    cases b with
    | lt lb =>
      obtain ⟨st', hr, hs⟩ := F.lifetime v la lb hp (GArg.okT_lt ha) (GArg.okT_lt hb)
      show Outcome _ _ (relateLifetime v la lb st)
      rw [hr]; exact Outcome.of_ok rfl hs
    | _ => exact Outcome.of_err nofun
  | ct ka =>
    cases b with
    | ct kb =>
      obtain ⟨ta, va⟩ := ka
      obtain ⟨tb, vb⟩ := kb
      obtain ⟨hta, hva⟩ := Const.okT_mk (GArg.okT_ct ha)
      obtain ⟨htb, hvb⟩ := Const.okT_mk (GArg.okT_ct hb)
      exact (relateConst_outcome jf hva hvb (hrel v ta tb st hp hta htb hd)).congr
        ⟨congrArg GArg.ct, GArg.ct.inj⟩
    | _ => exact Outcome.of_err nofun

theorem zipSubsts_ok (F : Frag S Pre Post) (hrel : RelOK db ar S Pre Post rel n) (jf : Nat) (v : Variance)
    (vs : Option (List Variance)) :
    (as bs : Args) → (i : Nat) → (st : UState) → Pre st →
    as.toList.length = bs.toList.length →
    (∀ l, vs = some l → i + as.toList.length ≤ l.length) →
    as.okT ar S → bs.okT ar S → as.depth ≤ n →
    Outcome (Post st (subConstraintsArgs db v vs i as bs)) (as.eraseLt = bs.eraseLt)
      (zipSubsts rel jf v vs i as bs st)
  | .nil, .nil, i, st, hp, _, _, _, _, _ => Outcome.of_ok rfl (F.refl hp)
  | .nil, .cons b bs, i, st, _, hl, _, _, _, _ => nomatch hl
  | .cons a as, .nil, i, st, _, hl, _, _, _, _ => nomatch hl
  | .cons a as, .cons b bs, i, st, hp, hl, hvs, ha, hb, hd => by
      have hl : as.toList.length = bs.toList.length := Nat.succ.inj hl
      have hvs : ∀ l, vs = some l → i + (as.toList.length + 1) ≤ l.length := hvs
      obtain ⟨ha1, ha2⟩ := Args.okT_cons ha
      obtain ⟨hb1, hb2⟩ := Args.okT_cons hb
      have hd : max a.depth as.depth ≤ n := hd
      rw [zipSubsts_cons rel jf v vs i a b as bs st fun l h => by have := hvs l h; omega]
      exact (Outcome.bind
        (fun r => match r with
          | .ok st' => zipSubsts rel jf v vs (i + 1) as bs st'
          | .error e => .error e) _ (fun _ => rfl) (fun _ => rfl)
        (relateGArg_ok F hrel jf _ a b st hp ha1 hb1 (Nat.le_trans (Nat.le_max_left _ _) hd))
        (fun s hs => zipSubsts_ok F hrel jf v vs as bs (i + 1) s (F.pre hs) hl
          (fun l h => by have := hvs l h; omega) ha2 hb2 (Nat.le_trans (Nat.le_max_right _ _) hd))
        (fun _ _ => F.trans)).congr (Args.eraseLt_cons_eq a b as bs).symm

theorem zipFnSubst_ok (F : Frag S Pre Post) (hrel : RelOK db ar S Pre Post rel n) (jf : Nat) (v : Variance) :
    (as bs : Args) → (st : UState) → Pre st →
    as.isNil = false → bs.isNil = false → as.okT ar S → bs.okT ar S → as.depth ≤ n →
    Outcome (Post st (subConstraintsFn db v as bs)) (as.eraseLt = bs.eraseLt) (zipFnSubst rel jf v as bs st)
  | .nil, _, st, _, h, _, _, _, _ => nomatch h
  | .cons _ _, .nil, st, _, _, h, _, _, _ => nomatch h
  | .cons a as, .cons b bs, st, hp, _, _, ha, hb, hd => by
      obtain ⟨ha1, ha2⟩ := Args.okT_cons ha
      obtain ⟨hb1, hb2⟩ := Args.okT_cons hb
      have hd : max a.depth as.depth ≤ n := hd
      by_cases hlen : as.toList.length = bs.toList.length
      · cases as with
        | nil =>
          cases bs with
          | nil =>
            exact (relateGArg_ok F hrel jf v a b st hp ha1 hb1 (Nat.le_trans (Nat.le_max_left _ _) hd)).congr
              ⟨fun h => by show Args.cons _ _ = Args.cons _ _; rw [h], fun h => (Args.cons.inj h).1⟩
          | cons b' bs => cases hlen
        | cons a' as =>
          cases bs with
          | nil => cases hlen
          | cons b' bs =>
            rw [zipFnSubst_cons_cons _ _ _ _ _ _ _ _ _ _ (Nat.succ.inj hlen)]
            exact (Outcome.bind
              (fun r => match r with
                | .ok st' => zipFnSubst rel jf v (.cons a' as) (.cons b' bs) st'
                | .error e => .error e) _ (fun _ => rfl) (fun _ => rfl)
              (relateGArg_ok F hrel jf _ a b st hp ha1 hb1 (Nat.le_trans (Nat.le_max_left _ _) hd))
              (fun s hs => zipFnSubst_ok F hrel jf v (.cons a' as) (.cons b' bs) s (F.pre hs) rfl rfl ha2 hb2
                (Nat.le_trans (Nat.le_max_right _ _) hd))
              (fun _ _ => F.trans)).congr (Args.eraseLt_cons_eq a b _ _).symm
      · rw [zipFnSubst_length_ne rel jf v a b as bs st hlen]
        exact Outcome.of_err (Args.eraseLt_ne_of_length (as := .cons a as) (bs := .cons b bs)
          fun e => hlen (Nat.succ.inj e))

theorem relateFnBinders_ok (F : Frag S Pre Post) (hrel : RelOK db ar S Pre Post rel n) (jf : Nat) (v : Variance)
    (as bs : Args) (st : UState) (hp : Pre st) (hna : as.isNil = false) (hnb : bs.isNil = false)
    (ha : as.okT ar S) (hb : bs.okT ar S) (hd : as.depth ≤ n) :
    Outcome (Post st (match v with
        | .inv => subConstraintsFn db .contra as bs ++ subConstraintsFn db .co as bs
        | v => subConstraintsFn db v as bs)) (as.eraseLt = bs.eraseLt)
      (relateFnBinders rel jf v 0 as 0 bs st) := by
  have hz := fun w s (hp' : Pre s) => zipFnSubst_ok F hrel jf w as bs s hp' hna hnb ha hb hd
  cases v <;>
    simp only [relateFnBinders, instFnUniversally_rigidT, instFnExistentially_rigidT, ha.1, hb.1, reduceCtorEq,
      or_false, or_true, if_true, if_false, or_self]
  · exact hz .co st hp
  · exact (Outcome.bind
      (fun r => match r with
        | .error e => .error e
        | .ok st3 => zipFnSubst rel jf .co as bs st3) _ (fun _ => rfl) (fun _ => rfl)
      (hz .contra st hp) (fun s hs => hz .co s (F.pre hs)) (fun _ _ => F.trans)).congr (and_self_iff ..)
  · have := hz .contra st hp
    cases hr : zipFnSubst rel jf .contra as bs st <;> rw [hr] at this <;> exact this

theorem relateTyStep_ok (F : Frag S Pre Post) (hdb : db.arityOk ar) (hrel : RelOK db ar S Pre Post rel n)
    (jf : Nat) : RelOK db ar S Pre Post (relateTyStep rel db jf) (n + 1) := by
  intro v a b st hp ha hb hd
  obtain ⟨pa, ia⟩ := Ty.rigidT_head ha.1
  obtain ⟨pb, ib⟩ := Ty.rigidT_head hb.1
  obtain ⟨ka, ea⟩ := st.table.shallow_noninfer ia
  obtain ⟨kb, eb⟩ := st.table.shallow_noninfer ib
  refine relateTyStep_cases rel db jf v st (by rw [ka, kb]; rfl) ea eb pa pb
    (motive := fun a b r => a.okT ar S → b.okT ar S → a.depth ≤ n + 1 →
      Outcome (Post st (subConstraints db v a b)) (a.eraseLt = b.eraseLt) r)
    (fun a _ _ _ => Outcome.of_ok rfl (by rw [subConstraints_refl]; exact F.refl hp))
    (fun _ _ _ _ h => nomatch h.1) (fun _ _ _ _ _ h => nomatch h.1) (fun _ _ _ _ _ _ h => nomatch h.1)
    ?app ?slice ?raw ?ref ?array ?function (fun a b he _ _ _ => Outcome.of_err he) ha hb hd
  case app =>
    intro na as bs ha hb hd
    obtain ⟨hla, hoa⟩ := Ty.okT_app ha
    obtain ⟨hlb, hob⟩ := Ty.okT_app hb
    exact (zipSubsts_ok F hrel jf v (declaredVariances db na) as bs 0 st hp (hla.trans hlb.symm)
      (fun l h => by rw [Nat.zero_add, hla, hdb na l h]; exact Nat.le_refl _) hoa hob
      (Nat.le_of_succ_le_succ hd)).congr ⟨congrArg (Ty.app na), fun h => (Ty.app.inj h).2⟩
  case slice =>
    intro ta tb ha hb hd
    exact (hrel v ta tb st hp (Ty.okT_slice ha) (Ty.okT_slice hb) (Nat.le_of_succ_le_succ hd)).congr
      ⟨congrArg Ty.slice, Ty.slice.inj⟩
  case raw =>
    intro m ta tb ha hb hd
    exact (hrel _ ta tb st hp (Ty.okT_raw ha) (Ty.okT_raw hb) (Nat.le_of_succ_le_succ hd)).congr
      ⟨congrArg (Ty.raw m), fun h => (Ty.raw.inj h).2⟩
  case ref =>
    intro m la ta lb tb ha hb hd
    obtain ⟨hla, hta⟩ := Ty.okT_ref ha
    obtain ⟨hlb, htb⟩ := Ty.okT_ref hb
    obtain ⟨st1, hr, hs⟩ := F.lifetime (v.xform .contra) la lb hp hla hlb
    rw [hr]
    exact (hrel _ ta tb st1 (F.pre hs) hta htb (Nat.le_of_succ_le_succ hd)).imp (fun _ => F.trans hs)
      ⟨congrArg (Ty.ref m .static), fun h => (Ty.ref.inj h).2.2⟩
  case array =>
    intro ta ka tb kb ha hb hd
    obtain ⟨tka, vka⟩ := ka
    obtain ⟨tkb, vkb⟩ := kb
    obtain ⟨hta, hka⟩ := Ty.okT_array ha
    obtain ⟨htb, hkb⟩ := Ty.okT_array hb
    obtain ⟨htka, hvka⟩ := Const.okT_mk hka
    obtain ⟨htkb, hvkb⟩ := Const.okT_mk hkb
    have hd : max ta.depth tka.depth ≤ n := Nat.le_of_succ_le_succ hd
    exact (Outcome.bind
      (fun r => match r with
        | .error e => .error e
        | .ok st1 => relateConst rel jf v (.mk tka vka) (.mk tkb vkb) st1) _ (fun _ => rfl) (fun _ => rfl)
      (hrel v ta tb st hp hta htb (Nat.le_trans (Nat.le_max_left _ _) hd))
      (fun s hs => relateConst_outcome jf hvka hvkb
        (hrel v tka tkb s (F.pre hs) htka htkb (Nat.le_trans (Nat.le_max_right _ _) hd)))
      (fun _ _ => F.trans)).congr
      ⟨fun h => by show Ty.array _ _ = Ty.array _ _; rw [h.1, h.2], fun h => Ty.array.inj h⟩
  case function =>
    intro nb sig as nb' bs ha hb hd
    obtain ⟨rfl, hnila, hoa⟩ := Ty.okT_function ha
    obtain ⟨rfl, hnilb, hob⟩ := Ty.okT_function hb
    exact (relateFnBinders_ok F hrel jf v as bs st hp hnila hnilb hoa hob (Nat.le_of_succ_le_succ hd)).imp
      (fun _ h => by cases v <;> exact h) ⟨congrArg (Ty.function 0 sig), fun h => (Ty.function.inj h).2.2⟩

theorem Ty.depth_pos (a : Ty) : 1 ≤ a.depth := by
  cases a <;> exact Nat.succ_le_succ (Nat.zero_le _)

theorem relateTy_relOK (F : Frag S Pre Post) (hdb : db.arityOk ar) (jf : Nat) :
    ∀ fuel : Nat, RelOK db ar S Pre Post (relateTy db jf fuel) fuel
  | 0 => fun _ a _ _ _ _ _ hd => absurd (Nat.le_trans a.depth_pos hd) (Nat.not_succ_le_zero 0)
  | n + 1 => relateTyStep_ok F hdb (relateTy_relOK F hdb jf n) jf

end rel

/-- without lifetime variables: nothing is asked of the state, which gains exactly the goals `l` -/
theorem Frag.rigid : Frag (fun _ => False) (fun _ => True) (fun st l st' => st' = st.addG l) where
  refl _ := (UState.addG_nil _).symm
  trans := UState.addG_trans
  pre _ := trivial
  lifetime v la lb _ ha hb :=
    ⟨_, relateLifetime_rigid v la lb _ (Lifetime.rigid_of_okT ha) (Lifetime.rigid_of_okT hb), rfl⟩

theorem relateTy_rigid (db : UDb) (ar : TyName → Nat) (hdb : db.arityOk ar) (jf : Nat) :
    ∀ (fuel : Nat) (v : Variance) (a b : Ty) (st : UState),
      a.rigid = true → b.rigid = true → a.arityOk ar = true → b.arityOk ar = true → a.depth ≤ fuel →
      relateTy db jf fuel v a b st =
        if a.eraseLt = b.eraseLt then
          .ok { st with goals := st.goals ++ outlivesGoals (subConstraints db v a b) }
        else .error .noSolution :=
  fun fuel v a b st ha hb haa hab hd =>
    (relateTy_relOK Frag.rigid hdb jf fuel v a b st trivial (Ty.okT_of_rigid ha haa) (Ty.okT_of_rigid hb hab)
      hd).eq_ite

theorem relateTy_rigid_ok_iff (db : UDb) (ar : TyName → Nat) (hdb : db.arityOk ar) (jf : Nat)
    (fuel : Nat) (v : Variance) (a b : Ty) (st : UState)
    (ha : a.rigid = true) (hb : b.rigid = true) (haa : a.arityOk ar = true) (hab : b.arityOk ar = true)
    (hd : a.depth ≤ fuel) :
    (∃ st', relateTy db jf fuel v a b st = .ok st') ↔ a.eraseLt = b.eraseLt := by
  rw [relateTy_rigid db ar hdb jf fuel v a b st ha hb haa hab hd]
  by_cases he : a.eraseLt = b.eraseLt <;> simp [he]

mutual
  theorem Ty.eraseLt_depth' : (a : Ty) → a.eraseLt.depth = a.depth
    | .app n args => congrArg (· + 1) (Args.eraseLt_depth' args)
    | .scalar s => rfl
    | .str => rfl
    | .never => rfl
    | .foreign id => rfl
    | .error => rfl
    | .array t c => by simp only [Ty.eraseLt, Ty.depth, Ty.eraseLt_depth' t, Const.eraseLt_depth' c]
    | .slice t => congrArg (· + 1) (Ty.eraseLt_depth' t)
    | .raw m t => congrArg (· + 1) (Ty.eraseLt_depth' t)
    | .ref m l t => congrArg (· + 1) (Ty.eraseLt_depth' t)
    | .placeholder ui idx => rfl
    | .dyn kinds bounds l => rfl
    | .proj id args => congrArg (· + 1) (Args.eraseLt_depth' args)
    | .opaque id args => congrArg (· + 1) (Args.eraseLt_depth' args)
    | .function nb sig args => congrArg (· + 1) (Args.eraseLt_depth' args)
    | .bound d idx => rfl
    | .infer x k => rfl
  theorem Const.eraseLt_depth' : (c : Const) → c.eraseLt.depth = c.depth
    | .mk ty _ => Ty.eraseLt_depth' ty
  theorem GArg.eraseLt_depth' : (g : GArg) → g.eraseLt.depth = g.depth
    | .ty t => Ty.eraseLt_depth' t
    | .lt _ => rfl
    | .ct c => Const.eraseLt_depth' c
  theorem Args.eraseLt_depth' : (a : Args) → a.eraseLt.depth = a.depth
    | .nil => rfl
    | .cons a as => by simp only [Args.eraseLt, Args.depth, GArg.eraseLt_depth' a, Args.eraseLt_depth' as]
end

theorem eraseLt_depth {a b : Ty} (h : a.eraseLt = b.eraseLt) : a.depth = b.depth := by
  rw [← Ty.eraseLt_depth' a, ← Ty.eraseLt_depth' b, h]

theorem filter_retain_outlives (t : Table) (l : List (Lifetime × Lifetime)) :
    (outlivesGoals l).filter (retainGoal t) = outlivesGoals l := by
  induction l with
  | nil => rfl
  | cons p ps ih =>
      simp only [outlivesGoals, List.map_cons] at ih ⊢
      simp [List.filter_cons, retainGoal, ih]

def Succeeds (r : Table × RelOutcome) : Prop := ∃ gs, r.2 = .ok gs

theorem relate_rigid_eq (db : UDb) (ar : TyName → Nat) (hdb : db.arityOk ar) (jf fuel : Nat) (t : Table)
    (v : Variance) (a b : Ty)
    (ha : a.rigid = true) (hb : b.rigid = true) (haa : a.arityOk ar = true) (hab : b.arityOk ar = true)
    (hd : a.depth ≤ fuel) :
    relate db jf fuel t v a b =
      if a.eraseLt = b.eraseLt then (t, .ok (outlivesGoals (subConstraints db v a b))) else (t, .noSolution) := by
  unfold relate
  rw [relateTy_rigid db ar hdb jf fuel v a b _ ha hb haa hab hd]
  by_cases he : a.eraseLt = b.eraseLt
  · rw [if_pos he, if_pos he]
    exact congrArg (fun g => (t, RelOutcome.ok g)) (filter_retain_outlives t _)
  · rw [if_neg he, if_neg he]; rfl

/-- when the structures agree the goals are exactly the constraints dictated by variance -/
theorem relate_rigid (db : UDb) (ar : TyName → Nat) (hdb : db.arityOk ar) (jf fuel : Nat) (t : Table)
    (v : Variance) (a b : Ty)
    (ha : a.rigid = true) (hb : b.rigid = true) (haa : a.arityOk ar = true) (hab : b.arityOk ar = true)
    (hd : a.depth ≤ fuel) (he : a.eraseLt = b.eraseLt) :
    relate db jf fuel t v a b = (t, .ok (outlivesGoals (subConstraints db v a b))) := by
  rw [relate_rigid_eq db ar hdb jf fuel t v a b ha hb haa hab hd, if_pos he]

theorem Succeeds.iff_of {r : Table × RelOutcome} {t : Table} {E : Prop} (hok : E → Succeeds r)
    (hno : ¬ E → r = (t, .noSolution)) : (Succeeds r ↔ E) ∧ (¬ E → r = (t, .noSolution)) :=
  ⟨⟨fun ⟨_, hs⟩ => Classical.byContradiction fun he => (by rw [hno he] at hs; cases hs), hok⟩, hno⟩

theorem relate_rigid_succeeds (db : UDb) (ar : TyName → Nat) (hdb : db.arityOk ar) (jf fuel : Nat) (t : Table)
    (v : Variance) (a b : Ty)
    (ha : a.rigid = true) (hb : b.rigid = true) (haa : a.arityOk ar = true) (hab : b.arityOk ar = true)
    (hd : a.depth ≤ fuel) : Succeeds (relate db jf fuel t v a b) ↔ a.eraseLt = b.eraseLt :=
  (Succeeds.iff_of (t := t) (fun he => ⟨_, by rw [relate_rigid db ar hdb jf fuel t v a b ha hb haa hab hd he]⟩)
    (fun he => by rw [relate_rigid_eq db ar hdb jf fuel t v a b ha hb haa hab hd, if_neg he])).1

/-- success exactly when the structures agree, the table untouched either way, never a panic -/
theorem relate_rigid_struct (db : UDb) (ar : TyName → Nat) (hdb : db.arityOk ar) (jf fuel : Nat) (t : Table)
    (v : Variance) (a b : Ty)
    (ha : a.rigid = true) (hb : b.rigid = true) (haa : a.arityOk ar = true) (hab : b.arityOk ar = true)
    (hd : a.depth ≤ fuel) :
    ((∃ gs, relate db jf fuel t v a b = (t, .ok gs)) ↔ a.eraseLt = b.eraseLt) ∧
    (a.eraseLt ≠ b.eraseLt → relate db jf fuel t v a b = (t, .noSolution)) :=
  ⟨⟨fun ⟨gs, h⟩ => (relate_rigid_succeeds db ar hdb jf fuel t v a b ha hb haa hab hd).mp ⟨gs, by rw [h]⟩,
    fun he => ⟨_, relate_rigid db ar hdb jf fuel t v a b ha hb haa hab hd he⟩⟩,
   fun he => by rw [relate_rigid_eq db ar hdb jf fuel t v a b ha hb haa hab hd, if_neg he]⟩

#print axioms Chalk.relateTy_rigid
#print axioms Chalk.relateTy_rigid_ok_iff
#print axioms Chalk.eraseLt_depth
#print axioms Chalk.filter_retain_outlives

end Chalk
