import ChalkModel.CouldMatch
import ChalkModel.Lemmas.FoldLemmas

namespace Chalk

theorem Except.bind_map_eq_ok {ε α β γ} {x : Except ε α} {y : α → Except ε β} {f : α → β → γ} {r : γ}
    (h : (x.bind fun a => (y a).map (f a)) = .ok r) : ∃ a b, x = .ok a ∧ y a = .ok b ∧ r = f a b := by
  obtain ⟨a, ha, h⟩ := Except.bind_eq_ok h
  obtain ⟨b, hb, hr⟩ := Except.map_eq_ok h
  exact ⟨a, b, ha, hb, hr⟩

/-- `foldGArg` read as a relation. `cases` on two such facts with the same result leaves only the pairs of equal
    constructors, so no sweep over pairs is needed (likewise `FoldWC`, `FoldAlias`, `FoldDomainGoal` below). `foldTy`
    has no such relation: it replaces variables and placeholders by anything, so the proof for types inverts the
    `foldTy_*` equations of the rigid constructors where it meets them. -/
inductive FoldGArg (F : Folder) (o : Nat) : GArg → GArg → Prop
  | ty {t t'} : foldTy F o t = .ok t' → FoldGArg F o (.ty t) (.ty t')
  | lt {l l'} : FoldGArg F o (.lt l) (.lt l')
  | ct {k k'} : FoldGArg F o (.ct k) (.ct k')

theorem foldGArg_rel {F o a c} (h : foldGArg F o a = .ok c) : FoldGArg F o a c := by
  cases a <;> simp only [foldGArg] at h <;> split at h <;> cases h
  · exact .ty ‹_›
  · exact .lt
  · exact .ct

theorem ok_true_ne_false : (.ok true : Res Bool) ≠ .ok false := nofun

theorem ok_beq_self_ne_false (n : Nat) : (.ok (n == n) : Res Bool) ≠ .ok false := by
  rw [beq_self_eq_true]; nofun

theorem andThen_ne_false {r : Res Bool} {k : Unit → Res Bool} (h1 : r ≠ .ok false) (h2 : k () ≠ .ok false) :
    andThen r k ≠ .ok false := by
  unfold andThen
  split
  · exact h2
  · exact h1

/-! The pre-filter never says `false` for two terms that have a common instance under *any* two
    folders (arbitrary replacement of free variables, inference variables and placeholders). -/
mutual
  theorem cmTy_common_instance (db : UDb) (F G : Folder) : (a : Ty) → (o1 o2 : Nat) → (b c : Ty) →
      foldTy F o1 a = .ok c → foldTy G o2 b = .ok c → cmTy db a b ≠ .ok false
    | .app n args => fun o1 o2 b c h1 h2 => by
        unfold cmTy; split
        · rw [foldTy_app] at h1 h2
          obtain ⟨x, hx, rfl⟩ := Except.map_eq_ok h1
          obtain ⟨y, hy, hc⟩ := Except.map_eq_ok h2
          cases hc
          cases n <;> simp only [if_true] <;>
            exact cmZipSubsts_common_instance db F G args o1 o2 _ _ _ _ hx hy
        · exact ok_true_ne_false
    | .scalar s => fun o1 o2 b c h1 h2 => by
        unfold cmTy; split
        · cases h1; cases h2; exact ok_beq_self_ne_false _
        · exact ok_true_ne_false
    | .foreign s => fun o1 o2 b c h1 h2 => by
        unfold cmTy; split
        · cases h1; cases h2; exact ok_beq_self_ne_false _
        · exact ok_true_ne_false
    | .slice t => fun o1 o2 b c h1 h2 => by
        unfold cmTy; split
        · rw [foldTy_slice] at h1 h2
          obtain ⟨x, hx, rfl⟩ := Except.map_eq_ok h1
          obtain ⟨y, hy, hc⟩ := Except.map_eq_ok h2
          cases hc
          exact cmTy_common_instance db F G t o1 o2 _ _ hx hy
        · exact ok_true_ne_false
    | .raw m t => fun o1 o2 b c h1 h2 => by
        unfold cmTy; split
        · rw [foldTy_raw] at h1 h2
          obtain ⟨x, hx, rfl⟩ := Except.map_eq_ok h1
          obtain ⟨y, hy, hc⟩ := Except.map_eq_ok h2
          cases hc
          rw [if_pos rfl]
          exact cmTy_common_instance db F G t o1 o2 _ _ hx hy
        · exact ok_true_ne_false
    | .ref m l t => fun o1 o2 b c h1 h2 => by
        unfold cmTy; split
        · rw [foldTy_ref] at h1 h2
          obtain ⟨lx, x, -, hx, rfl⟩ := Except.bind_map_eq_ok h1
          obtain ⟨ly, y, -, hy, hc⟩ := Except.bind_map_eq_ok h2
          cases hc
          rw [if_pos rfl]
          exact cmTy_common_instance db F G t o1 o2 _ _ hx hy
        · exact ok_true_ne_false
    | .array t k => fun o1 o2 b c h1 h2 => by
        unfold cmTy; split
        · rw [foldTy_array] at h1 h2
          obtain ⟨x, kx, hx, -, rfl⟩ := Except.bind_map_eq_ok h1
          obtain ⟨y, ky, hy, -, hc⟩ := Except.bind_map_eq_ok h2
          cases hc
          exact cmTy_common_instance db F G t o1 o2 _ _ hx hy
        · exact ok_true_ne_false
    | .str | .never | .error | .placeholder .. | .dyn .. | .proj .. | .opaque .. | .function ..
    | .bound .. | .infer .. => fun _ _ _ _ _ _ => ok_true_ne_false
  termination_by structural a => a
  theorem cmGArg_common_instance (db : UDb) (F G : Folder) : (a : GArg) → (o1 o2 : Nat) → (b c : GArg) →
      foldGArg F o1 a = .ok c → foldGArg G o2 b = .ok c → cmGArg db a b ≠ .ok false
    | .ty t => fun o1 o2 b c h1 h2 => by
        cases foldGArg_rel h1; cases foldGArg_rel h2
        exact cmTy_common_instance db F G t o1 o2 _ _ ‹_› ‹_›
    | .lt _ | .ct _ => fun _ _ _ _ h1 h2 => by
        cases foldGArg_rel h1; cases foldGArg_rel h2; exact ok_true_ne_false
  termination_by structural a => a
  theorem cmZipSubsts_common_instance (db : UDb) (F G : Folder) : (as : Args) → (o1 o2 : Nat) →
      (vlen : Option Nat) → (i : Nat) → (bs cs : Args) →
      foldArgs F o1 as = .ok cs → foldArgs G o2 bs = .ok cs → cmZipSubsts db vlen i as bs ≠ .ok false
    | .nil => fun _ _ _ _ _ _ _ _ => ok_true_ne_false
    | .cons a as => fun o1 o2 vlen i bs cs h1 h2 => by
        unfold cmZipSubsts; split
        · rw [foldArgs_cons] at h1 h2
          obtain ⟨x, xs, hx, hxs, rfl⟩ := Except.bind_map_eq_ok h1
          obtain ⟨y, ys, hy, hys, hc⟩ := Except.bind_map_eq_ok h2
          cases hc
          have hg := cmGArg_common_instance db F G a o1 o2 _ _ hx hy
          have hr := cmZipSubsts_common_instance db F G as o1 o2 vlen (i + 1) _ _ hxs hys
          -- the `match cmGArg .. with | .ok true => .. | r => r` of `zip_substs` is `andThen` unfolded
          split
          · split
            · exact andThen_ne_false (k := fun _ => _) hg hr
            · nofun
          · exact andThen_ne_false (k := fun _ => _) hg hr
        · exact ok_true_ne_false
  termination_by structural as => as
end

theorem cmNamed_common_instance (db : UDb) (F G : Folder) (o1 o2 : Nat) (id : Nat) (a b c : Args)
    (h1 : foldArgs F o1 a = .ok c) (h2 : foldArgs G o2 b = .ok c) :
    cmNamed db id id a b ≠ .ok false := by
  unfold cmNamed; rw [if_pos rfl]
  exact cmZipSubsts_common_instance db F G a o1 o2 none 0 b c h1 h2

theorem foldArgs_length {F o} : (a : Args) → (c : Args) → foldArgs F o a = .ok c → c.length = a.length
  | .nil, c, h => by cases h; rfl
  | .cons x xs, c, h => by
      obtain ⟨x', xs', _, hxs, rfl⟩ := Except.bind_map_eq_ok (foldArgs_cons .. ▸ h)
      exact congrArg (· + 1) (foldArgs_length xs xs' hxs)

/-- the slice zip used by `impls_for_trait` -/
theorem cmSlice_common_instance (db : UDb) (F G : Folder) (o1 o2 : Nat) (a b c : Args)
    (h1 : foldArgs F o1 a = .ok c) (h2 : foldArgs G o2 b = .ok c) : cmSlice db a b ≠ .ok false := by
  unfold cmSlice
  rw [if_pos ((foldArgs_length a c h1).symm.trans (foldArgs_length b c h2))]
  exact cmZipSubsts_common_instance db F G a o1 o2 none 0 b c h1 h2

inductive FoldWC (F : Folder) (o : Nat) : WC → WC → Prop
  | implemented {tr a a'} : foldArgs F o a = .ok a' → FoldWC F o (.implemented tr a) (.implemented tr a')
  | aliasEqProj {id a a' t t'} : foldArgs F o a = .ok a' → foldTy F o t = .ok t' →
      FoldWC F o (.aliasEqProj id a t) (.aliasEqProj id a' t')
  | aliasEqOpaque {id a a' t t'} : foldArgs F o a = .ok a' → foldTy F o t = .ok t' →
      FoldWC F o (.aliasEqOpaque id a t) (.aliasEqOpaque id a' t')
  | ltOutlives {a a' b b'} : FoldWC F o (.ltOutlives a b) (.ltOutlives a' b')
  | tyOutlives {t t' l l'} : foldTy F o t = .ok t' → FoldWC F o (.tyOutlives t l) (.tyOutlives t' l')

theorem foldWC_rel {F o a c} (h : foldWC F o a = .ok c) : FoldWC F o a c := by
  cases a <;> simp only [foldWC] at h <;> split at h <;> (try split at h) <;> cases h <;>
    constructor <;> assumption

theorem cmWC_common_instance (db : UDb) (F G : Folder) (o1 o2 : Nat) (a b c : WC)
    (h1 : foldWC F o1 a = .ok c) (h2 : foldWC G o2 b = .ok c) : cmWC db a b ≠ .ok false := by
  cases foldWC_rel h1 <;> cases foldWC_rel h2
  case implemented.implemented => exact cmNamed_common_instance db F G o1 o2 _ _ _ _ ‹_› ‹_›
  case aliasEqProj.aliasEqProj | aliasEqOpaque.aliasEqOpaque =>
    exact andThen_ne_false (k := fun _ => _) (cmNamed_common_instance db F G o1 o2 _ _ _ _ ‹_› ‹_›)
      (cmTy_common_instance db F G _ o1 o2 _ _ ‹_› ‹_›)
  case ltOutlives.ltOutlives => exact ok_true_ne_false
  case tyOutlives.tyOutlives => exact cmTy_common_instance db F G _ o1 o2 _ _ ‹_› ‹_›

inductive FoldAlias (F : Folder) (o : Nat) : Alias → Alias → Prop
  | proj {id a a'} : foldArgs F o a = .ok a' → FoldAlias F o (.proj id a) (.proj id a')
  | opaque {id a a'} : foldArgs F o a = .ok a' → FoldAlias F o (.opaque id a) (.opaque id a')

theorem foldAlias_rel {F o a c} (h : foldAlias F o a = .ok c) : FoldAlias F o a c := by
  cases a <;> simp only [foldAlias] at h <;> split at h <;> cases h <;> constructor <;> assumption

theorem cmAlias_common_instance (db : UDb) (F G : Folder) (o1 o2 : Nat) (a b c : Alias)
    (h1 : foldAlias F o1 a = .ok c) (h2 : foldAlias G o2 b = .ok c) : cmAlias db a b ≠ .ok false := by
  cases foldAlias_rel h1 <;> cases foldAlias_rel h2 <;>
    exact cmNamed_common_instance db F G o1 o2 _ _ _ _ ‹_› ‹_›

inductive FoldDomainGoal (F : Folder) (o : Nat) : DomainGoal → DomainGoal → Prop
  | holds {w w'} : foldWC F o w = .ok w' → FoldDomainGoal F o (.holds w) (.holds w')
  | wfTrait {tr a a'} : foldArgs F o a = .ok a' → FoldDomainGoal F o (.wfTrait tr a) (.wfTrait tr a')
  | wfTy {t t'} : foldTy F o t = .ok t' → FoldDomainGoal F o (.wfTy t) (.wfTy t')
  | fromEnvTrait {tr a a'} :
      foldArgs F o a = .ok a' → FoldDomainGoal F o (.fromEnvTrait tr a) (.fromEnvTrait tr a')
  | fromEnvTy {t t'} : foldTy F o t = .ok t' → FoldDomainGoal F o (.fromEnvTy t) (.fromEnvTy t')
  | normalize {al al' t t'} : foldAlias F o al = .ok al' → foldTy F o t = .ok t' →
      FoldDomainGoal F o (.normalize al t) (.normalize al' t')
  | isLocal {t t'} : foldTy F o t = .ok t' → FoldDomainGoal F o (.isLocal t) (.isLocal t')
  | isUpstream {t t'} : foldTy F o t = .ok t' → FoldDomainGoal F o (.isUpstream t) (.isUpstream t')
  | isFullyVisible {t t'} :
      foldTy F o t = .ok t' → FoldDomainGoal F o (.isFullyVisible t) (.isFullyVisible t')
  | localImplAllowed {tr a a'} :
      foldArgs F o a = .ok a' → FoldDomainGoal F o (.localImplAllowed tr a) (.localImplAllowed tr a')
  | compatible : FoldDomainGoal F o .compatible .compatible
  | downstreamType {t t'} :
      foldTy F o t = .ok t' → FoldDomainGoal F o (.downstreamType t) (.downstreamType t')
  | reveal : FoldDomainGoal F o .reveal .reveal
  | objectSafe {tr} : FoldDomainGoal F o (.objectSafe tr) (.objectSafe tr)

theorem foldDomainGoal_rel {F o a c} (h : foldDomainGoal F o a = .ok c) : FoldDomainGoal F o a c := by
  cases a <;> simp only [foldDomainGoal] at h <;> (try split at h) <;> (try split at h) <;> cases h <;>
    constructor <;> assumption

theorem cmDomainGoal_common_instance (db : UDb) (F G : Folder) (o1 o2 : Nat) (a b c : DomainGoal)
    (h1 : foldDomainGoal F o1 a = .ok c) (h2 : foldDomainGoal G o2 b = .ok c) :
    cmDomainGoal db a b ≠ .ok false := by
  cases foldDomainGoal_rel h1 <;> cases foldDomainGoal_rel h2
  case holds.holds => exact cmWC_common_instance db F G o1 o2 _ _ _ ‹_› ‹_›
  case wfTrait.wfTrait | fromEnvTrait.fromEnvTrait | localImplAllowed.localImplAllowed =>
    exact cmNamed_common_instance db F G o1 o2 _ _ _ _ ‹_› ‹_›
  case wfTy.wfTy | fromEnvTy.fromEnvTy | isLocal.isLocal | isUpstream.isUpstream
      | isFullyVisible.isFullyVisible | downstreamType.downstreamType =>
    exact cmTy_common_instance db F G _ o1 o2 _ _ ‹_› ‹_›
  case normalize.normalize =>
    exact andThen_ne_false (k := fun _ => _) (cmAlias_common_instance db F G o1 o2 _ _ _ ‹_› ‹_›)
      (cmTy_common_instance db F G _ o1 o2 _ _ ‹_› ‹_›)
  case compatible.compatible | reveal.reveal => exact ok_true_ne_false
  case objectSafe.objectSafe => exact ok_beq_self_ne_false _

theorem implsForTrait_cons_inv {db : UDb} {traitId params tr hdr rest idx kept}
    (h : implsForTrait db traitId params ((tr, hdr) :: rest) idx = .ok kept) :
    ∃ ks, implsForTrait db traitId params rest (idx + 1) = .ok ks ∧ (∀ x ∈ ks, x ∈ kept) ∧
      (tr = traitId → cmSlice db params hdr ≠ .ok false → idx ∈ kept) := by
  unfold implsForTrait at h
  split at h
  · split at h
    · split at h
      · split at h
        · cases h
          refine ⟨_, ‹_›, fun x hx => ?_, fun _ hne => ?_⟩
          · split
            · exact List.mem_cons_of_mem _ hx
            · exact hx
          · split
            · exact List.mem_cons_self
            · next hk => exact absurd (eq_false_of_ne_true hk ▸ ‹cmSlice db params hdr = _›) hne
        · cases h
      · cases h
    · cases h
  · exact ⟨kept, h, fun _ hx => hx, fun ht => absurd ht ‹_›⟩

theorem implsForTrait_keeps (db : UDb) (traitId : Nat) (params : Args) :
    (impls : List (Nat × Args)) → (idx : Nat) → (kept : List Nat) →
    implsForTrait db traitId params impls idx = .ok kept →
    ∀ j hdr, impls[j]? = some (traitId, hdr) → cmSlice db params hdr ≠ .ok false → idx + j ∈ kept
  | [], _, _, _, _, _, hj, _ => nomatch hj
  | (_, _) :: rest, idx, _, hk, j, hdr, hj, hc => by
      obtain ⟨ks, hks, hsub, hhead⟩ := implsForTrait_cons_inv hk
      cases j with
      | zero => cases hj; exact hhead rfl hc
      | succ j =>
        rw [← Nat.add_assoc, Nat.add_right_comm]
        exact hsub _ (implsForTrait_keeps db traitId params rest (idx + 1) ks hks j hdr hj hc)

end Chalk
