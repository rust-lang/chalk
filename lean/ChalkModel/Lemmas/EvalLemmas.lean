/-
  Soundness of the Stage-A evaluator of `Eval.lean` against `Sem.lean`, both verdicts, both strata.  The stack `S` is
  made part of the step operator: `CoStepS` counts the atoms of `S` as given, `IndStepS` forbids them (`S = []` gives
  `CoStep`, `IndStep`); each recursive call of the evaluator moves the current atom into `S`.
-/
import ChalkModel.Lemmas.MatchLemmas
import ChalkModel.Lemmas.SemLemmas
import ChalkModel.Lemmas.VerdictLemmas

namespace Chalk.Sem

/-- result of trying one clause against `a` with a given verdict function for instantiated body atoms -/
def tryClause (ev : Atom → Verdict) (a : Atom) (c : Clause) : Verdict :=
  match matchAtom c.head a with
  | none => .no
  | some σ =>
      if bodyBound σ c.body then
        c.body.foldr (fun (b : Atom) acc' => (ev (b.inst σ.toFun)).and acc') .yes
      else .unknown

theorem tryClause_yes {ev : Atom → Verdict} {a : Atom} {c : Clause} (h : tryClause ev a c = .yes) :
    ∃ σ : Nat → Tm, c.head.inst σ = a ∧ ∀ b ∈ c.body, ev (b.inst σ) = .yes := by
  unfold tryClause at h
  cases hm : matchAtom c.head a with
  | none => simp [hm] at h
  | some σ =>
    simp only [hm] at h
    split at h
    · exact ⟨σ.toFun, matchAtom_sound hm, (foldr_and_yes _ _).mp h⟩
    · cases h

theorem tryClause_no {ev : Atom → Verdict} {a : Atom} {c : Clause} (h : tryClause ev a c = .no)
    (τ : Nat → Tm) (hτ : c.head.inst τ = a) : ∃ b ∈ c.body, ev (b.inst τ) = .no := by
  unfold tryClause at h
  obtain ⟨σ, hm, hag⟩ := matchAtom_complete τ hτ
  simp only [hm] at h
  split at h
  · rename_i hb
    obtain ⟨b, hbm, hbn⟩ := (foldr_and_no _ _).mp h
    exact ⟨b, hbm, by rw [body_inst_eq hag hb hbm]; exact hbn⟩
  · cases h

def CoStepS (P : Program) (Γ S : List Atom) (X : Atom → Prop) (a : Atom) : Prop :=
  P.coind a.pred = true ∧ (a ∈ Γ ∨ a ∈ S ∨ ViaClause P X a)

theorem evalCo_unfold (P : Program) (Γ : List Atom) (fuel : Nat) (S : List Atom) (a : Atom) :
    evalCo P Γ (fuel + 1) S a =
      if P.coind a.pred = false then .unknown
      else if a ∈ Γ then .yes
      else if a ∈ S then .yes
      else P.clauses.foldr (fun c acc => (tryClause (evalCo P Γ fuel (a :: S)) a c).or acc) .no := by
  simp only [evalCo, tryClause]
  rfl

theorem evalCo_yes (P : Program) (Γ : List Atom) : (fuel : Nat) → (S : List Atom) → (a : Atom) →
    evalCo P Γ fuel S a = .yes → InGfp (CoStepS P Γ S) a
  | 0, _, _, h => by simp [evalCo] at h
  | fuel + 1, S, a, h => by
      rw [evalCo_unfold] at h
      split at h
      · cases h
      · rename_i hco
        have hco' : P.coind a.pred = true := by simpa using hco
        split at h
        · rename_i hg
          exact ⟨fun x => x = a, fun x hx => by subst hx; exact ⟨hco', Or.inl hg⟩, rfl⟩
        · split at h
          · rename_i hs
            exact ⟨fun x => x = a, fun x hx => by subst hx; exact ⟨hco', Or.inr (Or.inl hs)⟩, rfl⟩
          · obtain ⟨c, hc, hyes⟩ := (foldr_or_yes _ _).mp h
            obtain ⟨σ, hσ, hb⟩ := tryClause_yes hyes
            -- witness: `a` together with what is consistent when `a` is assumed as well; a use
            -- of the assumption `a` is then a use of the member `a`
            refine ⟨fun x => x = a ∨ InGfp (CoStepS P Γ (a :: S)) x, ?_, Or.inl rfl⟩
            intro x hx
            by_cases hxa : x = a
            · subst hxa
              exact ⟨hco', Or.inr (Or.inr ⟨c, hc, σ, hσ,
                fun b hbm => Or.inr (evalCo_yes P Γ fuel (x :: S) _ (hb b hbm))⟩)⟩
            · rcases hx with hx | hx
              · exact absurd hx hxa
              · obtain ⟨X', hX', hx'⟩ := hx
                obtain ⟨hc1, hc2⟩ := hX' x hx'
                refine ⟨hc1, ?_⟩
                rcases hc2 with hg | hs | hv
                · exact Or.inl hg
                · simp at hs
                  rcases hs with hs | hs
                  · exact absurd hs hxa
                  · exact Or.inr (Or.inl hs)
                · exact Or.inr (Or.inr (hv.mono fun y hy => Or.inr ⟨X', hX', hy⟩))

theorem evalCo_no (P : Program) (Γ : List Atom) : (fuel : Nat) → (S : List Atom) → (a : Atom) →
    evalCo P Γ fuel S a = .no → ¬ InGfp (CoStepS P Γ S) a
  | 0, _, _, h => by simp [evalCo] at h
  | fuel + 1, S, a, h => by
      rw [evalCo_unfold] at h
      split at h
      · cases h
      · split at h
        · cases h
        · split at h
          · cases h
          · rename_i hg hs
            intro ⟨X, hX, hXa⟩
            obtain ⟨_, hstep⟩ := hX a hXa
            rcases hstep with h1 | h1 | ⟨c, hc, τ, hτ, hb⟩
            · exact hg h1
            · exact hs h1
            · have hno := (foldr_or_no _ _).mp h c hc
              obtain ⟨b, hbm, hbn⟩ := tryClause_no hno τ hτ
              refine evalCo_no P Γ fuel (a :: S) _ hbn ⟨X, ?_, hb b hbm⟩
              intro x hx
              obtain ⟨hc1, hc2⟩ := hX x hx
              refine ⟨hc1, ?_⟩
              rcases hc2 with hg' | hs' | hv
              · exact Or.inl hg'
              · exact Or.inr (Or.inl (by simp [hs']))
              · exact Or.inr (Or.inr hv)

theorem coStepS_nil (P : Program) (Γ : List Atom) (a : Atom) :
    InGfp (CoStepS P Γ []) a ↔ CoHolds P Γ a := by
  have : CoStepS P Γ [] = CoStep P Γ := by funext X x; simp [CoStepS, CoStep]
  rw [this, CoHolds]

def IndStepS (P : Program) (Γ S : List Atom) (X : Atom → Prop) (a : Atom) : Prop :=
  a ∈ Γ ∨ (P.coind a.pred = true ∧ CoHolds P Γ a) ∨ (P.coind a.pred = false ∧ a ∉ S ∧ ViaClause P X a)

theorem IndStepS.mono {P : Program} {Γ S : List Atom} {X Y : Atom → Prop} (h : ∀ x, X x → Y x) {a : Atom}
    (hs : IndStepS P Γ S X a) : IndStepS P Γ S Y a := by
  rcases hs with h1 | h1 | ⟨h1, h2, h3⟩
  · exact Or.inl h1
  · exact Or.inr (Or.inl h1)
  · exact Or.inr (Or.inr ⟨h1, h2, h3.mono h⟩)

theorem evalInd_unfold (P : Program) (Γ : List Atom) (fuel : Nat) (S : List Atom) (a : Atom) :
    evalInd P Γ (fuel + 1) S a =
      if a ∈ Γ then .yes
      else if P.coind a.pred then evalCo P Γ fuel [] a
      else if a ∈ S then .no
      else P.clauses.foldr (fun c acc => (tryClause (evalInd P Γ fuel (a :: S)) a c).or acc) .no := by
  simp only [evalInd, tryClause]
  rfl

theorem evalInd_yes (P : Program) (Γ : List Atom) : (fuel : Nat) → (S : List Atom) → (a : Atom) →
    evalInd P Γ fuel S a = .yes → Holds P Γ a
  | 0, _, _, h => by simp [evalInd] at h
  | fuel + 1, S, a, h => by
      rw [evalInd_unfold] at h
      split at h
      · rename_i hg
        intro X hX; exact hX a (Or.inl hg)
      · split at h
        · rename_i hco
          have := (coStepS_nil P Γ a).mp (evalCo_yes P Γ fuel [] a h)
          intro X hX; exact hX a (Or.inr (Or.inl ⟨hco, this⟩))
        · rename_i hco
          split at h
          · cases h
          · obtain ⟨c, hc, hyes⟩ := (foldr_or_yes _ _).mp h
            obtain ⟨σ, hσ, hb⟩ := tryClause_yes hyes
            intro X hX
            refine hX a (Or.inr (Or.inr ⟨by simpa using hco, c, hc, σ, hσ, fun b hbm => ?_⟩))
            exact evalInd_yes P Γ fuel (a :: S) _ (hb b hbm) X hX

theorem evalInd_no (P : Program) (Γ : List Atom) : (fuel : Nat) → (S : List Atom) → (a : Atom) →
    evalInd P Γ fuel S a = .no → ¬ InLfp (IndStepS P Γ S) a
  | 0, _, _, h => by simp [evalInd] at h
  | fuel + 1, S, a, h => by
      rw [evalInd_unfold] at h
      split at h
      · cases h
      · rename_i hg
        split at h
        · rename_i hco
          have hnc : ¬ CoHolds P Γ a := fun hc => evalCo_no P Γ fuel [] a h ((coStepS_nil P Γ a).mpr hc)
          intro hl
          have := hl (fun x => x ≠ a) (by
            intro x hx hxa
            subst hxa
            rcases hx with h1 | ⟨_, h1⟩ | ⟨h1, _⟩
            · exact hg h1
            · exact hnc h1
            · simp [hco] at h1)
          exact this rfl
        · rename_i hco
          have hco' : P.coind a.pred = false := by simpa using hco
          split at h
          · rename_i hs
            intro hl
            have := hl (fun x => x ≠ a) (by
              intro x hx hxa
              subst hxa
              rcases hx with h1 | ⟨h1, _⟩ | ⟨_, h1, _⟩
              · exact hg h1
              · simp [hco'] at h1
              · exact h1 hs)
            exact this rfl
          · rename_i hs
            intro hl
            -- W := lfp with `a` forbidden as well; it is closed under the operator for `S`
            have hclosed : ∀ x, IndStepS P Γ S (InLfp (IndStepS P Γ (a :: S))) x →
                InLfp (IndStepS P Γ (a :: S)) x := by
              intro x hx
              by_cases hxa : x = a
              · subst hxa
                rcases hx with h1 | ⟨h1, _⟩ | ⟨_, _, c, hc, τ, hτ, hb⟩
                · exact absurd h1 hg
                · simp [hco'] at h1
                · have hno := (foldr_or_no _ _).mp h c hc
                  obtain ⟨b, hbm, hbn⟩ := tryClause_no hno τ hτ
                  exact absurd (hb b hbm) (evalInd_no P Γ fuel (x :: S) _ hbn)
              · refine InLfp.closed (Ψ := IndStepS P Γ (a :: S))
                  (fun X Y hXY a' ha' => IndStepS.mono hXY ha') ?_
                rcases hx with h1 | h1 | ⟨h1, h2, h3⟩
                · exact Or.inl h1
                · exact Or.inr (Or.inl h1)
                · exact Or.inr (Or.inr ⟨h1, by simp [hxa, h2], h3⟩)
            have hW : InLfp (IndStepS P Γ (a :: S)) a := hl _ hclosed
            have := hW (fun x => x ≠ a) (by
              intro x hx hxa
              subst hxa
              rcases hx with h1 | ⟨h1, _⟩ | ⟨_, h1, _⟩
              · exact hg h1
              · simp [hco'] at h1
              · simp at h1)
            exact this rfl

theorem indStepS_nil (P : Program) (Γ : List Atom) (a : Atom) :
    InLfp (IndStepS P Γ []) a ↔ Holds P Γ a := by
  have : IndStepS P Γ [] = IndStep P Γ := by funext X x; simp [IndStepS, IndStep]
  rw [this, Holds]

theorem evalInd_no_holds (P : Program) (Γ : List Atom) (fuel : Nat) (a : Atom)
    (h : evalInd P Γ fuel [] a = .no) : ¬ Holds P Γ a :=
  fun hh => evalInd_no P Γ fuel [] a h ((indStepS_nil P Γ a).mpr hh)

theorem evalGoal_sound (P : Program) (fuel : Nat) : (g : Goal) → (Γ : List Atom) →
    (evalGoal P fuel Γ g = .yes → GHolds P Γ g) ∧ (evalGoal P fuel Γ g = .no → ¬ GHolds P Γ g)
  | .atom a, Γ => ⟨evalInd_yes P Γ fuel [] a, evalInd_no_holds P Γ fuel a⟩
  | .tt, _ => ⟨fun _ => trivial, nofun⟩
  | .and g h, Γ => by
      obtain ⟨g1, g2⟩ := evalGoal_sound P fuel g Γ
      obtain ⟨h1, h2⟩ := evalGoal_sound P fuel h Γ
      simp only [evalGoal, Verdict.and_eq_yes, Verdict.and_eq_no, GHolds]
      exact ⟨fun hy => ⟨g1 hy.1, h1 hy.2⟩, fun hn hh => hn.elim (g2 · hh.1) (h2 · hh.2)⟩
  | .implies hyps g, Γ => evalGoal_sound P fuel g (hyps ++ Γ)
  | .not g, Γ => by
      obtain ⟨g1, g2⟩ := evalGoal_sound P fuel g Γ
      simp only [evalGoal, Verdict.neg_eq_yes, Verdict.neg_eq_no, GHolds]
      exact ⟨g2, fun hn hng => hng (g1 hn)⟩
  | .eq s t, _ => by
      simp only [evalGoal, GHolds]
      split <;> simp [*]

end Chalk.Sem
