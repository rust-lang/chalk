import ChalkModel.Lemmas.ShiftPure

namespace Chalk

/-! ### shifting in by `k` and out again by `k` is the identity -/

theorem shift_out_in_index {o db : Nat} (k : Nat) (hd : o ≤ db) :
    o ≤ db + k ∧ k ≤ db + k - o ∧ db + k - o - k + o = db := by omega

theorem downShifter_undoes (k : Nat) : (shifter k).Undoes (downShifter k) where
  lt o l l' h := by
    cases (foldLifetime_shifter k o l).symm.trans h
    cases l <;> try rfl
    case bound db idx =>
      by_cases hd : o ≤ db
      · obtain ⟨h1, h2, h3⟩ := shift_out_in_index k hd
        simp only [Lifetime.shift, if_pos hd, foldLifetime, downShifter, if_pos h1, if_pos h2, h3]
      · simp only [Lifetime.shift, if_neg hd, foldLifetime]
  placeholder o ui idx t' h := by cases h; rfl
  bound o db idx t' h := by
    cases (foldTy_shifter k o _).symm.trans h
    by_cases hd : o ≤ db
    · obtain ⟨h1, h2, h3⟩ := shift_out_in_index k hd
      simp only [Ty.shift, if_pos hd, foldTy, downShifter, if_pos h1, if_pos h2, h3]
    · simp only [Ty.shift, if_neg hd, foldTy]
  infer o v k t' h := by cases h; rfl
  const o ty v c' ih h := by
    cases (foldConst_shifter k o _).symm.trans h
    have ht := ih _ (foldTy_shifter k o ty)
    cases v with
    | bound db idx =>
      by_cases hd : o ≤ db
      · obtain ⟨h1, h2, h3⟩ := shift_out_in_index k hd
        simp only [Const.shift, if_pos hd, foldConst, downShifter, if_pos h1, if_pos h2, h3]
      · simp only [Const.shift, if_neg hd, foldConst]
    | infer v => simp only [Const.shift]; rw [foldConst_infer_none rfl, ht]; rfl
    | placeholder ui idx => simp only [Const.shift]; rw [foldConst_placeholder_none rfl, ht]; rfl
    | concrete c => simp only [Const.shift]; rw [foldConst_concrete, ht]; rfl

theorem foldLifetime_shift_out_in (k outer : Nat) (l : Lifetime) :
    ∃ l', foldLifetime (shifter k) outer l = .ok l' ∧ foldLifetime (downShifter k) outer l' = .ok l :=
  ⟨_, foldLifetime_shifter k outer l, (downShifter_undoes k).lt _ _ _ (foldLifetime_shifter k outer l)⟩

theorem foldTy_shift_out_in (k outer : Nat) : (t : Ty) →
    ∃ t', foldTy (shifter k) outer t = .ok t' ∧ foldTy (downShifter k) outer t' = .ok t :=
  fun t => ⟨_, foldTy_shifter k outer t, foldTy_undo (downShifter_undoes k) _ _ _ (foldTy_shifter k outer t)⟩

theorem foldConst_shift_out_in (k outer : Nat) : (c : Const) →
    ∃ c', foldConst (shifter k) outer c = .ok c' ∧ foldConst (downShifter k) outer c' = .ok c :=
  fun c => ⟨_, foldConst_shifter k outer c, foldConst_undo (downShifter_undoes k) _ _ _ (foldConst_shifter k outer c)⟩

theorem foldGArg_shift_out_in (k outer : Nat) : (a : GArg) →
    ∃ a', foldGArg (shifter k) outer a = .ok a' ∧ foldGArg (downShifter k) outer a' = .ok a :=
  fun a => ⟨_, foldGArg_shifter k outer a, foldGArg_undo (downShifter_undoes k) _ _ _ (foldGArg_shifter k outer a)⟩

theorem foldArgs_shift_out_in (k outer : Nat) : (a : Args) →
    ∃ a', foldArgs (shifter k) outer a = .ok a' ∧ foldArgs (downShifter k) outer a' = .ok a :=
  fun a => ⟨_, foldArgs_shifter k outer a, foldArgs_undo (downShifter_undoes k) _ _ _ (foldArgs_shifter k outer a)⟩

theorem foldWC_shift_out_in (k outer : Nat) : (w : WC) →
    ∃ w', foldWC (shifter k) outer w = .ok w' ∧ foldWC (downShifter k) outer w' = .ok w :=
  fun w => ⟨_, foldWC_shifter k outer w, foldWC_undo (downShifter_undoes k) _ _ _ (foldWC_shifter k outer w)⟩

theorem foldQWC_shift_out_in (k outer : Nat) : (q : QWC) →
    ∃ q', foldQWC (shifter k) outer q = .ok q' ∧ foldQWC (downShifter k) outer q' = .ok q :=
  fun q => ⟨_, foldQWC_shifter k outer q, foldQWC_undo (downShifter_undoes k) _ _ _ (foldQWC_shifter k outer q)⟩

theorem foldQWCs_shift_out_in (k outer : Nat) : (q : QWCs) →
    ∃ q', foldQWCs (shifter k) outer q = .ok q' ∧ foldQWCs (downShifter k) outer q' = .ok q :=
  fun q => ⟨_, foldQWCs_shifter k outer q, foldQWCs_undo (downShifter_undoes k) _ _ _ (foldQWCs_shifter k outer q)⟩

end Chalk
