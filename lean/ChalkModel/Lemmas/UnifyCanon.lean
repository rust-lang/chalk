/-
  Acyclic ("ranked") tables have a canonical solution: `canon N` is a solution and resolution is
  stable from level `N` on.
-/
import ChalkModel.Lemmas.UnifyTable
import ChalkModel.Lemmas.UnifyAcyclicDefs

namespace Chalk

mutual
  theorem Ty.applyAsg_congr (θ θ' : Nat → Ty) : (t : Ty) →
      (∀ w, w ∈ t.tyVars → θ w = θ' w) → t.applyAsg θ = t.applyAsg θ'
    | .app n args => by
        intro h; simp only [Ty.applyAsg]
        rw [Args.applyAsg_congr θ θ' args (by simpa only [Ty.tyVars] using h)]
    | .slice t | .raw _ t => by
        intro h; simp only [Ty.applyAsg]
        rw [Ty.applyAsg_congr θ θ' t (by simpa only [Ty.tyVars] using h)]
    | .scalar _ | .str | .never | .foreign _ | .error | .array _ _ | .ref _ _ _ | .placeholder _ _
    | .dyn _ _ _ | .proj _ _ | .opaque _ _ | .function _ _ _ | .bound _ _ => fun _ => rfl
    | .infer v k => by
        intro h; simp only [Ty.applyAsg]; exact h v (by simp [Ty.tyVars])
  theorem GArg.applyAsg_congr (θ θ' : Nat → Ty) : (a : GArg) →
      (∀ w, w ∈ a.tyVars → θ w = θ' w) → a.applyAsg θ = a.applyAsg θ'
    | .ty t => by
        intro h; simp only [GArg.applyAsg]
        rw [Ty.applyAsg_congr θ θ' t (by simpa only [GArg.tyVars] using h)]
    | .lt _ | .ct _ => fun _ => rfl
  theorem Args.applyAsg_congr (θ θ' : Nat → Ty) : (a : Args) →
      (∀ w, w ∈ a.tyVars → θ w = θ' w) → a.applyAsg θ = a.applyAsg θ'
    | .nil => fun _ => rfl
    | .cons a as => by
        intro h; simp only [Args.applyAsg]
        simp only [Args.tyVars, List.mem_append] at h
        rw [GArg.applyAsg_congr θ θ' a (fun w hw => h w (Or.inl hw)),
            Args.applyAsg_congr θ θ' as (fun w hw => h w (Or.inr hw))]
end

mutual
  theorem Ty.tyVars_lt (n : Nat) : (t : Ty) → t.varsBelow n = true → ∀ w, w ∈ t.tyVars → w < n
    | .app nm args => by
        intro h; simp only [Ty.varsBelow] at h; simp only [Ty.tyVars]; exact Args.tyVars_lt n args h
    | .slice t | .raw _ t => by
        intro h; simp only [Ty.varsBelow] at h; simp only [Ty.tyVars]; exact Ty.tyVars_lt n t h
    | .scalar _ | .str | .never | .foreign _ | .error | .array _ _ | .ref _ _ _ | .placeholder _ _
    | .dyn _ _ _ | .proj _ _ | .opaque _ _ | .function _ _ _ | .bound _ _ => fun _ _ hw => by cases hw
    | .infer v k => by
        intro h w hw
        simp [Ty.tyVars] at hw; simp [Ty.varsBelow] at h; omega
  theorem GArg.tyVars_lt (n : Nat) : (a : GArg) → a.varsBelow n = true → ∀ w, w ∈ a.tyVars → w < n
    | .ty t => by
        intro h; simp only [GArg.varsBelow] at h; simp only [GArg.tyVars]; exact Ty.tyVars_lt n t h
    | .lt _ | .ct _ => fun _ _ hw => by cases hw
  theorem Args.tyVars_lt (n : Nat) : (a : Args) → a.varsBelow n = true → ∀ w, w ∈ a.tyVars → w < n
    | .nil => fun _ _ hw => by cases hw
    | .cons a as => by
        intro h w hw
        simp only [Args.varsBelow, Bool.and_eq_true] at h
        simp only [Args.tyVars, List.mem_append] at hw
        rcases hw with hw | hw
        · exact GArg.tyVars_lt n a h.1 w hw
        · exact Args.tyVars_lt n as h.2 w hw
end

theorem Ty.tyVars_lt_of_good {ar : TyName → Nat} {n : Nat} {t : Ty} (h : t.good ar n = true) :
    ∀ w, w ∈ t.tyVars → w < n :=
  Ty.tyVars_lt n t ((Ty.good_iff ar n t).mp h).2.1

theorem Table.canon_succ_bound (t : Table) (n v : Nat) (ty : Ty) (h : t.probeVar v = some (.ty ty)) :
    t.canon (n + 1) v = ty.applyAsg (t.canon n) := by
  rw [Table.canon]; simp only [h]

theorem Table.canon_unbound (t : Table) (n v : Nat) (h : ∀ ty, t.probeVar v ≠ some (.ty ty)) :
    t.canon n v = .infer (t.find v) .general := by
  cases n with
  | zero => rfl
  | succ n =>
    rw [Table.canon]
    split
    · rename_i ty hp; exact absurd hp (h ty)
    · rfl

theorem Table.canon_find (t : Table) (hwf : t.WF) (n v : Nat) (hv : v < t.numVars) :
    t.canon n (t.find v) = t.canon n v := by
  cases n with
  | zero => show Ty.infer _ _ = Ty.infer _ _; rw [t.find_find hwf v hv]
  | succ n =>
    rw [Table.canon, Table.canon, t.probeVar_find hwf v hv, t.find_find hwf v hv]

theorem Table.canon_step (t : Table) (hfo : t.foValues) (ρ : Nat → Nat)
    (hr : ∀ v ty, v < t.numVars → t.probeVar v = some (.ty ty) →
      ∀ w, w ∈ ty.tyVars → ρ (t.find w) < ρ (t.find v)) :
    ∀ n v, v < t.numVars → ρ (t.find v) < n → t.canon (n + 1) v = t.canon n v := by
  intro n
  induction n with
  | zero => intro v _ h; omega
  | succ m ih =>
    intro v hv hρ
    by_cases hb : ∃ ty, t.probeVar v = some (.ty ty)
    · obtain ⟨ty, hp⟩ := hb
      rw [t.canon_succ_bound (m + 1) v ty hp, t.canon_succ_bound m v ty hp]
      apply Ty.applyAsg_congr
      intro w hw
      obtain ⟨ty', he, _, hvb⟩ := hfo v _ hv hp
      cases he
      have hw' := Ty.tyVars_lt _ ty hvb w hw
      have := hr v ty hv hp w hw
      exact ih w hw' (by omega)
    · have hb' : ∀ ty, t.probeVar v ≠ some (.ty ty) := fun ty h => hb ⟨ty, h⟩
      rw [t.canon_unbound _ v hb', t.canon_unbound _ v hb']

theorem Table.ranked_canon (t : Table) (hwf : t.WF) (hfo : t.foValues) (hr : t.Ranked) :
    ∃ N, t.Models (t.canon N) ∧ ∀ n, N ≤ n → ∀ v, v < t.numVars → t.canon n v = t.canon N v := by
  obtain ⟨N, ρ, hN, hr⟩ := hr
  have hstep := t.canon_step hfo ρ hr
  have hstable : ∀ n, N ≤ n → ∀ v, v < t.numVars → t.canon n v = t.canon N v := by
    intro n hn
    induction n with
    | zero => intro v _; have : N = 0 := by omega
              subst this; rfl
    | succ m ih =>
      intro v hv
      by_cases hm : N ≤ m
      · rw [hstep m v hv (Nat.lt_of_lt_of_le (hN _) hm)]; exact ih hm v hv
      · have : N = m + 1 := by omega
        subst this; rfl
  refine ⟨N, ⟨?_, ?_⟩, hstable⟩
  · intro v hv
    exact (t.canon_find hwf N v hv).symm
  · intro v ty hv hp
    rw [← hstable (N + 1) (Nat.le_succ N) v hv]
    exact t.canon_succ_bound N v ty hp

end Chalk
