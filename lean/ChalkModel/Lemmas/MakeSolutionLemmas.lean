import ChalkModel.MakeSolution
import ChalkModel.Lemmas.AggregateLemmas

namespace Chalk

theorem anyFutureInvalidates_false (cur : Args) : (rest : List CAnswer) →
    anyFutureInvalidates cur rest = .ok false → ∀ a, a ∈ rest → mayInvalidate a.subst cur = .ok false
  | [], _, a, ha => nomatch ha
  | b :: rest, h, a, ha => by
      simp only [anyFutureInvalidates] at h
      split at h
      · cases h
      · rename_i hb
        rcases List.mem_cons.mp ha with rfl | hm
        · exact hb
        · exact anyFutureInvalidates_false cur rest h a hm
      · cases h

def Covers (g t : Args) : Prop := g = t ∨ g.genOf t = true

theorem Covers.refl (g : Args) : Covers g g := Or.inl rfl

theorem Covers.trans {a b c : Args} (h1 : Covers a b) (h2 : Covers b c) : Covers a c := by
  rcases h1 with rfl | h1
  · exact h2
  · rcases h2 with rfl | h2
    · exact Or.inr h1
    · exact Or.inr (Args.genOf_trans a b c h1 h2)

/-- one round of the loop of `make_solution` that ends in a definite guidance (the `NoMoreSolutions` arm is never
    reached on a completed table: an empty rest invalidates nothing) -/
theorem guidanceLoop_ok {us : List Nat} {rest : List CAnswer} {s g : Canon Args} {n m : Nat} :
    guidanceLoop us rest s n = .ok (.definite g, m) →
    (g = s ∧ m = n ∧ anyFutureInvalidates s.value rest = .ok false) ∨
    match rest with
    | [] => False
    | a :: rest' => ∃ s', mergeIntoGuidance us s.value a.subst = .ok s' ∧
        guidanceLoop us rest' s' (n + 1) = .ok (.definite g, m) := by
  intro h
  unfold guidanceLoop at h
  split at h
  · cases h
  · split at h
    · cases h
    · rename_i hf; cases h; exact .inl ⟨rfl, rfl, hf⟩
    · split at h
      · rename_i hf; cases hf
      · split at h
        · cases h
        · rename_i hm; exact .inr ⟨_, hm, h⟩

theorem makeSolution_definite {us : List Nat} {a0 : CAnswer} {rest : List CAnswer} {g : Canon Args}
    (h : makeSolution us (a0 :: rest) = .ok (some (.ambig (.definite g)))) :
    ∃ m, guidanceLoop us rest ⟨a0.binders, a0.subst⟩ 1 = .ok (.definite g, m) := by
  rw [makeSolution] at h
  split at h
  · cases h
  · split at h
    · rename_i hl; cases h; exact ⟨_, hl⟩
    · cases h

theorem genOf_of_anyFutureInvalidates {cur : Args} {rest : List CAnswer}
    (hf : anyFutureInvalidates cur rest = .ok false) {a : CAnswer} (ha : a ∈ rest)
    (hk : cur.sameKinds a.subst = true) : cur.genOf a.subst = true :=
  miAny_false a.subst cur (anyFutureInvalidates_false cur rest hf a ha)
    (Args.length_eq_of_sameKinds _ _ hk).symm

end Chalk
