/-
  StratExists.lean — for `Props/C05strat.lean`: on a finite closed domain without a mixed-polarity cycle a
  stratification exists.  Level of `k` = number of positions of `dom` whose goal is reachable from `k` (classical,
  not computable).  Imports `Props/C05mixed.lean` because the paths `Reach` are defined there.
-/
import ChalkModel.Props.C05mixed

namespace Chalk.FixedPoint.StratExists
open Chalk.FixedPoint.C05mixed Chalk.FixedPoint.Mix

def Reach0 (inst : Instance) (k j : Nat) : Prop := j = k ∨ Reach inst k j

/-- the goals of `dom` reachable from `k` (with the multiplicities of `dom`) -/
noncomputable def reachList (inst : Instance) (dom : List Nat) (k : Nat) : List Nat :=
  dom.filter (fun j => @decide (Reach0 inst k j) (Classical.propDecidable _))

noncomputable def reachLvl (inst : Instance) (dom : List Nat) (k : Nat) : Nat :=
  (reachList inst dom k).length

theorem mem_reachList {inst : Instance} {dom : List Nat} {k x : Nat} :
    x ∈ reachList inst dom k ↔ x ∈ dom ∧ Reach0 inst k x := by
  simp [reachList]

theorem reach0_of_edge {inst : Instance} {k j : Nat} {alt : List Nat} (ha : alt ∈ inst.deps k) (hj : j ∈ alt)
    {x : Nat} (h : Reach0 inst j x) : Reach0 inst k x := by
  cases h with
  | inl e => subst e; exact Or.inr (Reach.step k x alt ha hj)
  | inr r => exact Or.inr (Reach.trans k j x (Reach.step k j alt ha hj) r)

theorem filter_sublist_of_imp {α : Type} (p q : α → Bool) (h : ∀ a, p a = true → q a = true) (l : List α) :
    List.Sublist (l.filter p) (l.filter q) := by
  induction l with
  | nil => exact List.Sublist.slnil
  | cons a l ih =>
    cases hp : p a with
    | true =>
      rw [List.filter_cons_of_pos hp, List.filter_cons_of_pos (h a hp)]
      exact List.Sublist.cons_cons a ih
    | false =>
      rw [List.filter_cons_of_neg (by simp [hp])]
      cases hq : q a with
      | true =>
        rw [List.filter_cons_of_pos hq]
        exact List.Sublist.cons a ih
      | false =>
        rw [List.filter_cons_of_neg (by simp [hq])]
        exact ih

theorem reachList_sublist {inst : Instance} (dom : List Nat) {k j : Nat} {alt : List Nat}
    (ha : alt ∈ inst.deps k) (hj : j ∈ alt) :
    List.Sublist (reachList inst dom j) (reachList inst dom k) := by
  apply filter_sublist_of_imp
  intro x hx
  simp only [decide_eq_true_eq] at hx ⊢
  exact reach0_of_edge ha hj hx

theorem reachLvl_le {inst : Instance} (dom : List Nat) {k j : Nat} {alt : List Nat}
    (ha : alt ∈ inst.deps k) (hj : j ∈ alt) : reachLvl inst dom j ≤ reachLvl inst dom k :=
  (reachList_sublist dom ha hj).length_le

/-- equal level along an edge `k → j` with `k ∈ dom`: `j` reaches `k` back -/
theorem reach0_back_of_lvl_eq {inst : Instance} (dom : List Nat) {k j : Nat} {alt : List Nat}
    (hk : k ∈ dom) (ha : alt ∈ inst.deps k) (hj : j ∈ alt)
    (e : reachLvl inst dom j = reachLvl inst dom k) : Reach0 inst j k := by
  have hs := reachList_sublist dom ha hj
  have heq : reachList inst dom j = reachList inst dom k := hs.eq_of_length e
  have hmem : k ∈ reachList inst dom k := mem_reachList.mpr ⟨hk, Or.inl rfl⟩
  rw [← heq] at hmem
  exact (mem_reachList.mp hmem).2

end Chalk.FixedPoint.StratExists
