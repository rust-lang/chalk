/-
  The two fixed points of `Sem.lean`: unfolding, inversion by stratum, and transport of truth along
  a simulation of single derivation steps, for atoms (`CoHolds.sim`, `Holds.sim`) and for goals
  (`GHolds.congr`); invariance under programs with the same clauses as sets.
-/
import ChalkModel.Sem

namespace Chalk.Sem

theorem ViaClause.mono {P : Program} {X Y : Atom → Prop} (h : ∀ x, X x → Y x) {a : Atom}
    (hv : ViaClause P X a) : ViaClause P Y a := by
  obtain ⟨c, hc, σ, hs, hb⟩ := hv
  exact ⟨c, hc, σ, hs, fun b hb' => h _ (hb b hb')⟩

theorem CoStep.mono {P : Program} {Γ : List Atom} {X Y : Atom → Prop} (h : ∀ x, X x → Y x) {a : Atom}
    (hs : CoStep P Γ X a) : CoStep P Γ Y a :=
  ⟨hs.1, hs.2.imp id (fun hv => hv.mono h)⟩

theorem IndStep.mono {P : Program} {Γ : List Atom} {X Y : Atom → Prop} (h : ∀ x, X x → Y x) {a : Atom}
    (hs : IndStep P Γ X a) : IndStep P Γ Y a :=
  hs.imp id (Or.imp id (And.imp id (ViaClause.mono h)))

theorem InLfp.closed {Ψ : (Atom → Prop) → Atom → Prop}
    (mono : ∀ X Y : Atom → Prop, (∀ x, X x → Y x) → ∀ a, Ψ X a → Ψ Y a) {a : Atom}
    (h : Ψ (InLfp Ψ) a) : InLfp Ψ a := by
  intro X hX
  exact hX a (mono _ _ (fun x hx => hx X hX) a h)

theorem Holds.closed {P : Program} {Γ : List Atom} {a : Atom} (h : IndStep P Γ (Holds P Γ) a) : Holds P Γ a :=
  InLfp.closed (Ψ := IndStep P Γ) (fun _ _ hXY _ ha => IndStep.mono hXY ha) h

theorem holds_unfold (P : Program) (Γ : List Atom) (a : Atom) :
    Holds P Γ a ↔ IndStep P Γ (Holds P Γ) a :=
  ⟨fun h => h (IndStep P Γ (Holds P Γ)) fun _ hx => hx.mono fun _ => Holds.closed, Holds.closed⟩

theorem coHolds_unfold (P : Program) (Γ : List Atom) (a : Atom) :
    CoHolds P Γ a ↔ CoStep P Γ (CoHolds P Γ) a := by
  constructor
  · rintro ⟨X, hX, hXa⟩
    exact (hX a hXa).mono fun x hx => ⟨X, hX, hx⟩
  · intro h
    refine ⟨CoStep P Γ (CoHolds P Γ), fun x hx => hx.mono ?_, h⟩
    rintro y ⟨X, hX, hXy⟩
    exact (hX y hXy).mono fun z hz => ⟨X, hX, hz⟩

theorem CoHolds.coinduct_upto {P : Program} {Γ : List Atom} (X : Atom → Prop)
    (hX : ∀ x, X x → CoStep P Γ (fun y => X y ∨ CoHolds P Γ y) x) {a : Atom} (ha : X a) : CoHolds P Γ a := by
  refine ⟨fun y => X y ∨ CoHolds P Γ y, ?_, Or.inl ha⟩
  rintro x (hx | hx)
  · exact hX x hx
  · exact ((coHolds_unfold P Γ x).mp hx).mono fun y hy => Or.inr hy

theorem Holds.of_mem {P : Program} {Γ : List Atom} {a : Atom} (h : a ∈ Γ) : Holds P Γ a :=
  fun _ hX => hX a (Or.inl h)

theorem CoHolds.of_mem {P : Program} {Γ : List Atom} {a : Atom} (hco : P.coind a.pred = true) (h : a ∈ Γ) :
    CoHolds P Γ a :=
  ⟨fun x => x = a, fun x hx => by subst hx; exact ⟨hco, Or.inl h⟩, rfl⟩

theorem CoHolds.coind {P : Program} {Γ : List Atom} {a : Atom} (h : CoHolds P Γ a) : P.coind a.pred = true := by
  obtain ⟨X, hX, hXa⟩ := h
  exact (hX a hXa).1

theorem holds_coind_iff {P : Program} {Γ : List Atom} {a : Atom} (hco : P.coind a.pred = true) :
    Holds P Γ a ↔ a ∈ Γ ∨ CoHolds P Γ a := by
  rw [holds_unfold]
  simp only [IndStep, hco, true_and, Bool.true_eq_false, false_and, or_false]

theorem holds_coind_iff_coHolds {P : Program} {Γ : List Atom} {a : Atom} (hco : P.coind a.pred = true) :
    Holds P Γ a ↔ CoHolds P Γ a := by
  rw [holds_coind_iff hco]
  exact ⟨fun h => h.elim (CoHolds.of_mem hco) id, Or.inr⟩

theorem holds_ind_iff {P : Program} {Γ : List Atom} {a : Atom} (hco : P.coind a.pred = false) :
    Holds P Γ a ↔ a ∈ Γ ∨ ViaClause P (Holds P Γ) a := by
  rw [holds_unfold]
  simp only [IndStep, hco, Bool.false_eq_true, false_and, true_and, false_or]

/-- Transport along a simulation of single steps: `f` maps the atoms satisfying the invariant `R` from `(P, Γ)` to
    `(Q, Δ)`.  `hvia` speaks of arbitrary sets `X`, `Y` of body atoms so that the same hypothesis serves both strata:
    here `X` is a consistent set and `Y` its image, in `Holds.sim` `Y` is `Holds Q Δ` and `X` its preimage. -/
theorem CoHolds.sim {P Q : Program} {Γ Δ : List Atom} {R : Atom → Prop} {f : Atom → Atom}
    (hco : ∀ a, R a → Q.coind (f a).pred = P.coind a.pred)
    (hmem : ∀ a, R a → a ∈ Γ → P.coind a.pred = true → CoHolds Q Δ (f a))
    (hvia : ∀ (X Y : Atom → Prop) a, R a → (∀ b, X b → R b → Y (f b)) → ViaClause P X a →
      f a ∈ Δ ∨ ViaClause Q Y (f a))
    {a : Atom} (hR : R a) (h : CoHolds P Γ a) : CoHolds Q Δ (f a) := by
  obtain ⟨X, hX, hXa⟩ := h
  refine CoHolds.coinduct_upto (fun y => ∃ x, X x ∧ R x ∧ f x = y) ?_ ⟨a, hXa, hR, rfl⟩
  rintro _ ⟨x, hx, hRx, rfl⟩
  obtain ⟨h1, h2 | h2⟩ := hX x hx
  · exact ((coHolds_unfold Q Δ _).mp (hmem x hRx h2 h1)).mono fun y hy => Or.inr hy
  · exact ⟨(hco x hRx).trans h1, hvia X _ x hRx (fun b hb hRb => Or.inl ⟨b, hb, hRb, rfl⟩) h2⟩

theorem Holds.sim {P Q : Program} {Γ Δ : List Atom} {R : Atom → Prop} {f : Atom → Atom}
    (hco : ∀ a, R a → Q.coind (f a).pred = P.coind a.pred)
    (hmem : ∀ a, R a → a ∈ Γ → Holds Q Δ (f a))
    (hvia : ∀ (X Y : Atom → Prop) a, R a → (∀ b, X b → R b → Y (f b)) → ViaClause P X a →
      f a ∈ Δ ∨ ViaClause Q Y (f a))
    {a : Atom} (hR : R a) (h : Holds P Γ a) : Holds Q Δ (f a) := by
  refine h (fun x => R x → Holds Q Δ (f x)) ?_ hR
  intro x hx hRx
  rcases hx with h1 | ⟨h1, h2⟩ | ⟨h1, h2⟩
  · exact hmem x hRx h1
  · have hq : ∀ a, R a → P.coind a.pred = true → Q.coind (f a).pred = true :=
      fun a hRa hc => (hco a hRa).trans hc
    exact (holds_coind_iff_coHolds (hq x hRx h1)).mpr (h2.sim hco
      (fun a hRa hm hc => (holds_coind_iff_coHolds (hq a hRa hc)).mp (hmem a hRa hm)) hvia hRx)
  · rcases hvia _ _ x hRx (fun b hb hRb => hb hRb) h2 with h | h
    · exact Holds.of_mem h
    · exact Holds.closed (Or.inr (Or.inr ⟨(hco x hRx).trans h1, h⟩))

theorem Holds.sim_id {P Q : Program} {Γ Δ : List Atom} (hco : ∀ p, Q.coind p = P.coind p)
    (hmem : ∀ a, a ∈ Γ → Holds Q Δ a) (hvia : ∀ X a, ViaClause P X a → a ∈ Δ ∨ ViaClause Q X a)
    {a : Atom} (h : Holds P Γ a) : Holds Q Δ a :=
  h.sim (f := id) (R := fun _ => True) (fun _ _ => hco _) (fun a _ => hmem a)
    (fun X _ a _ hXY hv => (hvia X a hv).imp id (ViaClause.mono fun b hb => hXY b hb trivial)) trivial

theorem coHolds_iff_of_holds_iff {P Q : Program} {Γ Δ : List Atom} {a : Atom}
    (hco : Q.coind a.pred = P.coind a.pred) (h : Holds Q Δ a ↔ Holds P Γ a) :
    CoHolds Q Δ a ↔ CoHolds P Γ a :=
  ⟨fun hc => (holds_coind_iff_coHolds (hco ▸ hc.coind)).mp (h.mp ((holds_coind_iff_coHolds hc.coind).mpr hc)),
   fun hc => (holds_coind_iff_coHolds (hco ▸ hc.coind)).mp (h.mpr ((holds_coind_iff_coHolds hc.coind).mpr hc))⟩

/-- every atom in conclusion position satisfies `R` -/
def GoalIn (R : Atom → Prop) : Goal → Prop
  | .atom a => R a
  | .tt => True
  | .and g h => GoalIn R g ∧ GoalIn R h
  | .implies _ g => GoalIn R g
  | .not g => GoalIn R g
  | .eq _ _ => True

theorem goalIn_of_forall {R : Atom → Prop} (h : ∀ a, R a) : (g : Goal) → GoalIn R g
  | .atom a => h a
  | .tt => trivial
  | .and g k => ⟨goalIn_of_forall h g, goalIn_of_forall h k⟩
  | .implies _ g => goalIn_of_forall h g
  | .not g => goalIn_of_forall h g
  | .eq _ _ => trivial

/-- An equivalence between atoms under related hypothesis lists, for a relation kept by entering an
    `implies`, extends to all goals whose atoms it covers (negation included). -/
theorem GHolds.congr {P Q : Program} {R : Atom → Prop} (rel : List Atom → List Atom → Prop)
    (happ : ∀ hyps Γ Δ, rel Γ Δ → rel (hyps ++ Γ) (hyps ++ Δ))
    (hat : ∀ Γ Δ a, rel Γ Δ → R a → (Holds P Γ a ↔ Holds Q Δ a)) :
    (g : Goal) → GoalIn R g → (Γ Δ : List Atom) → rel Γ Δ → (GHolds P Γ g ↔ GHolds Q Δ g)
  | .atom a, hg, Γ, Δ, h => hat Γ Δ a h hg
  | .tt, _, _, _, _ => Iff.rfl
  | .and g k, hg, Γ, Δ, h =>
      and_congr (GHolds.congr rel happ hat g hg.1 Γ Δ h) (GHolds.congr rel happ hat k hg.2 Γ Δ h)
  | .implies hyps g, hg, Γ, Δ, h => GHolds.congr rel happ hat g hg (hyps ++ Γ) (hyps ++ Δ) (happ hyps Γ Δ h)
  | .not g, hg, Γ, Δ, h => not_congr (GHolds.congr rel happ hat g hg Γ Δ h)
  | .eq _ _, _, _, _, _ => Iff.rfl

/-- two programs with the same clauses as *sets* (any order, any multiplicity), each clause with
    the same conditions as a set, and the same coinductive predicates -/
def SameProgram (P Q : Program) : Prop :=
  P.coind = Q.coind ∧
  (∀ c ∈ P.clauses, ∃ d ∈ Q.clauses, d.head = c.head ∧ ∀ b, b ∈ d.body ↔ b ∈ c.body) ∧
  (∀ d ∈ Q.clauses, ∃ c ∈ P.clauses, c.head = d.head ∧ ∀ b, b ∈ c.body ↔ b ∈ d.body)

theorem viaClause_same {P Q : Program} (h : SameProgram P Q) {X : Atom → Prop} {a : Atom}
    (hv : ViaClause P X a) : ViaClause Q X a := by
  obtain ⟨c, hc, σ, hs, hb⟩ := hv
  obtain ⟨d, hd, hh, hbd⟩ := h.2.1 c hc
  exact ⟨d, hd, σ, by rw [hh]; exact hs, fun b hbm => hb b ((hbd b).mp hbm)⟩

theorem SameProgram.symm {P Q : Program} (h : SameProgram P Q) : SameProgram Q P :=
  ⟨h.1.symm, h.2.2, h.2.1⟩

theorem holds_same {P Q : Program} (h : SameProgram P Q) (Γ : List Atom) (a : Atom)
    (hh : Holds P Γ a) : Holds Q Γ a :=
  hh.sim_id (fun _ => (congrFun h.1 _).symm) (fun _ => .of_mem) fun _ _ hv => Or.inr (viaClause_same h hv)

theorem gholds_same {P Q : Program} (h : SameProgram P Q) : (g : Goal) → (Γ : List Atom) →
    (GHolds P Γ g ↔ GHolds Q Γ g) := fun g Γ =>
  GHolds.congr (R := fun _ => True) Eq (fun _ _ _ e => e ▸ rfl)
    (fun _ _ a e _ => e ▸ ⟨holds_same h _ a, holds_same h.symm _ a⟩)
    g (goalIn_of_forall (fun _ => trivial) g) Γ Γ rfl

end Chalk.Sem
