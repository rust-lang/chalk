/-
  Lemmas for C03 (`AnswerStream.lean`): what `solve_multiple` yields on a completed table, and
  the invariant of `push_answer` that keeps the stored answers duplicate-free.
-/
import ChalkModel.AnswerStream

namespace Chalk

def validAns (a : StoredAnswer) : Bool := !a.delayed

theorem peekFrom_spec (answers : List StoredAnswer) (idx0 : Nat) :
    (peekFrom false answers idx0 = .noMore ∧ answers.filter validAns = []) ∨
    (∃ i a, peekFrom false answers idx0 = .answer (idx0 + i) a ∧ i < answers.length ∧
      answers.filter validAns = a :: (answers.drop (i + 1)).filter validAns) := by
  induction answers generalizing idx0 with
  | nil => exact .inl ⟨rfl, rfl⟩
  | cons x rest ih =>
    rw [peekFrom, List.filter_cons, validAns]
    cases x.delayed
    · exact .inr ⟨0, x, rfl, Nat.zero_lt_succ _, rfl⟩
    · rcases ih (idx0 + 1) with ⟨h1, h2⟩ | ⟨i, a, h1, h2, h3⟩
      · exact .inl ⟨h1, h2⟩
      · exact .inr ⟨i + 1, a, by rw [← Nat.add_assoc, Nat.add_right_comm]; exact h1,
          Nat.succ_lt_succ h2, h3⟩

/-- the specification of the callback sequence: the valid answers in table order, each flagged
    `true` iff another valid answer follows -/
def specYields : List StoredAnswer → List (Yield × Bool)
  | [] => []
  | [a] => [(classify a, false)]
  | a :: b :: r => (classify a, true) :: specYields (b :: r)

theorem solveMultiple_spec (ds : List Bool) (hd : ∀ d ∈ ds, d = true) (answers : List StoredAnswer)
    (hl : answers.length < ds.length) :
    solveMultiple false answers ds = specYields (answers.filter validAns) := by
  induction ds generalizing answers with
  | nil => exact absurd hl (Nat.not_lt_zero _)
  | cons d ds ih =>
    obtain ⟨rfl, hd'⟩ := List.forall_mem_cons.1 hd
    rw [solveMultiple]
    rcases peekFrom_spec answers 0 with ⟨h1, h2⟩ | ⟨i, a, h1, h2, h3⟩
    · rw [h1, h2]; rfl
    · rw [Nat.zero_add] at h1
      have hlen : (answers.drop (i + 1)).length < ds.length := by
        rw [List.length_drop]; rw [List.length_cons] at hl; omega
      rw [h1, h3]
      simp only [if_true, ih hd' _ hlen]
      rcases peekFrom_spec (answers.drop (i + 1)) 0 with ⟨g1, g2⟩ | ⟨j, b, g1, g2, g3⟩
      · rw [g1, g2]; rfl
      · rw [Nat.zero_add] at g1; rw [g1, g3]; rfl

def STable.Inv (t : STable) : Prop :=
  (t.answers.map (·.key)).Nodup ∧ ∀ a ∈ t.answers, (t.hash.lookup a.key).isSome = true

theorem STable.inv_empty : ({} : STable).Inv := by simp [STable.Inv]

theorem lookup_cons_isSome {k k' : Nat} {v : Bool} {l : List (Nat × Bool)}
    (h : (l.lookup k).isSome = true) : (((k', v) :: l).lookup k).isSome = true := by
  rw [List.lookup_cons]
  split
  · rfl
  · exact h

theorem STable.pushAnswer_inv (t : STable) (a : StoredAnswer) (h : t.Inv) (t' : STable) (added : Bool)
    (hp : t.pushAnswer a = .ok (t', added)) : t'.Inv := by
  unfold STable.pushAnswer at hp
  split at hp
  · cases hp
  · split at hp
    · next hl =>
      cases hp
      refine ⟨?_, fun b hb => ?_⟩
      · -- a key already stored has an entry in the hash, the new one has none
        rw [List.map_append, List.nodup_append]
        refine ⟨h.1, List.pairwise_singleton _ _, fun x hx y hy hxy => ?_⟩
        obtain ⟨b, hb, rfl⟩ := List.mem_map.1 hx
        have := h.2 b hb
        rw [hxy, List.mem_singleton.1 hy, hl] at this
        cases this
      · rcases List.mem_append.1 hb with hb | hb
        · exact lookup_cons_isSome (h.2 b hb)
        · rw [List.mem_singleton.1 hb, List.lookup_cons_self]; rfl
    · split at hp
      · cases hp
      · cases hp; exact h

theorem pushes_nodup : (as : List StoredAnswer) → (t t' : STable) → t.Inv →
    as.foldlM (fun (t : STable) a => (t.pushAnswer a).map (·.1)) t = .ok t' → t'.Inv
  | [], t, t', h, hp => by cases hp; exact h
  | a :: as, t, t', h, hp => by
      rw [List.foldlM_cons] at hp
      cases hpa : t.pushAnswer a with
      | error e => rw [hpa] at hp; cases hp
      | ok p => rw [hpa] at hp; exact pushes_nodup as p.1 t' (STable.pushAnswer_inv t a h p.1 p.2 hpa) hp

end Chalk
