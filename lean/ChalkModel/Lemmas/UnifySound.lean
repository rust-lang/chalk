/-
  Soundness of the unifier on the first-order fragment under the invariant relation, in semantic
  form: every solution of the resulting table is a solution of the original table and equates the
  two types; the table only grows (bound variables keep their values, classes only merge).

  The input must respect an arity table (`Ty.arityOk`, `Table.arityValues`): `zip_substs` truncates
  to the shorter argument list, so without it the statement is false (see the `example` at the end).

  The same induction over `relate_ty_ty` also shows that the table stays acyclic under a kind
  discipline (`SoundAcyclic`): that half needs the soundness half at every nested call. This is why
  the kind layer (`UnifyKinded.lean`) is imported here.
-/
import ChalkModel.Lemmas.UnifyOcc
import ChalkModel.Lemmas.UnifyStep

namespace Chalk

def Post (ar : TyName → Nat) (a b : Ty) (st st' : UState) : Prop :=
  st'.goals = st.goals ∧ st.table.Le ar st'.table ∧
  ∀ θ, st'.table.Models θ → a.applyAsg θ = b.applyAsg θ

def Sound (ar : TyName → Nat) (rel : RelTy) : Prop :=
  ∀ a b st st', st.table.Good ar → a.good ar st.table.numVars = true → b.good ar st.table.numVars = true →
    rel .inv a b st = .ok st' → Post ar a b st st'

def SoundAcyclic (ar : TyName → Nat) (rel : RelTy) : Prop :=
  ∀ a b st st', st.table.Good ar → a.good ar st.table.numVars = true → b.good ar st.table.numVars = true →
    rel .inv a b st = .ok st' →
    Post ar a b st st' ∧
    ∀ κ, st.table.Kinded κ → st.table.Ranked → a.kinded κ = true → b.kinded κ = true →
      st'.table.Kinded κ ∧ st'.table.Ranked

theorem Post.symm {ar : TyName → Nat} {a b : Ty} {st st' : UState} (h : Post ar a b st st') :
    Post ar b a st st' :=
  ⟨h.1, h.2.1, fun θ hm => (h.2.2 θ hm).symm⟩

theorem Post.refl {ar : TyName → Nat} (a : Ty) (st : UState) (hg : st.table.Good ar) : Post ar a a st st :=
  ⟨rfl, Table.Le.refl hg, fun _ _ => rfl⟩

theorem ite_error_ok {α : Type} {c : Prop} [Decidable c] {e : UErr} {X : URes α} {r : α}
    (h : (if c then .error e else X) = .ok r) : X = .ok r := by
  split at h
  · cases h
  · exact h

theorem ite_ok_error {α : Type} {c : Prop} [Decidable c] {e : UErr} {X : URes α} {r : α}
    (h : (if c then X else .error e) = .ok r) : c ∧ X = .ok r := by
  split at h
  · exact ⟨by assumption, h⟩
  · cases h

theorem Variance.inv_xform (w : Variance) : Variance.xform .inv w = .inv := by
  cases w <;> rfl

theorem zipSubsts_inv_cons {rel : RelTy} {jf : Nat} {vs : Option (List Variance)} {i : Nat} {a b : GArg}
    {as bs : Args} {st st' : UState} (h : zipSubsts rel jf .inv vs i (.cons a as) (.cons b bs) st = .ok st') :
    ∃ st1, relateGArg rel jf .inv a b st = .ok st1 ∧ zipSubsts rel jf .inv vs (i + 1) as bs st1 = .ok st' := by
  simp only [zipSubsts] at h
  split at h
  · cases h
  · rw [Variance.inv_xform] at h
    split at h
    · exact ⟨_, ‹_›, h⟩
    · cases h

theorem GArg.good_ty {ar : TyName → Nat} {n : Nat} {a : GArg} (h : a.good ar n = true) :
    ∃ t, a = .ty t ∧ t.good ar n = true := by
  cases a with
  | ty t => exact ⟨t, rfl, h⟩
  | _ => cases h

theorem zipSubsts_sound (ar : TyName → Nat) (rel : RelTy) (hrel : SoundAcyclic ar rel) (jf : Nat)
    (vs : Option (List Variance)) :
    (as bs : Args) → ∀ (i : Nat) (st st' : UState), st.table.Good ar →
      as.good ar st.table.numVars = true → bs.good ar st.table.numVars = true →
      as.length = bs.length →
      zipSubsts rel jf .inv vs i as bs st = .ok st' →
      (st'.goals = st.goals ∧ st.table.Le ar st'.table ∧
        ∀ θ, st'.table.Models θ → as.applyAsg θ = bs.applyAsg θ) ∧
      ∀ κ, st.table.Kinded κ → st.table.Ranked → as.kinded κ = true → bs.kinded κ = true →
        st'.table.Kinded κ ∧ st'.table.Ranked
  | .nil, .nil => by
      intro i st st' hg _ _ _ h
      simp only [zipSubsts] at h; cases h
      exact ⟨⟨rfl, Table.Le.refl hg, fun _ _ => rfl⟩, fun _ hk hr _ _ => ⟨hk, hr⟩⟩
  | .nil, .cons b bs => by
      intro i st st' _ _ _ hl _
      rw [Args.length_cons, Args.length_nil] at hl; omega
  | .cons a as, .nil => by
      intro i st st' _ _ _ hl _
      rw [Args.length_cons, Args.length_nil] at hl; omega
  | .cons a as, .cons b bs => by
      intro i st st' hg hga hgb hl h
      simp only [Args.good, Bool.and_eq_true] at hga hgb
      rw [Args.length_cons, Args.length_cons] at hl
      obtain ⟨ta, rfl, hta⟩ := GArg.good_ty hga.1
      obtain ⟨tb, rfl, htb⟩ := GArg.good_ty hgb.1
      obtain ⟨st1, hr, hz⟩ := zipSubsts_inv_cons h
      obtain ⟨⟨r1, r2, r3⟩, rk⟩ := hrel ta tb st st1 hg hta htb hr
      obtain ⟨⟨z1, z2, z3⟩, zk⟩ := zipSubsts_sound ar rel hrel jf vs as bs (i + 1) st1 st' r2.good
        (Args.good_mono ar _ _ r2.numVars _ hga.2) (Args.good_mono ar _ _ r2.numVars _ hgb.2)
        (by omega) hz
      refine ⟨⟨by rw [z1, r1], r2.trans z2, fun θ hm => ?_⟩, fun κ hk hrk hka hkb => ?_⟩
      · simp only [Args.applyAsg, GArg.applyAsg]
        rw [z3 θ hm, r3 θ (z2.models θ hm)]
      · simp only [Args.kinded, Bool.and_eq_true] at hka hkb
        obtain ⟨k1, q1⟩ := rk κ hk hrk hka.1 hkb.1
        exact zk κ k1 q1 hka.2 hkb.2

theorem relateVarTy_inv {rel : RelTy} {db : UDb} {jf : Nat} {var : Nat} {kind : TyVarKind} {ty : Ty}
    {st st' : UState} (h : relateVarTy rel db jf .inv var kind ty st = .ok st') :
    ∃ ui ty1 st1 gen t2 t3, occursCheckTy jf { var := var, ui := ui } ty st = .ok (ty1, st1) ∧
      generalizeTyTop db jf ui .inv ty1 st1.table = .ok (gen, t2) ∧
      t2.unifyVarValue var (.bound (.ty gen)) = .ok t3 ∧
      rel .inv gen ty1 { st1 with table := t3 } = .ok st' := by
  unfold relateVarTy at h
  replace h := ite_error_ok h
  split at h
  · cases h
  split at h
  · cases h
  rename_i hocc
  split at h
  · cases h
  rename_i hgen
  split at h
  · cases h
  rename_i hw
  obtain ⟨t3, ht3, rfl⟩ := UState.withTable_ok _ _ _ hw
  exact ⟨_, _, _, _, _, t3, hocc, hgen, ht3, h⟩

/-- `relate_var_ty` on a non-variable `ty`: the occurs check returns `ty1` with unbound variables
    outside the class of `var`, generalization adds fresh ones, so binding `var` to the generalized
    type keeps the table acyclic -/
theorem relateVarTy_sound (ar : TyName → Nat) (rel : RelTy) (hrel : SoundAcyclic ar rel) (db : UDb) (jf : Nat)
    (var : Nat) (kind : TyVarKind) (ty : Ty) (st st' : UState) (hg : st.table.Good ar)
    (hvar : var < st.table.numVars) (hty : ty.good ar st.table.numVars = true) (hni : ty.isInfer = false)
    (h : relateVarTy rel db jf .inv var kind ty st = .ok st') :
    Post ar (.infer var kind) ty st st' ∧
    ∀ κ, st.table.Kinded κ → st.table.Ranked → ty.kinded κ = true →
      st'.table.Kinded κ ∧ st'.table.Ranked := by
  obtain ⟨ui, ty1, st1, gen, t2, t3, hocc, hgen, ht3, h⟩ := relateVarTy_inv h
  obtain ⟨o1, o2, o3, o4⟩ := occursCheckTy_spec ar jf _ ty st ty1 st1 hg hty hocc
  obtain ⟨g1, g2⟩ := generalizeTyTop_spec ar db jf ui .inv ty1 st1.table gen t2 o2.good o3 hgen
  have hvar1 : var < st1.table.numVars := Nat.lt_of_lt_of_le hvar o2.numVars
  have hvar2 : var < t2.numVars := Nat.lt_of_lt_of_le hvar1 g1.numVars
  obtain ⟨b1, b2⟩ := t2.unifyVarValue_bound_Le var gen t3 g1.good hvar2 g2 ht3
  obtain ⟨⟨r1, r2, r3⟩, rk⟩ := hrel gen ty1 _ st' b1.good
    (Ty.good_mono ar _ _ b1.numVars _ g2)
    (Ty.good_mono ar _ _ (Nat.le_trans g1.numVars b1.numVars) _ o3) h
  refine ⟨⟨by rw [r1]; exact o1, ((o2.trans g1).trans b1).trans r2, fun θ hm => ?_⟩,
    fun κ hk hr htyk => ?_⟩
  · have m3 := r2.models θ hm
    have m2 := b1.models θ m3
    have m1 := g1.models θ m2
    simp only [Ty.applyAsg]
    rw [b2 θ m3, r3 θ hm, o4 θ m1]
  · obtain ⟨p1, p2, p3⟩ := occursCheckTy_spec2 ar κ jf ⟨var, ui⟩ ty st ty1 st1 hg hk hvar hty htyk hocc
    have k1 : st1.table.Kinded κ := p1.kinded hk
    obtain ⟨_, q2, q3, q4⟩ := generalizeTyTop_spec2 ar κ db jf ui .inv ty1 st1.table gen t2 o2.good.wf
      k1.fresh o3 p2 (fun w hw => (p3 w hw).1) hgen
    have hni2 : gen.isInfer = false := generalizeTy_isInfer ar _ db ui .inv ty1 st1.table gen t2 o3
      (occTy_isInfer ar _ _ 0 ty st ty1 st1 hty hni hocc) hgen
    have hTu : ∀ w, w ∈ gen.tyVars → t2.probeVar w = none ∧ t2.find w ≠ t2.find var := by
      intro w hw
      rw [q2.find var hvar1]
      rcases q4 w hw with hw1 | ⟨hlo, hhi⟩
      · have hwlt : w < st1.table.numVars := Ty.tyVars_lt_of_good o3 w hw1
        rw [q2.probe w hwlt, q2.find w hwlt]
        exact p3 w hw1
      · have := q2.fresh w hlo hhi
        have hf := st1.table.find_lt o2.good.wf var hvar1
        refine ⟨this.1, ?_⟩
        intro e; rw [e] at this; omega
    obtain ⟨k3, r3⟩ := t2.bind_Kinded_Ranked var gen t3 g1.good (q2.kinded k1)
      (q2.ranked o2.good.vals (p1.ranked hg.vals hr)) hvar2 g2 q3
      (fun w k e => by rw [e] at hni2; cases hni2) hTu ht3
    exact rk κ k3 r3 q3 p2

theorem Ty.good_flags (ar : TyName → Nat) (n : Nat) (a : Ty) (h : a.good ar n = true) :
    a.isBoundVar = false ∧ a.asAlias = none ∧ a.isErrorTy = false ∧ a.isFunction = false ∧
    a.isDyn = false := by
  cases a <;> first | exact ⟨rfl, rfl, rfl, rfl, rfl⟩ | cases h

theorem Ty.good_plain {ar : TyName → Nat} {n : Nat} {a : Ty} (h : a.good ar n = true) : a.plain = true := by
  cases a <;> first | rfl | cases h

theorem relateTyStep_sound (ar : TyName → Nat) (rel : RelTy) (db : UDb) (jf : Nat)
    (hrel : SoundAcyclic ar rel) : SoundAcyclic ar (relateTyStep rel db jf) := by
  intro a0 b0 st st' hg ha0 hb0 h
  obtain ⟨hga, hma⟩ := st.table.normalize_spec hg a0 ha0
  obtain ⟨hgb, hmb⟩ := st.table.normalize_spec hg b0 hb0
  -- the statement for the normalized types; in a well-kinded table a variable among them is unbound
  suffices hp : Post ar ((st.table.normalizeTyShallow a0).getD a0)
      ((st.table.normalizeTyShallow b0).getD b0) st st' ∧
      ∀ κ, st.table.Kinded κ → st.table.Ranked →
        ((st.table.normalizeTyShallow a0).getD a0).kinded κ = true →
        ((st.table.normalizeTyShallow b0).getD b0).kinded κ = true →
        (∀ v k, (st.table.normalizeTyShallow a0).getD a0 = .infer v k → st.table.probeVar v = none) →
        (∀ v k, (st.table.normalizeTyShallow b0).getD b0 = .infer v k → st.table.probeVar v = none) →
        st'.table.Kinded κ ∧ st'.table.Ranked by
    refine ⟨⟨hp.1.1, hp.1.2.1, fun θ hm => ?_⟩, fun κ hk hr hka0 hkb0 => ?_⟩
    · have m0 := hp.1.2.1.models θ hm
      rw [← hma θ m0, ← hmb θ m0]; exact hp.1.2.2 θ hm
    · obtain ⟨hka, hua⟩ := st.table.normalize_kinded hg hk a0 ha0 hka0
      obtain ⟨hkb, hub⟩ := st.table.normalize_kinded hg hk b0 hb0 hkb0
      exact hp.2 κ hk hr hka hkb hua hub
  refine relateTyStep_cases rel db jf .inv st (relateTyStep_ok_kindOk h) rfl rfl
    (Ty.good_plain hga) (Ty.good_plain hgb)
    (motive := fun a b r => a.good ar st.table.numVars = true → b.good ar st.table.numVars = true →
      r = .ok st' → Post ar a b st st' ∧
      ∀ κ, st.table.Kinded κ → st.table.Ranked → a.kinded κ = true → b.kinded κ = true →
        (∀ v k, a = .infer v k → st.table.probeVar v = none) →
        (∀ v k, b = .infer v k → st.table.probeVar v = none) → st'.table.Kinded κ ∧ st'.table.Ranked)
    (fun a _ _ h => by cases h; exact ⟨Post.refl _ _ hg, fun _ hk hr _ _ _ _ => ⟨hk, hr⟩⟩) ?varVar
    (fun x k b hbi _ hga hgb h =>
      (relateVarTy_sound ar rel hrel db jf x k b st st' hg (of_decide_eq_true hga) hgb hbi h).imp id
        fun p κ hk hr _ hkb _ _ => p κ hk hr hkb)
    (fun a y k hai _ hga hgb h =>
      (relateVarTy_sound ar rel hrel db jf y k a st st' hg (of_decide_eq_true hgb) hga hai h).imp Post.symm
        fun p κ hk hr hka _ _ _ => p κ hk hr hka)
    ?app (fun ta tb hga hgb h => ?slice) (fun m ta tb hga hgb h => ?raw)
    (fun _ _ _ _ _ h => nomatch h) (fun _ _ _ _ h => nomatch h) (fun _ _ _ _ _ h => nomatch h)
    (fun _ _ _ _ _ h => nomatch h) hga hgb h
  case varVar =>
    intro x k y k' hga hgb h
    have hx : x < st.table.numVars := of_decide_eq_true hga
    have hy : y < st.table.numVars := of_decide_eq_true hgb
    rcases relateVarVar_inv h with ⟨hkk, h⟩ | ⟨hkg, hkn, h⟩ | ⟨hkg, hkn, h⟩ <;>
      obtain ⟨t', ht', rfl⟩ := UState.withTable_ok _ _ _ h
    · obtain ⟨l, m⟩ := st.table.unifyVarVar_Le x y t' hg hx hy ht'
      exact ⟨⟨rfl, l, m⟩, fun κ hk hr hka hkb hua hub =>
        st.table.unifyVarVar_unbound_Kinded_Ranked x y t' hg hk hr hx hy (hua x k rfl) (hub y k' rfl)
          (by rw [← of_decide_eq_true hka, ← of_decide_eq_true hkb, hkk]) ht'⟩
    · obtain ⟨l, m⟩ := st.table.unifyVarValue_bound_Le x _ t' hg hx hgb ht'
      exact ⟨⟨rfl, l, m⟩, fun κ hk hr hka hkb _ hub =>
        st.table.bindVar_Kinded_Ranked x y k' t' hg hk hr hx hy ((of_decide_eq_true hka).symm.trans hkg)
          (of_decide_eq_true hkb) hkn (hub y k' rfl) ht'⟩
    · obtain ⟨l, m⟩ := st.table.unifyVarValue_bound_Le y _ t' hg hy hga ht'
      exact ⟨⟨rfl, l, fun θ hm => (m θ hm).symm⟩, fun κ hk hr hka hkb hua _ =>
        st.table.bindVar_Kinded_Ranked y x k t' hg hk hr hy hx ((of_decide_eq_true hkb).symm.trans hkg)
          (of_decide_eq_true hka) hkn (hua x k rfl) ht'⟩
  case app =>
    intro n as bs hga hgb h
    simp only [Ty.good, Bool.and_eq_true, beq_iff_eq] at hga hgb
    obtain ⟨⟨z1, z2, z3⟩, zk⟩ := zipSubsts_sound ar rel hrel jf _ as bs 0 st st' hg hga.2 hgb.2
      (by rw [hga.1, hgb.1]) h
    exact ⟨⟨z1, z2, fun θ hm => congrArg (Ty.app n) (z3 θ hm)⟩, fun κ hk hr hka hkb _ _ => zk κ hk hr hka hkb⟩
  case slice =>
    obtain ⟨⟨r1, r2, r3⟩, rk⟩ := hrel ta tb st st' hg hga hgb h
    exact ⟨⟨r1, r2, fun θ hm => congrArg Ty.slice (r3 θ hm)⟩, fun κ hk hr hka hkb _ _ => rk κ hk hr hka hkb⟩
  case raw =>
    rw [Variance.inv_xform] at h
    obtain ⟨⟨r1, r2, r3⟩, rk⟩ := hrel ta tb st st' hg hga hgb h
    exact ⟨⟨r1, r2, fun θ hm => congrArg (Ty.raw m) (r3 θ hm)⟩, fun κ hk hr hka hkb _ _ => rk κ hk hr hka hkb⟩

theorem relateTy_soundAcyclic (ar : TyName → Nat) (db : UDb) (jf : Nat) :
    ∀ fuel, SoundAcyclic ar (relateTy db jf fuel)
  | 0 => fun _ _ _ _ _ _ _ h => nomatch h
  | n + 1 => relateTyStep_sound ar (relateTy db jf n) db jf (relateTy_soundAcyclic ar db jf n)

theorem relateTy_Sound (ar : TyName → Nat) (db : UDb) (jf : Nat) : ∀ fuel, Sound ar (relateTy db jf fuel) :=
  fun fuel a b st st' hg ha hb h => (relateTy_soundAcyclic ar db jf fuel a b st st' hg ha hb h).1

theorem relateTy_sound (db : UDb) (jf : Nat) (ar : TyName → Nat) :
    ∀ (fuel : Nat) (a b : Ty) (st st' : UState),
      st.table.WF → st.table.foValues → st.table.arityValues ar →
      a.fo = true → b.fo = true →
      a.varsBelow st.table.numVars = true → b.varsBelow st.table.numVars = true →
      a.arityOk ar = true → b.arityOk ar = true →
      relateTy db jf fuel .inv a b st = .ok st' →
      st'.table.WF ∧ st'.table.foValues ∧ st'.table.arityValues ar ∧ st'.goals = st.goals ∧
      st.table.numVars ≤ st'.table.numVars ∧
      st'.table.maxUniverse = st.table.maxUniverse ∧
      (∀ θ, st'.table.Models θ → st.table.Models θ ∧ a.applyAsg θ = b.applyAsg θ) ∧
      (∀ v g, v < st.table.numVars → st.table.probeVar v = some g → st'.table.probeVar v = some g) ∧
      (∀ x y, x < st.table.numVars → y < st.table.numVars →
        st.table.find x = st.table.find y → st'.table.find x = st'.table.find y) := by
  intro fuel a b st st' hwf hfo har hafo hbfo hav hbv haa hba h
  have hg : st.table.Good ar := ⟨hwf, (Table.goodValues_iff ar _).mpr ⟨hfo, har⟩⟩
  obtain ⟨p1, p2, p3⟩ := relateTy_Sound ar db jf fuel a b st st' hg
    ((Ty.good_iff ar _ a).mpr ⟨hafo, hav, haa⟩) ((Ty.good_iff ar _ b).mpr ⟨hbfo, hbv, hba⟩) h
  have hv := (Table.goodValues_iff ar _).mp p2.good.vals
  exact ⟨p2.good.wf, hv.1, hv.2, p1, p2.numVars, p2.maxU,
    fun θ hm => ⟨p2.models θ hm, p3 θ hm⟩, p2.probe, p2.find⟩

def exDb : UDb := { adtVariance := fun _ => [.inv], fnDefVariance := fun _ => [] }

/-- COUNTEREXAMPLE to the statement without `arityOk`: `zip_substs` truncates to the shorter
    argument list, so `Adt0<u8>` and `Adt0<>` (ill-kinded: one name at two arities) are related
    successfully on the empty table, the table is unchanged, every assignment is a solution of
    it, and no assignment equates the two types. -/
example :
    let a : Ty := .app (.adt 0) (.cons (.ty (.scalar 1)) .nil)
    let b : Ty := .app (.adt 0) .nil
    let st : UState := { table := Table.new }
    st.table.WF ∧ st.table.foValues ∧ a.fo = true ∧ b.fo = true ∧
    a.varsBelow st.table.numVars = true ∧ b.varsBelow st.table.numVars = true ∧
    relateTy exDb 1 1 .inv a b st = .ok st ∧
    ∀ θ, st.table.Models θ ∧ a.applyAsg θ ≠ b.applyAsg θ := by
  refine ⟨Table.new_WF, Table.new_foValues, rfl, rfl, rfl, rfl, rfl, ?_⟩
  intro θ
  refine ⟨⟨fun v hv => absurd hv (Nat.not_lt_zero v), fun v _ hv => absurd hv (Nat.not_lt_zero v)⟩, ?_⟩
  simp [Ty.applyAsg, Args.applyAsg]

/-- NON-VACUITY: on the table with one fresh variable `?0`, relating `?0` with `Adt0<u8>` succeeds,
    all hypotheses of `relateTy_sound` hold (arity table: every name unary), and the theorem
    yields that every solution of the resulting table maps `?0` to `Adt0<u8>`. -/
example :
    let b : Ty := .app (.adt 0) (.cons (.ty (.scalar 1)) .nil)
    let st : UState := { table := (Table.new.newVariable 0).1 }
    ∃ st', relateTy exDb 2 2 .inv (.infer 0 .general) b st = .ok st' ∧
      st'.table.WF ∧ ∀ θ, st'.table.Models θ → θ 0 = b := by
  intro b st
  refine ⟨_, rfl, ?_⟩
  have hwf : st.table.WF := Table.newVariable_WF _ _ Table.new_WF
  have h := relateTy_sound exDb 2 (fun _ => 1) 2 (.infer 0 .general) b st _ hwf
    (Table.newVariable_foValues _ _ Table.new_WF Table.new_foValues)
    (Table.newVariable_arityValues _ _ _ Table.new_WF (Table.new_arityValues _))
    rfl rfl rfl rfl rfl rfl rfl
  exact ⟨h.1, fun θ hm => (h.2.2.2.2.2.2.1 θ hm).2⟩

end Chalk

#print axioms Chalk.relateTy_sound
