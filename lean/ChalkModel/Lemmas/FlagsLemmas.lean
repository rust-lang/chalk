import ChalkModel.Flags

namespace Chalk

/-- The flags `compute_flags` sets where it meets a leaf of the given kind. -/
def Leaf.flags : Leaf → Flags
  | .tyInfer => [.hasTyInfer]
  | .ltInfer => [.hasReInfer, .hasFreeLocalRegions, .hasFreeRegions]
  | .ctInfer => [.hasCtInfer]
  | .tyPlaceholder => [.hasTyPlaceholder]
  | .ltPlaceholder => [.hasRePlaceholder, .hasFreeLocalRegions, .hasFreeRegions]
  | .ctPlaceholder => [.hasCtPlaceholder]
  | .projection => [.hasTyProjection]
  | .opaqueAlias => [.hasTyOpaque]
  | .tyError => [.hasError]
  | .ltError => [.hasReError]
  | .ltStatic => [.hasFreeRegions]
  | .ltBound => [.hasReLateBound]
  | .ltErased => [.hasReErased]

theorem Flag.reports_iff (f : Flag) (lf : Leaf) : f.reports lf = true ↔ f ∈ lf.flags := by
  rw [← List.contains_iff_mem]; cases lf <;> cases f <;> rfl

theorem Lifetime.computeFlags_eq (l : Lifetime) : l.computeFlags = l.leaf.flags := by
  cases l <;> rfl

theorem ConstValue.flag_iff (f : Flag) (h : f ≠ .stillFurtherSpecializable) (v : ConstValue) :
    f ∈ v.computeFlags ↔ ∃ lf ∈ v.leaves, f.reports lf = true := by
  cases v <;> simp only [ConstValue.computeFlags, ConstValue.leaves, Flag.reports_iff, Leaf.flags,
    List.mem_cons, List.not_mem_nil, exists_eq_left, false_and, exists_false, h, or_false]

/-! How "`f` is set iff a leaf it reports occurs" is built up: from no leaf, from one leaf, and
from two parts whose flags are OR-ed. Every arm of `compute_flags` is, up to unfolding, one of these. -/
section
variable {f : Flag} {a b : Flags} {la lb : List Leaf}

theorem Flags.nil_iff : f ∈ ([] : Flags) ↔ ∃ lf ∈ ([] : List Leaf), f.reports lf = true := by
  simp only [List.not_mem_nil, false_and, exists_false]

theorem Flags.leaf_iff (lf : Leaf) : f ∈ lf.flags ↔ ∃ x ∈ [lf], f.reports x = true := by
  simp only [List.mem_singleton, exists_eq_left, Flag.reports_iff]

theorem Flags.lifetime_iff (l : Lifetime) :
    f ∈ l.computeFlags ↔ ∃ x ∈ [l.leaf], f.reports x = true :=
  l.computeFlags_eq ▸ leaf_iff l.leaf

theorem Flags.append_iff (ha : f ∈ a ↔ ∃ lf ∈ la, f.reports lf = true)
    (hb : f ∈ b ↔ ∃ lf ∈ lb, f.reports lf = true) :
    f ∈ a ++ b ↔ ∃ lf ∈ la ++ lb, f.reports lf = true := by
  simp only [List.mem_append, ha, hb, or_and_right, exists_or]

end

mutual
  theorem Ty.flag_iff (f : Flag) (h : f ≠ .stillFurtherSpecializable) : (t : Ty) →
      (f ∈ t.computeFlags ↔ ∃ lf ∈ t.leaves, f.reports lf = true)
    | .app _ args | .function _ _ args => Args.flag_iff f h args
    | .scalar _ | .str | .never | .foreign _ | .bound _ _ => Flags.nil_iff
    | .error => Flags.leaf_iff .tyError
    | .placeholder _ _ => Flags.leaf_iff .tyPlaceholder
    | .infer _ _ => Flags.leaf_iff .tyInfer
    | .slice t | .raw _ t => Ty.flag_iff f h t
    | .ref _ l t => Flags.append_iff (Flags.lifetime_iff l) (Ty.flag_iff f h t)
    | .array t c => Flags.append_iff (Ty.flag_iff f h t) (Const.flag_iff f h c)
    | .dyn _ bounds l => Flags.append_iff (Flags.lifetime_iff l) (QWCs.flag_iff f h bounds)
    | .proj _ args => Flags.append_iff (Flags.leaf_iff .projection) (Args.flag_iff f h args)
    | .opaque _ args => Flags.append_iff (Flags.leaf_iff .opaqueAlias) (Args.flag_iff f h args)
  theorem Const.flag_iff (f : Flag) (h : f ≠ .stillFurtherSpecializable) : (c : Const) →
      (f ∈ c.computeFlags ↔ ∃ lf ∈ c.leaves, f.reports lf = true)
    | .mk ty v => Flags.append_iff (Ty.flag_iff f h ty) (ConstValue.flag_iff f h v)
  theorem GArg.flag_iff (f : Flag) (h : f ≠ .stillFurtherSpecializable) : (a : GArg) →
      (f ∈ a.computeFlags ↔ ∃ lf ∈ a.leaves, f.reports lf = true)
    | .ty t => Ty.flag_iff f h t
    | .lt l => Flags.lifetime_iff l
    | .ct c => Const.flag_iff f h c
  theorem Args.flag_iff (f : Flag) (h : f ≠ .stillFurtherSpecializable) : (a : Args) →
      (f ∈ a.computeFlags ↔ ∃ lf ∈ a.leaves, f.reports lf = true)
    | .nil => Flags.nil_iff
    | .cons a as => Flags.append_iff (GArg.flag_iff f h a) (Args.flag_iff f h as)
  theorem WC.flag_iff (f : Flag) (h : f ≠ .stillFurtherSpecializable) : (w : WC) →
      (f ∈ w.computeFlags ↔ ∃ lf ∈ w.leaves, f.reports lf = true)
    | .implemented _ args => Args.flag_iff f h args
    | .aliasEqProj _ args ty => Flags.append_iff
        (Flags.append_iff (Flags.leaf_iff .projection) (Args.flag_iff f h args)) (Ty.flag_iff f h ty)
    | .aliasEqOpaque _ args ty => Flags.append_iff
        (Flags.append_iff (Flags.leaf_iff .opaqueAlias) (Args.flag_iff f h args)) (Ty.flag_iff f h ty)
    | .ltOutlives a b => Flags.append_iff (Flags.lifetime_iff a) (Flags.lifetime_iff b)
    | .tyOutlives t l => Flags.append_iff (Ty.flag_iff f h t) (Flags.lifetime_iff l)
  theorem QWC.flag_iff (f : Flag) (h : f ≠ .stillFurtherSpecializable) : (q : QWC) →
      (f ∈ q.computeFlags ↔ ∃ lf ∈ q.leaves, f.reports lf = true)
    | .mk _ wc => WC.flag_iff f h wc
  theorem QWCs.flag_iff (f : Flag) (h : f ≠ .stillFurtherSpecializable) : (q : QWCs) →
      (f ∈ q.computeFlags ↔ ∃ lf ∈ q.leaves, f.reports lf = true)
    | .nil => Flags.nil_iff
    | .cons q qs => Flags.append_iff (QWC.flag_iff f h q) (QWCs.flag_iff f h qs)
end

/-- The bits are numbered in constructor order, so `Flag.ofNat` (from `deriving DecidableEq`)
    undoes `Flag.bit`. -/
theorem Flag.ofNat_bit (f : Flag) : Flag.ofNat f.bit = f := by cases f <;> rfl

theorem Flag.bit_injective {f g : Flag} (h : f.bit = g.bit) : f = g := by
  rw [← f.ofNat_bit, h, g.ofNat_bit]

theorem Flags.testBit_toBits (fs : Flags) (f : Flag) :
    (Flags.toBits fs).testBit f.bit = true ↔ f ∈ fs := by
  induction fs with
  | nil => simp [Flags.toBits]
  | cons g gs ih =>
    have hg : g.bit = f.bit ↔ f = g := ⟨fun h => (Flag.bit_injective h).symm, fun h => h ▸ rfl⟩
    rw [List.mem_cons, ← ih, ← hg]
    simp only [Flags.toBits, List.foldr_cons, Nat.testBit_or, Bool.or_eq_true, Nat.one_shiftLeft,
      Nat.testBit_two_pow, decide_eq_true_eq]

end Chalk
