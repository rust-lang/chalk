/-
  One-sided matching (`matchTm`, `matchAtom` of `Eval.lean`) is sound and complete: a result `σ` instantiates the
  pattern to the term, and whenever some instantiation `τ` does, matching succeeds with an assignment that `τ` agrees
  with; hence on clause bodies bound by the head, `σ` and `τ` give the same instances (`body_inst_eq`).
-/
import ChalkModel.Eval

namespace Chalk.Sem

/-- `τ` agrees with the finite assignment `σ` on its domain -/
def Agrees (τ : Nat → Tm) (σ : Asg) : Prop := ∀ i t, σ.get i = some t → τ i = t

def Extends (σ σ' : Asg) : Prop := ∀ i t, σ.get i = some t → σ'.get i = some t

theorem Extends.refl (σ : Asg) : Extends σ σ := fun _ _ h => h
theorem Extends.trans {a b c : Asg} (h1 : Extends a b) (h2 : Extends b c) : Extends a c :=
  fun i t h => h2 i t (h1 i t h)

theorem Asg.get_cons_self (σ : Asg) (i : Nat) (t : Tm) : Asg.get ((i, t) :: σ) i = some t := by
  simp [Asg.get]

theorem extends_cons {σ : Asg} {i : Nat} {t : Tm} (h : σ.get i = none) : Extends σ ((i, t) :: σ) := by
  intro j u hj
  simp only [Asg.get]
  by_cases hij : i = j
  · subst hij; rw [h] at hj; cases hj
  · simp [hij, hj]

theorem agrees_toFun (σ : Asg) : Agrees σ.toFun σ := by
  intro i t h; simp [Asg.toFun, h]

theorem agrees_nil (τ : Nat → Tm) : Agrees τ [] := fun _ _ h => nomatch h

mutual
  theorem Tm.inst_congr (τ τ' : Nat → Tm) (σ : Asg) (h1 : Agrees τ σ) (h2 : Agrees τ' σ) :
      (t : Tm) → t.varsIn σ = true → t.inst τ = t.inst τ'
    | .var i, hv => by
        simp only [Tm.varsIn] at hv
        cases hg : σ.get i with
        | none => simp [hg] at hv
        | some u => simp [Tm.inst, h1 i u hg, h2 i u hg]
    | .app c args, hv => by
        simp only [Tm.varsIn] at hv
        simp [Tm.inst, Tms.inst_congr τ τ' σ h1 h2 args hv]
  theorem Tms.inst_congr (τ τ' : Nat → Tm) (σ : Asg) (h1 : Agrees τ σ) (h2 : Agrees τ' σ) :
      (ts : Tms) → ts.varsIn σ = true → ts.inst τ = ts.inst τ'
    | .nil, _ => by simp [Tms.inst]
    | .cons t ts, hv => by
        simp only [Tms.varsIn, Bool.and_eq_true] at hv
        simp [Tms.inst, Tm.inst_congr τ τ' σ h1 h2 t hv.1, Tms.inst_congr τ τ' σ h1 h2 ts hv.2]
end

mutual
  theorem Tm.varsIn_mono {σ σ' : Asg} (he : Extends σ σ') : (t : Tm) → t.varsIn σ = true → t.varsIn σ' = true
    | .var i, hv => by
        simp only [Tm.varsIn] at hv ⊢
        cases hg : σ.get i with
        | none => simp [hg] at hv
        | some u => simp [he i u hg]
    | .app c args, hv => by
        simp only [Tm.varsIn] at hv ⊢
        exact Tms.varsIn_mono he args hv
  theorem Tms.varsIn_mono {σ σ' : Asg} (he : Extends σ σ') : (ts : Tms) → ts.varsIn σ = true → ts.varsIn σ' = true
    | .nil, _ => by simp [Tms.varsIn]
    | .cons t ts, hv => by
        simp only [Tms.varsIn, Bool.and_eq_true] at hv ⊢
        exact ⟨Tm.varsIn_mono he t hv.1, Tms.varsIn_mono he ts hv.2⟩
end

theorem agrees_of_extends {τ : Nat → Tm} {σ σ' : Asg} (he : Extends σ σ') (h : Agrees τ σ') : Agrees τ σ :=
  fun i t hi => h i t (he i t hi)

mutual
  theorem matchTm_sound : (p t : Tm) → (σ σ' : Asg) → matchTm p t σ = some σ' →
      Extends σ σ' ∧ p.varsIn σ' = true ∧ p.inst σ'.toFun = t
    | .var i, t, σ, σ', h => by
        simp only [matchTm] at h
        cases hg : σ.get i with
        | some u =>
          simp only [hg] at h
          split at h
          · rename_i hu; injection h with h; subst h; subst hu
            exact ⟨Extends.refl _, by simp [Tm.varsIn, hg], by simp [Tm.inst, Asg.toFun, hg]⟩
          · cases h
        | none =>
          simp only [hg] at h
          injection h with h; subst h
          exact ⟨extends_cons hg, by simp [Tm.varsIn, Asg.get], by simp [Tm.inst, Asg.toFun, Asg.get]⟩
    | .app c args, .app c' args', σ, σ', h => by
        simp only [matchTm] at h
        split at h
        · rename_i hc; subst hc
          obtain ⟨h1, h2, h3⟩ := matchTms_sound args args' σ σ' h
          exact ⟨h1, by simp [Tm.varsIn, h2], by simp [Tm.inst, h3]⟩
        · cases h
    | .app _ _, .var _, _, _, h => by simp [matchTm] at h
  theorem matchTms_sound : (ps ts : Tms) → (σ σ' : Asg) → matchTms ps ts σ = some σ' →
      Extends σ σ' ∧ ps.varsIn σ' = true ∧ ps.inst σ'.toFun = ts
    | .nil, .nil, σ, σ', h => by
        simp [matchTms] at h; subst h
        exact ⟨Extends.refl _, by simp [Tms.varsIn], by simp [Tms.inst]⟩
    | .cons p ps, .cons t ts, σ, σ', h => by
        simp only [matchTms] at h
        cases hm : matchTm p t σ with
        | none => simp [hm] at h
        | some σ1 =>
          simp only [hm] at h
          obtain ⟨e1, v1, i1⟩ := matchTm_sound p t σ σ1 hm
          obtain ⟨e2, v2, i2⟩ := matchTms_sound ps ts σ1 σ' h
          refine ⟨e1.trans e2, ?_, ?_⟩
          · simp [Tms.varsIn, Tm.varsIn_mono e2 p v1, v2]
          · have : p.inst σ'.toFun = p.inst σ1.toFun :=
              Tm.inst_congr _ _ σ1 (agrees_of_extends e2 (agrees_toFun σ')) (agrees_toFun σ1) p v1
            simp [Tms.inst, this, i1, i2]
    | .nil, .cons _ _, _, _, h => by simp [matchTms] at h
    | .cons _ _, .nil, _, _, h => by simp [matchTms] at h
end

mutual
  theorem matchTm_complete (τ : Nat → Tm) : (p t : Tm) → (σ : Asg) → Agrees τ σ → p.inst τ = t →
      ∃ σ', matchTm p t σ = some σ' ∧ Agrees τ σ'
    | .var i, t, σ, ha, hi => by
        simp only [Tm.inst] at hi
        simp only [matchTm]
        cases hg : σ.get i with
        | some u =>
          have : τ i = u := ha i u hg
          have hu : u = t := by rw [← this, hi]
          exact ⟨σ, by simp [hu], ha⟩
        | none =>
          refine ⟨(i, t) :: σ, rfl, ?_⟩
          intro j u hj
          simp only [Asg.get] at hj
          by_cases hij : i = j
          · subst hij; simp at hj; rw [← hj, hi]
          · simp [hij] at hj; exact ha j u hj
    | .app c args, t, σ, ha, hi => by
        simp only [Tm.inst] at hi
        subst hi
        simp only [matchTm, if_true]
        exact matchTms_complete τ args _ σ ha rfl
  theorem matchTms_complete (τ : Nat → Tm) : (ps ts : Tms) → (σ : Asg) → Agrees τ σ → ps.inst τ = ts →
      ∃ σ', matchTms ps ts σ = some σ' ∧ Agrees τ σ'
    | .nil, ts, σ, ha, hi => by
        simp only [Tms.inst] at hi; subst hi
        exact ⟨σ, by simp [matchTms], ha⟩
    | .cons p ps, ts, σ, ha, hi => by
        simp only [Tms.inst] at hi; subst hi
        obtain ⟨σ1, h1, a1⟩ := matchTm_complete τ p _ σ ha rfl
        obtain ⟨σ2, h2, a2⟩ := matchTms_complete τ ps _ σ1 a1 rfl
        exact ⟨σ2, by simp [matchTms, h1, h2], a2⟩
end

theorem matchAtom_sound {pat a : Atom} {σ : Asg} (h : matchAtom pat a = some σ) :
    pat.inst σ.toFun = a := by
  unfold matchAtom at h
  split at h
  · rename_i hp
    obtain ⟨_, _, hi⟩ := matchTms_sound pat.args a.args [] σ h
    cases a; cases pat; simp_all [Atom.inst]
  · cases h

theorem matchAtom_complete {pat a : Atom} (τ : Nat → Tm) (h : pat.inst τ = a) :
    ∃ σ, matchAtom pat a = some σ ∧ Agrees τ σ := by
  subst h
  unfold matchAtom
  simp only [Atom.inst, if_true]
  exact matchTms_complete τ pat.args _ [] (agrees_nil τ) rfl

theorem body_inst_eq {τ : Nat → Tm} {σ : Asg} (ha : Agrees τ σ) {body : List Atom}
    (hb : bodyBound σ body = true) {b : Atom} (hm : b ∈ body) : b.inst τ = b.inst σ.toFun := by
  simp only [bodyBound, List.all_eq_true] at hb
  have := hb b hm
  simp [Atom.inst, Tms.inst_congr τ σ.toFun σ ha (agrees_toFun σ) b.args this]

end Chalk.Sem
