/-
  Facts about core `List` operations that several lemma families need.
-/

namespace Chalk

theorem getD_set_eq {α} (l : List α) (i : Nat) (x d : α) (h : i < l.length) :
    (l.set i x).getD i d = x := by
  simp [List.getD_eq_getElem?_getD, h]

theorem getD_set_ne {α} (l : List α) (i j : Nat) (x d : α) (h : i ≠ j) :
    (l.set i x).getD j d = l.getD j d := by
  simp [List.getD_eq_getElem?_getD, h]

theorem getD_append_lt {α} (l : List α) (i : Nat) (x d : α) (h : i < l.length) :
    (l ++ [x]).getD i d = l.getD i d := by
  simp [List.getD_eq_getElem?_getD, List.getElem?_append, h]

theorem getD_append_len {α} (l : List α) (x d : α) :
    (l ++ [x]).getD l.length d = x := by
  simp [List.getD_eq_getElem?_getD]

theorem getD_of_le {α} (l : List α) (i : Nat) (d : α) (h : l.length ≤ i) : l.getD i d = d := by
  simp [List.getD_eq_getElem?_getD, h]

theorem getD_mem {α} (l : List α) (i : Nat) (d : α) (h : i < l.length) : l.getD i d ∈ l := by
  simp [List.getD_eq_getElem?_getD, h]

/-- the measure behind "at most `l.length` strict steps" arguments -/
theorem countP_lt_of {α} {p q : α → Bool} {l : List α} (hpq : ∀ x ∈ l, p x = true → q x = true)
    {x : α} (hx : x ∈ l) (hq : q x = true) (hp : p x = false) : l.countP p < l.countP q := by
  obtain ⟨l₁, l₂, rfl⟩ := List.append_of_mem hx
  have h₁ := List.countP_mono_left (l := l₁) fun y hy => hpq y (List.mem_append_left _ hy)
  have h₂ := List.countP_mono_left (l := l₂) fun y hy =>
    hpq y (List.mem_append_right _ (List.mem_cons_of_mem _ hy))
  simp only [List.countP_append, List.countP_cons, hq, hp, if_true, Bool.false_eq_true, if_false]
  omega

end Chalk
